/-
  Props/C20.lean — C20 "the drawing layout is a faithful planar embedding of the diagram".
  Property theorems; their proofs rest on the lemmas of Proofs/Layout.lean and the other imports.

  What is modelled (Model/Layout.lean): `drawing.diagram2nx` with `make_space` and `add_box`
  (no bubbles), over the core `Diagram` — only the lengths of `dom`, `cod`, of each box's
  `dom`/`cod` and the offsets are read (`Shape`, `shapeOf`).  Horizontal coordinates are exact
  rationals (`Rat`; they are dyadic but NOT multiples of 1/2: see `ex_fine`), heights are
  integers in quarter-units.  `g.nodes` is the `pos` dict, `g.edges` the edges,
  `g.scans[k]` the open wires before box `k` (`g.scans[n]`: after the last box).
  `p.sep 1 a b` means: `a` and `b` are placed and `x a + 1 ≤ x b`; `p.eqx a b`: same `x`;
  `p.le p'`: every `sep g` (`g ≥ 0`) and every `eqx` that holds in `p` holds in `p'`.

  PROVED (every layout clause of the property, at full strength, for every well-typed diagram):
  node census, edges = wiring (against the independent wire follower `follow`), strictly
  increasing open wires at every height (indeed gaps ≥ 1), the loop invariant and its
  preservation by `make_space` + `add_box`, boxes strictly between their neighbours (centre and
  every port, gaps ≥ 1 — so the polygon `draw_box` draws, ports ∓ 1/4 plus at most 1/4 of
  dagger slant, stays clear of the wires), vertical wires, downward edges, no crossing.

  Last clause ("a diagram declared with the function-call syntax (diagramize), using its wires
  in planar order, has the wiring its function body describes"): Model/Diagramize.lean models
  `diagramize`, its inner `apply`, `cat.Box.__call__`, `nx2diagram` and the `networkx.DiGraph`
  operations they use, one-for-one with their error behaviour; a function body is the data its
  run produces (`Body`: the calls in program order with their argument wires and `offset=`, and
  the returned tuple; a wire is a `Node` value).  PROVED: `diagramize_spec` (every body the checker
  `Body.planar` accepts: result well typed, `dom -> cod`, boxes = called boxes in program order,
  offset of each box = the position of its first argument among the wires open at that moment,
  codomain = the returned wires), `planar_sound` (what the checker accepts is planar in the sense
  of the specification `PlanarFrom`; that it accepts every planar body is not proved — the theorem
  over `PlanarFrom` itself is `Proofs/Diagramize.lean`, `diagramize_planar`), and the inverse
  `nx2diagram_diagram2nx` (for every well-typed diagram, given the `offset` attribute on the
  nodes of boxes WITHOUT inputs; without it, `nx2diagram_diagram2nx_raw` for boxes at offset 0,
  and one diagram on which the composite is not the identity, `nx2diagram_needs_offset`).  What the code does outside the hypothesis is recorded as
  theorems about concrete bodies (`ex_nonplanar_accepted`, …): these are NOT claims of C20.

  Back-end clause, the part that is pure list/dict code: Model/Spiders.lean models
  `MatBackend.draw_spiders` (drawing.py:438-453) — which boxes are drawn as spiders, grouped into one
  `nx.draw_networkx_nodes` call per shape, each node with its own colour, and the `ValueError` of
  `zip(*colors.items())` on an empty group.  PROVED for every graph: it never raises, the node lists
  of the calls put together are a permutation of the spiders of the graph (each spider drawn exactly
  once, nothing else), every node is drawn in the call of its own shape, one call per shape, no
  empty call (`draw_spiders_*`).  Tied to /repo by reading the scatter collections the real method
  leaves on the axis (stream `attr_spiders` of the check).

  NOT PROVED / not modelled (oracle only, harness/props/c20.py + harness/attrlib.py): the rest of
  the two back-ends (`MatBackend`, `TikzBackend`, `draw`, `draw_box`, the quantum drawing methods,
  `equation`, `pregroup_draw`: matplotlib / file output), bubbles (`bubble_opening`/`bubble_closing`
  branches of `add_box`).  No theorem here claims them.
-/
import Proofs.LayoutDiagram
import Proofs.Diagramize
import Proofs.Nx2Roundtrip
import Proofs.Spiders

namespace DV.C20
open DV DV.Layout DV.Dz

/-! ### `diagram2nx` on a diagram value -/

/-- `diagram2nx` succeeds on every well-typed diagram and returns the layout of its shape. -/
theorem diagram2nx_total (d : Diagram) (h : d.WF) : diagram2nx d = .ok (layout (shapeOf d)) :=
  diagram2nx_of_wf h

/-- Conversely whatever it returns is that layout, and the shape is in range: ill-typed values
    are refused by the `downgrade()` re-scan before the loop runs. -/
theorem diagram2nx_sound (d : Diagram) (g : Graph) (h : diagram2nx d = .ok g) :
    g = layout (shapeOf d) ∧ (shapeOf d).WF := diagram2nx_ok h

theorem wellTyped_inRange (d : Diagram) (h : d.WF) : (shapeOf d).WF := shapeOf_wf h

/-- The whole layout part of the property for every well-typed diagram (fields of `Faithful`:
    nodes, edges = wiring, open wires increasing, boxes between neighbours, vertical, down). -/
theorem diagram2nx_faithful (d : Diagram) (h : d.WF) :
    ∃ g, diagram2nx d = .ok g ∧ Faithful (shapeOf d) g :=
  ⟨_, diagram2nx_of_wf h, layout_faithful _ (shapeOf_wf h)⟩

/-! ### Node census -/

/-- One node per input, per box, per box port, per output — as a list, in insertion order. -/
theorem nodes_are (sh : Shape) : keys (layout sh).nodes = allNodes sh := layout_keys sh

theorem nodes_count (sh : Shape) :
    (layout sh).nodes.length
      = sh.nIn + (sh.steps.map (fun st => 1 + st.m + st.c)).sum + sh.nOut := by
  have : (layout sh).nodes.length = (keys (layout sh).nodes).length := by simp [keys]
  rw [this, layout_keys]
  simp [allNodes, nodesFrom_length]; omega

/-- "exactly one": no node is placed twice. -/
theorem nodes_distinct (sh : Shape) (h : sh.WF) : (keys (layout sh).nodes).Nodup :=
  layout_nodup sh h

/-! ### Edges reproduce the wiring -/

/-- The edges are exactly: for each box `k`, `follow(…) → dom k i → box k → cod k i`, and
    `follow(…) → output i`, where `follow` walks up the diagram from a type position. -/
theorem edges_reproduce_wiring (sh : Shape) (h : sh.WF) (e : Node × Node) :
    e ∈ (layout sh).edges ↔ Wiring sh e := layout_edges_wiring sh h e

theorem edges_count (sh : Shape) :
    (layout sh).edges.length = (sh.steps.map (fun st => 2 * st.m + st.c)).sum + sh.nOut :=
  layout_edges_length sh

/-- The recorded scans are the open wires: entry `p` at height `k` is the node `follow` finds. -/
theorem scans_are_open_wires (sh : Shape) (h : sh.WF) (k : Nat) (sc : List Node)
    (hsc : (layout sh).scans[k]? = some sc) (p : Nat) (hp : p < sc.length) :
    sc[p]? = some (follow ((sh.steps.take k).reverse) p) := scans_follow sh h k sc hsc p hp

/-! ### The loop invariant -/

/-- Shifting every node with `x ≤ limit` left by `pad ≥ 0` never shrinks a gap
    (so it preserves strict order and equality of coordinates) … -/
theorem shift_left_preserves_order (limit pad : Rat) (hp : 0 ≤ pad) (a b g : Rat) (hg : 0 ≤ g)
    (h : a + g ≤ b) : sl limit pad a + g ≤ sl limit pad b := sl_expanding limit pad hp a b g hg h

/-- … and so does shifting every node with `x ≥ limit` right. -/
theorem shift_right_preserves_order (limit pad : Rat) (hp : 0 ≤ pad) (a b g : Rat) (hg : 0 ≤ g)
    (h : a + g ≤ b) : sr limit pad a + g ≤ sr limit pad b := sr_expanding limit pad hp a b g hg h

/-- `make_space` is one such map applied to the whole `pos` dict. -/
theorem make_space_is_expanding_map (p : Pos) (scan : List Node) (st : Step)
    (has : ∀ v ∈ scan, ∃ x, p.x? v = some x) :
    spacePos p scan st = p.mapX (stepG p scan st) ∧ Expanding (stepG p scan st) :=
  ⟨spacePos_eq has, stepG_expanding p scan st⟩

/-- `scan_strictly_increasing`, as a loop invariant: if the open wires are placed, pairwise at
    least one unit apart in scan order, and the keys are unique and old (`Inv`), then after
    `make_space` + `add_box` for an in-range box the same holds for the new scan. -/
theorem scan_strictly_increasing_preserved (n : Nat) (p : Pos) (scan : List Node) (depth : Nat)
    (st : Step) (h : Inv p scan depth) (hin : st.off + st.m ≤ scan.length) :
    Inv (stepPos n p scan depth st) (nextScan scan st depth) (depth + 1) := step_inv n h hin

/-- The invariant holds initially (inputs at `x = 0, 1, 2, …`). -/
theorem scan_strictly_increasing_init (nIn n : Nat) :
    Inv (initSt nIn n).pos (initSt nIn n).scan 0 := init_inv nIn n

/-- One iteration keeps every gap and every vertical alignment of the `pos` dict it started from
    (`Pos.le`, a preorder): so no later iteration undoes what an earlier one established. -/
theorem later_steps_preserve_facts (n : Nat) (p : Pos) (scan : List Node) (depth : Nat)
    (st : Step) (h : Inv p scan depth) : p.le (stepPos n p scan depth st) := step_le n h

/-! ### The clauses of the property, on the returned graph -/

/-- At every height the open wires appear in strictly increasing horizontal order. -/
theorem scan_strictly_increasing (sh : Shape) (h : sh.WF) :
    ∀ s ∈ (layout sh).scans, s.Pairwise ((layout sh).Left) := fun s hs =>
  (layout_scans_sorted sh h s hs).imp left_of_sep

/-- Stronger: they are at least one unit apart. -/
theorem scan_gap_ge_one (sh : Shape) (h : sh.WF) :
    ∀ s ∈ (layout sh).scans, s.Pairwise ((layout sh).nodes.sep 1) := layout_scans_sorted sh h

/-- Every box — its centre and each of its ports — sits strictly between the wires to its left
    and the wires to its right at its height (at least one unit from each), its offset is in
    range, and each consumed wire enters its port vertically. -/
theorem box_between_neighbours (sh : Shape) (h : sh.WF) (k : Nat) (st : Step) (sc : List Node)
    (hst : sh.steps[k]? = some st) (hsc : (layout sh).scans[k]? = some sc) :
    st.off + st.m ≤ sc.length
    ∧ (∀ a ∈ sc.take st.off, ∀ v ∈ stepNodes st k, (layout sh).nodes.sep 1 a v)
    ∧ (∀ b ∈ sc.drop (st.off + st.m), ∀ v ∈ stepNodes st k, (layout sh).nodes.sep 1 v b)
    ∧ (∀ i, i < st.m → (layout sh).nodes.eqx (sc.getD (st.off + i) default) (domNode k i)) :=
  have ⟨hin, hf⟩ := layout_box_between sh h k st sc hst hsc
  ⟨hin, hf.left, hf.right, hf.vertical⟩

/-- Wires between boxes (edges into a domain port or an output) are vertical. -/
theorem dom_wires_vertical (sh : Shape) (h : sh.WF) :
    ∀ e ∈ (layout sh).edges, (e.2.kind = .dom ∨ e.2.kind = .output) →
      (layout sh).nodes.eqx e.1 e.2 := layout_wires_vertical sh h

/-- Every edge points downwards. -/
theorem edges_point_down (sh : Shape) (h : sh.WF) :
    ∀ e ∈ (layout sh).edges, ∃ ya yb, (layout sh).nodes.y? e.1 = some ya
      ∧ (layout sh).nodes.y? e.2 = some yb ∧ yb < ya := layout_edges_down sh h

/-- Hence no two wires cross: two different wires open at the same height are vertical
    segments at least one unit apart. -/
theorem no_crossing (sh : Shape) (h : sh.WF) :
    ∀ s ∈ (layout sh).scans, ∀ a ∈ s, ∀ b ∈ s, a ≠ b →
      (layout sh).nodes.sep 1 a b ∨ (layout sh).nodes.sep 1 b a := by
  intro s hs a ha b hb hab
  have hp := List.pairwise_iff_getElem.mp (layout_scans_sorted sh h s hs)
  obtain ⟨i, hi, rfl⟩ := List.mem_iff_getElem.mp ha
  obtain ⟨j, hj, rfl⟩ := List.mem_iff_getElem.mp hb
  rcases Nat.lt_trichotomy i j with hij | hij | hij
  · exact Or.inl (hp i j hi hj hij)
  · subst hij; exact absurd rfl hab
  · exact Or.inr (hp j i hj hi hij)

/-- The part of `nx2diagram`'s inverse that concerns the layout: the offset of a box with an
    input is the index of its first wire among the open wires (which are pairwise distinct):
    what `nx2diagram` computes with `scan.index(wire)`, drawing.py:224-227. -/
theorem offset_recoverable (sh : Shape) (h : sh.WF) (k : Nat) (st : Step) (sc : List Node)
    (hst : sh.steps[k]? = some st) (hsc : (layout sh).scans[k]? = some sc) (hm : 0 < st.m) :
    sc.idxOf (follow ((sh.steps.take k).reverse) st.off) = st.off := by
  have hin := (layout_box_between sh h k st sc hst hsc).1
  have hl : st.off < sc.length := by omega
  have hf := scans_follow sh h k sc hsc st.off hl
  rw [List.getElem?_eq_getElem hl] at hf
  rw [← Option.some.inj hf]
  exact (layout_scans_nodup sh h sc (List.mem_of_getElem? hsc)).idxOf_getElem _ hl

/-! ### Non-vacuity: concrete diagrams -/

/-- `f @ Id(x @ x) >> g @ Id(x) >> g` with `f, g : x @ x → x`: three merges. -/
def exMerge : Shape := ⟨4, [⟨2, 1, 0⟩, ⟨2, 1, 0⟩, ⟨2, 1, 0⟩], 1⟩

/-- `Id(x) @ s @ Id(x)` with a state `s : 1 → x @ x @ x` between two wires one unit apart:
    `make_space` has to push both neighbours away. -/
def exWide : Shape := ⟨2, [⟨0, 3, 1⟩], 5⟩

/-- A scalar, an effect, a swap-like `2 → 2` box and a state on three wires. -/
def exMixed : Shape := ⟨3, [⟨0, 0, 1⟩, ⟨1, 0, 0⟩, ⟨2, 2, 0⟩, ⟨0, 2, 2⟩], 4⟩

example : exMerge.WF := by decide
example : exWide.WF := by decide
example : exMixed.WF := by decide
/-- out-of-range offset: not a shape the theorems speak about -/
example : ¬ (⟨1, [⟨0, 0, 5⟩], 1⟩ : Shape).WF := by decide

/-- Coordinates are not multiples of one half: the third box of `exMerge` sits at `17/8`. -/
theorem ex_fine : (layout exMerge).nodes.x? (boxNode 2) = some (17 / 8 : Rat) := by
  decide +kernel

/-- `exWide`: the two inputs end up at `-3/2` and `5/2`, the state at `1/2`, its ports at
    `-1/2, 1/2, 3/2`: every gap is at least 1. -/
theorem ex_wide_positions :
    (keys (layout exWide).nodes).map ((layout exWide).nodes.x?) =
      [some (-3/2), some (5/2), some (1/2), some (-1/2), some (1/2), some (3/2),
       some (-3/2), some (-1/2), some (1/2), some (3/2), some (5/2)] := by
  decide +kernel

example : (layout exWide).scans =
    [[inputNode 0, inputNode 1],
     [inputNode 0, codNode 0 0, codNode 0 1, codNode 0 2, inputNode 1]] := by decide

/-- The initial invariant is about a real state: 3 placed inputs one unit apart. -/
example : (initSt 3 2).scan.length = 3 ∧ (initSt 3 2).pos.x? (inputNode 2) = some 2 := by
  decide +kernel

/-- `exMixed` has 4 boxes, 5 scans, 18 nodes and 14 edges — none of the quantifiers above
    ranges over an empty set. -/
example : (layout exMixed).scans.length = 5 ∧ (layout exMixed).nodes.length = 18
    ∧ (layout exMixed).edges.length = 14 := by decide +kernel

/-- A diagram value: `f : a ⊗ a → a` on the left of a wire, read through `shapeOf`. -/
def exDiagram : Diagram :=
  let a : Ob := ⟨"a", 0⟩
  let f : Box := { name := "f", dom := [a, a], cod := [a] }
  ⟨[a, a, a], [a, a], [f], [0], ⟨[a, a, a], [a, a], [⟨[], f, [a]⟩]⟩⟩

example : shapeOf exDiagram = ⟨3, [⟨2, 1, 0⟩], 2⟩ := by decide
example : (shapeOf exDiagram).WF := by decide

/-! ### `diagramize`: the function-call syntax -/

/-- The checker `Body.planar` is sound: it returns `offs` only if the body
    uses its wires in planar order — call `k` (a box of the signature, arguments of the box's
    domain types) takes the contiguous block at position `offs[k]` of the wires open at that
    moment, in order, a call without arguments naming its position with `offset=`; the wires
    left open at the end are exactly the returned tuple; and they have the declared types. -/
theorem planar_sound (sig : List Box) (dom cod : Ty) (body : Body) (offs : List Nat)
    (h : body.planar sig dom cod = some offs) :
    PlanarFrom sig (inputNodes dom) 0 body.calls offs body.ret
      ∧ body.ret.map GNode.obj? = cod.map some := by
  unfold Body.planar at h
  split at h
  · rename_i hc; exact ⟨planarOffsets_sound sig _ _ _ _ _ h, hc⟩
  · cases h

/-- A diagram declared with the function-call syntax, using its wires in planar order, has the
    wiring its function body describes: `diagramize` succeeds, the result is well typed from `dom`
    to `cod`, its boxes are the called boxes in program order, box `k` sits at `offs[k]` — the
    block of the then-open wires that the body passed as arguments, i.e. the position of its
    first argument among them — and its outputs are exactly the returned wires. -/
theorem diagramize_spec (sig : List Box) (hasId : Bool) (dom cod : Ty) (body : Body)
    (offs : List Nat) (hid : hasId = true ∨ sig ≠ [])
    (hp : body.planar sig dom cod = some offs) :
    ∃ d, diagramize sig hasId dom cod body = .ok d ∧ d.WF ∧ d.dom = dom ∧ d.cod = cod
      ∧ d.boxes = body.calls.map (·.box)
      ∧ d.offsets = offs.map (fun (o : Nat) => (o : Int))
      ∧ (∀ (k : Nat) (c : Call) (off : Nat), body.calls[k]? = some c → offs[k]? = some off →
          ((openBefore (inputNodes dom) 0 body.calls offs k).drop off).take c.inputs.length
              = c.inputs
            ∧ ∀ w, c.inputs[0]? = some w →
                (openBefore (inputNodes dom) 0 body.calls offs k).idxOf w = off)
      ∧ openBefore (inputNodes dom) 0 body.calls offs body.calls.length = body.ret
      ∧ body.ret.map GNode.obj? = d.cod.map some := by
  obtain ⟨hpf, hc⟩ := planar_sound sig dom cod body offs hp
  obtain ⟨d, h1, h2, h3, h4, h5, h6⟩ := diagramize_planar hid hpf hc
  obtain ⟨h7, h8⟩ := planarFrom_openBefore sig body.calls _ 0 offs body.ret hpf
  exact ⟨d, h1, h2, h3, h4, h5, h6,
    fun k c off hk ho => ⟨(h7 k c off hk ho).block, fun w hw => planar_first_arg_index hpf hk ho hw⟩,
    h8, by rw [h4]; exact hc⟩

/-! ### `nx2diagram` inverts `diagram2nx` -/

/-- `nx2diagram(diagram2nx(d)) = d` (all five fields) for every well-typed `d`, once the node of
    every box WITHOUT inputs carries the box's offset as its `offset` attribute; nodes of boxes
    with inputs may carry anything or nothing. -/
theorem nx2diagram_diagram2nx (d : Diagram) (h : d.WF) (attr : Nat → OffAttr)
    (hattr : ∀ k b o, d.boxes[k]? = some b → d.offsets[k]? = some o → b.dom = [] →
      (attr k).get = some o) : roundTrip d attr = .ok d := roundTrip_ok h attr hattr

/-- `diagram2nx` sets no such attribute (`getattr(box_node, "offset", 0)` reads 0): the raw
    composite is the identity on diagrams whose input-less boxes all sit at offset 0 … -/
theorem nx2diagram_diagram2nx_raw (d : Diagram) (h : d.WF)
    (h0 : ∀ (k : Nat) (b : Box) (o : Int), d.boxes[k]? = some b → d.offsets[k]? = some o →
      b.dom = [] → o = 0) :
    roundTrip d (fun _ => .absent) = .ok d :=
  roundTrip_ok h _ (fun k b o hb ho hd => by rw [h0 k b o hb ho hd]; rfl)

/-- `Id(a) @ s` with a state `s : 1 → a`. -/
def exState : Diagram :=
  let a : Ob := ⟨"a", 0⟩
  let s : Box := { name := "s", dom := [], cod := [a] }
  ⟨[a], [a, a], [s], [1], ⟨[a], [a, a], [⟨[a], s, []⟩]⟩⟩

/-- `s @ Id(a)`. -/
def exStateLeft : Diagram :=
  let a : Ob := ⟨"a", 0⟩
  let s : Box := { name := "s", dom := [], cod := [a] }
  ⟨[a], [a, a], [s], [0], ⟨[a], [a, a], [⟨[], s, [a]⟩]⟩⟩

/-- … and it is not the identity on all others: for `Id(a) @ s` it silently returns
    `s @ Id(a)` (documented in `nx2diagram`'s docstring: "Box nodes with no inputs need an offset
    attribute"). -/
theorem nx2diagram_needs_offset :
    roundTrip exState (fun _ => .absent) = .ok exStateLeft ∧ exStateLeft ≠ exState
    ∧ roundTrip exState (fun _ => .int 1) = .ok exState := by decide +kernel

/-! ### Non-vacuity and the behaviour outside the hypothesis -/

def obX : Ob := ⟨"x", 0⟩
def obXr : Ob := ⟨"x", 1⟩
def boxCup : Box := Box.cup obX obXr
def boxCap : Box := Box.cap obXr obX
def boxF : Box := { name := "f", dom := [obX, obX], cod := [obX] }
def boxS : Box := { name := "s", dom := [], cod := [obX] }

/-- The docstring example of `diagramize`:
    `def snake(left): middle, right = cap(offset=1); cup(left, middle); return right`. -/
def snakeBody : Body :=
  ⟨[⟨boxCap, [], some 1⟩, ⟨boxCup, [.input obX 0, .cod obXr 0 0], none⟩], [.cod obX 1 0]⟩

example : snakeBody.planar [boxCup, boxCap] [obX] [obX] = some [1, 0] := by decide +kernel

/-- The snake: `Id(x) @ Cap(x.r, x) >> Cup(x, x.r) @ Id(x)`. -/
theorem ex_snake : diagramize [boxCup, boxCap] false [obX] [obX] snakeBody
    = .ok ⟨[obX], [obX], [boxCap, boxCup], [1, 0],
        ⟨[obX], [obX], [⟨[obX], boxCap, []⟩, ⟨[], boxCup, [obX]⟩]⟩⟩ := by decide +kernel

/-- The open wires before each call of the snake and at the end. -/
example : openBefore (inputNodes [obX]) 0 snakeBody.calls [1, 0] 1
    = [.input obX 0, .cod obXr 0 0, .cod obX 1 0] := by decide +kernel
example : openBefore (inputNodes [obX]) 0 snakeBody.calls [1, 0] 2 = snakeBody.ret := by
  decide +kernel

/-- `def g(a, b, c): return f(a, c), b` — NOT planar (the arguments are not adjacent open wires)
    and all wires have the same type: `nx2diagram` only looks up the FIRST argument
    (drawing.py:226-227), so `diagramize` silently returns `f @ Id(x)`, i.e. `f(a, b), c`. -/
theorem ex_nonplanar_accepted :
    (⟨[⟨boxF, [.input obX 0, .input obX 2], none⟩], [.cod obX 0 0, .input obX 1]⟩ : Body).planar
        [boxF] [obX, obX, obX] [obX, obX] = none
    ∧ diagramize [boxF] false [obX, obX, obX] [obX, obX]
        ⟨[⟨boxF, [.input obX 0, .input obX 2], none⟩], [.cod obX 0 0, .input obX 1]⟩
      = .ok ⟨[obX, obX, obX], [obX, obX], [boxF], [0],
          ⟨[obX, obX, obX], [obX, obX], [⟨[], boxF, [obX]⟩]⟩⟩ := by decide +kernel

/-- `def g(a, b): return b, a` — the returned tuple is only type-checked position by position
    (drawing.py:887-892, 896): a permutation of equally typed wires returns the identity. -/
theorem ex_swap_accepted :
    diagramize [boxF] false [obX, obX] [obX, obX] ⟨[], [.input obX 1, .input obX 0]⟩
      = .ok (Diagram.id [obX, obX]) := by decide +kernel

/-- A wire used twice (`f(a, b)` and again `f(a, b)`): `scan.index(wire)` fails, `ValueError`. -/
theorem ex_used_twice :
    diagramize [boxF] false [obX, obX] [obX, obX]
      ⟨[⟨boxF, [.input obX 0, .input obX 1], none⟩, ⟨boxF, [.input obX 0, .input obX 1], none⟩],
       [.cod obX 0 0, .cod obX 0 1]⟩ = .error (.base .value) := by decide +kernel

/-- An unused wire (`def g(a, b, c): return f(a, b)`): the final `result.cod != cod` check,
    `AxiomError`. -/
theorem ex_unused_wire :
    diagramize [boxF] false [obX, obX, obX] [obX]
      ⟨[⟨boxF, [.input obX 0, .input obX 1], none⟩], [.cod obX 0 0]⟩
      = .error (.base .axiom) := by decide +kernel

/-- A call without arguments and without `offset=`: `None + …`, `TypeError`. -/
theorem ex_missing_offset :
    diagramize [boxS] false [obX] [obX, obX] ⟨[⟨boxS, [], none⟩], [.input obX 0, .cod obX 0 0]⟩
      = .error (.base .type) := by decide +kernel

/-- `offset=5` with one open wire is clamped by the slices (drawing.py:233-234): accepted, the
    state lands at offset 1. -/
theorem ex_offset_clamped :
    diagramize [boxS] false [obX] [obX, obX]
      ⟨[⟨boxS, [], some 5⟩], [.input obX 0, .cod obX 0 0]⟩
      = .ok ⟨[obX], [obX, obX], [boxS], [1], ⟨[obX], [obX, obX], [⟨[obX], boxS, []⟩]⟩⟩ := by
  decide +kernel

/-- A fabricated parameter node (`f(a, Node("input", obj=x, i=7))`) becomes a second input of the
    RESULT: declared `dom = x`, returned diagram `f : x ⊗ x → x` (nothing checks `result.dom`). -/
theorem ex_fabricated_input :
    diagramize [boxF] false [obX] [obX]
      ⟨[⟨boxF, [.input obX 0, .input obX 7], none⟩], [.cod obX 0 0]⟩
      = .ok ⟨[obX, obX], [obX], [boxF], [0], ⟨[obX, obX], [obX], [⟨[], boxF, []⟩]⟩⟩ := by
  decide +kernel

/-- The hypotheses of `nx2diagram_diagram2nx` are met by a concrete diagram with an input-less
    box away from offset 0. -/
example : exState.WF := ⟨rfl, rfl, rfl, rfl, by simp [exState, LArrow.WF, Chain, Layer.dom, Layer.cod]⟩

/-! ### `MatBackend.draw_spiders` (Model/Spiders.lean): every spider is drawn exactly once -/

section Spiders
open DV.Spiders

/-- `MatBackend.draw_spiders` raises on no graph (in particular `zip(*colors.items())` never sees an
    empty dict), and the calls of `nx.draw_networkx_nodes` it makes are `calls g`. -/
theorem draw_spiders_never_raises (g : List BoxNode) : matSpiders g = .ok (calls g) :=
  matSpiders_eq g

/-- The node lists of the calls, put together, are a permutation of the boxes of the graph with
    `draw_as_spider`: each spider is drawn exactly once, and nothing else is. -/
theorem draw_spiders_each_spider_once (g : List BoxNode) :
    ((calls g).flatMap (fun c => c.nodelist)).Perm (spiderNodes g) := by
  unfold calls
  rw [List.flatMap_map]
  have h := flatMap_groups_perm (spiderNodes g) (shapesOf (spiderNodes g)) (nodup_pySet _)
  rwa [List.filter_eq_self.mpr fun n hn => by
    simpa using mem_shapesOf.mpr ⟨n, hn, rfl⟩] at h

/-- Every node is drawn in the call of its own shape (with its own colour: `node_color` is read off
    the nodes of `nodelist`), it is a spider, and it is a node of the graph. -/
theorem draw_spiders_own_shape (g : List BoxNode) (c : Spiders.Call) (hc : c ∈ calls g) (n : BoxNode)
    (hn : n ∈ c.nodelist) : n.shape = c.shape ∧ n.spider = true ∧ n ∈ g := by
  obtain ⟨s, _, rfl⟩ := List.mem_map.mp hc
  simp only [colorsOf, spiderNodes, List.mem_filter, beq_iff_eq] at hn
  exact ⟨hn.2, hn.1.2, hn.1.1⟩

/-- One call per shape. -/
theorem draw_spiders_one_call_per_shape (g : List BoxNode) :
    ((calls g).map (fun c => c.shape)).Nodup := by
  unfold calls
  rw [List.map_map, show ((fun c : Spiders.Call => c.shape)
    ∘ fun s => (⟨s, colorsOf (spiderNodes g) s⟩ : Spiders.Call)) = id from rfl, List.map_id]
  exact nodup_pySet _

/-- No call has an empty node list. -/
theorem draw_spiders_no_empty_call (g : List BoxNode) (c : Spiders.Call) (hc : c ∈ calls g) :
    c.nodelist ≠ [] := by
  obtain ⟨s, hs, rfl⟩ := List.mem_map.mp hc
  exact colorsOf_ne_nil hs

/-- A Z spider, a Hadamard (the "rectangle" shape), a plain box and an X spider: two calls. -/
example :
    matSpiders [⟨0, true, .circle, .green⟩, ⟨1, true, .rectangle, .yellow⟩,
                ⟨2, false, .circle, .white⟩, ⟨3, true, .circle, .red⟩]
      = .ok [⟨.rectangle, [⟨1, true, .rectangle, .yellow⟩]⟩,
             ⟨.circle, [⟨0, true, .circle, .green⟩, ⟨3, true, .circle, .red⟩]⟩] := by decide

end Spiders

end DV.C20
