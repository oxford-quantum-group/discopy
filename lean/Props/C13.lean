/-
  Props/C13.lean — C13 "Translation to and from tket preserves the meaning of circuits".
  Property theorems only; proofs in Proofs/Tk*.lean; model in Model/Tk.lean (transcription of
  discopy/quantum/tk.py `to_tk` as it is) and Model/TkSpec.lean (the wire-id specification).

  PARTIAL.  What is proved, for every circuit (any width, any depth, any placement of
  preparations, measurements, post-selections, swaps, classical boxes):

    `to_tk_refines_partial` — if no layer violates one of the excluding conditions of
    `Tk.violation` and the export succeeds, then the exported commands are exactly the commands
    of the specification `canon` (each gate on the ids of its input wires, ids fresh at creation)
    under an injective naming of qubit ids by qubit units and of bit ids by bit units; the
    post-selection is the image of the specified one; and the post-processing, fed with the
    non-post-selected bit units in increasing order (how tk.Circuit.get_counts reads a bitstring),
    applies the specified classical boxes to the specified values and delivers the diagram's bit
    wires in the diagram's order.  This is the clause "a qubit index shifted by a mid-circuit
    preparation" for all circuits of the fragment.

    `to_tk_register_lists` — the invariants of the two Python lists `qubits` and `bits`;
    `to_tk_commands_on_units` — every exported command acts on units of the exported circuit.

    `to_tk_keeps_post_selections` — for EVERY circuit, inside or outside the fragment: a successful
    export has exactly one post-selected bit per post-selected qubit (`Bra` bit) of the circuit,
    under distinct keys that are bits of the exported circuit.  The renamings of
    `tk.Circuit.rename_units` (tk.py:73-84: the shift of `prepare_bits`, the transposition of a
    bit swap) never lose or merge an entry, because all old keys are deleted before the new ones
    are written; `chain_shift_keeps_both` is the instance 1 -> 2, 2 -> 3 (in the region of F23),
    `chain_shift_inside` one inside the fragment.

  What is NOT true of the code and therefore not claimed (`Tk.ToTkRefines`, `Tk.ToTkTotal` are the
  full statements, kept as `Prop`s; their negations are theorems below): outside the fragment the
  export is wrong.  Every remaining excluding condition has a concrete counter-witness here, and
  each is a known finding on /repo reproduced by harness/props/c13.py:
    bits_left_of_bit (F23), discard_bit (F24), stale_bits (F25: the export raises, or silently
    reads the wrong register), override_after_pp (F27: specification undefined, the wire to
    overwrite is not a register).
  A `Measure` left of a bit wire (F11), a destructive override `Measure` (F26) and a bit swap while
  bit 0 is post-selected (F28) are inside the fragment: these findings are fixed in /repo, the
  model transcribes the fixed code (`exF11`, `exF26`, `exF28` at the end).
  The conditions are sufficient, not necessary: e.g. Bits(0) next to another never-written
  register is excluded although exchanging two blank registers is harmless.

  The import `from_tk` is modelled one-for-one (Model/TkFrom.lean: the position model of
  `make_units_adjacent`; Model/TkImport.lean: the whole function on circuit descriptions, with its
  error behaviour) and compared with the code on every run.  Proved about it, for every width and
  every command list:

    `from_tk_adjacent`, `from_tk_adjacent_restores` — the swaps built for a gate on two different
    units bring the two units, in order, to the returned offset, and the reversed swaps restore the
    wire order (`from_tk_adjacent_upto6`: the same as a decided table for up to 6 wires); `from_tk_typed_swaps` — the
    typed transcription builds exactly those swaps.
    `from_tk_well_typed` — whenever the import returns a circuit, it is a well-typed chain from the
    empty type to the codomain of the post-processing.
    `from_tk_gates_on_named_units` — following wire identities through the imported circuit gives
    the command list of the tket circuit: every gate acts on the ids of the units it names, a tket
    SWAP exchanges two ids, every measurement into a bit that is not post-selected writes the bit
    wire `n_qubits + (rank of the bit among the non-post-selected bits)`, measurements into
    post-selected bits become `Bra`s on the measured position; `from_tk_bits_in_order` — before the
    post-processing the bit wires leave in the order of the non-post-selected bits.
    These have the hypothesis `importable`: supported one- and two-qubit ops on existing, different
    qubits, parameters on the lattice of multiples of 1/8, measured bits of rank below `n_bits`;
    `from_tk_importable` — it holds for every `wellFormed` input (measurements of existing qubits
    into existing bits, post-selection keys distinct bits of the circuit).
    `from_tk_total` — on such an input whose post-processing has `n_bits` inputs the import returns
    a circuit; `from_tk_import_partial` puts these together for a well-formed input.
    `make_units_adjacent` is wrong for three units (`from_tk_adjacent_three_units`), which no
    supported op has.
    `from_tk_postselection_deferred` — a decided witness of finding F33: the `Bra` of a post-selected
    measurement comes after a gate that tket applies after the measurement.

  NOT proved: `Tk.FromToRoundTrip` (importing the export of a circuit of the fragment gives the same
  canonical wire-id command list) is stated in Model/TkImport.lean and kept as a `Prop`;
  `round_trip_example` is one instance, the check evaluates it on every generated export.
  Meaning (that the boxes compute what the tket ops compute, that a deferred post-selection is
  harmless when `psFinal` holds) is not in the model: it rests on the oracle of the check.
  Not modelled: pytket's own renaming, command order and op semantics, `Circuit.upgrade`, the
  backend path — these rest on the oracle of the check.
-/
import Proofs.TkWitness
import Proofs.TkImportRank
import Proofs.TkPsCount

namespace DV.C13
open DV DV.Tk

/-- Refinement to wire identities, inside the fragment. -/
theorem to_tk_refines_partial (c : Circ) (st : St) (hclean : c.clean = true) (h : toTk c = .ok st) :
    ∃ sp ρq ρb dreg, canon c = .ok sp ∧ Refines sp st ρq ρb dreg := by
  obtain ⟨sp, ρq, ρb, dreg, e, inv⟩ := Tk.toTk_inv hclean h
  exact ⟨sp, ρq, ρb, dreg, e, inv.ref⟩

/-- `qubits` is strictly increasing (duplicate-free), has the length of the current qubit wire
    count, its entries are units of the circuit; before any classical box `bits` likewise. -/
theorem to_tk_register_lists (c : Circ) (st : St) (hclean : c.clean = true) (h : toTk c = .ok st) :
    ∃ sp, canon c = .ok sp ∧ st.qubits.Pairwise (· < ·) ∧ st.qubits.length = sp.qw.length ∧
      (∀ r ∈ st.qubits, r < st.nq) ∧ (∀ r ∈ st.bits, r < st.nb) ∧
      (st.pp.layers = [] → st.bits.Pairwise (· < ·) ∧ st.bits.length = sp.bw.length) := by
  obtain ⟨sp, ρq, ρb, dreg, e, inv⟩ := Tk.toTk_inv hclean h
  refine ⟨sp, e, inv.qsorted, by rw [inv.ref.qubits]; simp, inv.qubits_lt, inv.bits_lt, fun hl => ?_⟩
  obtain ⟨hb, _, _, hlen⟩ := inv.raw_wires hl
  exact ⟨hb ▸ inv.ref.readout.1, by rw [hb, hlen]⟩

/-- Every emitted command acts on existing units. -/
theorem to_tk_commands_on_units (c : Circ) (st : St) (hclean : c.clean = true) (h : toTk c = .ok st) :
    ∀ cmd ∈ st.cmds, (∀ q ∈ cmd.qs, q < st.nq) ∧ (∀ b ∈ cmd.bs, b < st.nb) := by
  obtain ⟨sp, ρq, ρb, dreg, e, inv⟩ := Tk.toTk_inv hclean h
  intro cmd hcmd
  rw [inv.ref.cmds] at hcmd
  obtain ⟨c0, hc0, rfl⟩ := List.mem_map.mp hcmd
  obtain ⟨h1, h2⟩ := inv.cmd_ids c0 hc0
  constructor
  · intro q hq
    obtain ⟨a, ha, rfl⟩ := List.mem_map.mp hq
    exact inv.ref.injq.1 a (h1 a ha)
  · intro b hb
    obtain ⟨a, ha, rfl⟩ := List.mem_map.mp hb
    exact inv.ref.injb.1 a (h2 a ha)

/-- **No post-selection is lost**, for every circuit (no `clean` hypothesis): the exported
    `post_selection` has one entry per `Bra` bit of the circuit, its keys are distinct and they are
    bits of the exported circuit. -/
theorem to_tk_keeps_post_selections (c : Circ) (st : St) (h : toTk c = .ok st) :
    st.ps.length = braBits c.layers ∧ (st.ps.map (·.1)).Nodup ∧ ∀ e ∈ st.ps, e.1 < st.nb :=
  Tk.toTk_ps_count h

/-- `Bits(0) @ Ket(1, 0) >> Id(bit) @ Bra(1, 0) >> Bits(0) @ Id(bit)` (region of F23): the two
    post-selected bits 1, 2 are shifted to 2, 3 — the new index of the first is the old index of
    the second — and both survive with their values. -/
theorem chain_shift_keeps_both :
    (⟨[], [(.bits [0] false, 0), (.ket [1, 0], 1), (.bra [1, 0], 1), (.bits [0] false, 0)]⟩ : Circ).firstViolation
        = some ("bits_left_of_bit", 4) ∧
      (toTk ⟨[], [(.bits [0] false, 0), (.ket [1, 0], 1), (.bra [1, 0], 1), (.bits [0] false, 0)]⟩).map (·.ps)
        = .ok [(2, 1), (3, 0)] := by decide +kernel

/-- `Ket(1, 0) @ Bits(0) >> Bra(1, 0) @ Id(bit) >> Id(bit) @ Bits(0)`: the same shift inside the fragment. -/
theorem chain_shift_inside :
    (⟨[], [(.ket [1, 0], 0), (.bits [0] false, 2), (.bra [1, 0], 0), (.bits [0] false, 1)]⟩ : Circ).clean = true ∧
      (toTk ⟨[], [(.ket [1, 0], 0), (.bits [0] false, 2), (.bra [1, 0], 0), (.bits [0] false, 1)]⟩).map (·.ps)
        = .ok [(2, 1), (3, 0)] := by decide +kernel

/-- The hypotheses of `to_tk_keeps_post_selections` are met by a circuit with two post-selected
    qubits made at different times, measured bits in between and a shift by two. -/
example : ∃ st, toTk ⟨[], [(.ket [1, 1, 0, 1], 0), (.measure 1 true false, 0), (.bra [1], 1),
      (.measure 1 true false, 1), (.bra [1], 2), (.bits [0, 0] false, 0)]⟩ = .ok st ∧ st.ps.length = 2 ∧ st.nb = 6 := by
  refine ⟨_, rfl, ?_, ?_⟩ <;> decide

/-- The full statement is false for the code as it is … -/
theorem to_tk_refines_fails : ¬ Tk.ToTkRefines := fun h =>
  let ⟨st, hst, hn⟩ := Tk.wBits_not_refined
  hn (h wBits st hst)

/-- … and so is totality: the export raises on a circuit whose specification is defined. -/
theorem to_tk_total_fails : ¬ Tk.ToTkTotal := by
  intro h
  obtain ⟨sp, hsp⟩ := Tk.wStale_canon
  obtain ⟨st, hst⟩ := h wStale sp hsp
  rw [Tk.wStale_toTk] at hst
  cases hst

/-- `Ket(1) >> Measure() >> Bits(0) @ Id(bit)`. -/
theorem bits_left_of_bit_not_refined :
    wBits.firstViolation = some ("bits_left_of_bit", 3) ∧ NotRefined wBits :=
  ⟨by decide +kernel, Tk.wBits_not_refined⟩

/-- `Ket(1, 0) >> Measure(2) >> Discard(bit) @ Id(bit)`. -/
theorem discard_bit_not_refined :
    wDiscard.firstViolation = some ("discard_bit", 3) ∧ NotRefined wDiscard :=
  ⟨by decide +kernel, Tk.wDiscard_not_refined⟩

/-- `Bits(0) >> FAN >> Id(bit @ bit) @ Bits(0)`: the export raises (IndexError). -/
theorem stale_bits_export_raises :
    toTk wStale = .error .index ∧ ∃ sp, canon wStale = .ok sp :=
  ⟨Tk.wStale_toTk, Tk.wStale_canon⟩

/-- `Ket(1, 0) >> Measure(2) >> XOR >> Id(bit) @ Bits(0)`: the classical gate reads the wrong register. -/
theorem stale_bits_not_refined :
    wStaleOrder.firstViolation = some ("stale_bits", 4) ∧ NotRefined wStaleOrder :=
  ⟨by decide +kernel, Tk.wStaleOrder_not_refined⟩

/-- Override after classical post-processing: exported, but the specification has no register
    for the wire that is overwritten. -/
theorem override_after_pp_unspecified :
    wOverridePP.firstViolation = some ("override_after_pp", 7) ∧ (∃ st, toTk wOverridePP = .ok st) ∧
      canon wOverridePP = .error .notImpl :=
  ⟨by decide +kernel, exists_of_isOk (by decide +kernel), by decide +kernel⟩

/-! ### from_tk (Model/TkFrom.lean, Model/TkImport.lean) -/

/-- **make_units_adjacent, every width**: for a gate on two different units `a`, `b` of an
    `n`-wire circuit the swaps bring wire `a` to the returned offset and wire `b` right after it. -/
theorem from_tk_adjacent (n a b : Nat) (ha : a < n) (hb : b < n) (hab : a ≠ b) :
    ((arrangement n (makeUnitsAdjacent [a, b]).2).drop (makeUnitsAdjacent [a, b]).1).take 2 = [a, b] :=
  Tk.makeUnitsAdjacent_adjacent n a b ha hb hab

/-- … every swap lies inside the circuit, and the reversed swaps (`swaps[::-1]`, tk.py:335)
    restore the wire order. -/
theorem from_tk_adjacent_restores (n a b : Nat) (ha : a < n) (hb : b < n) :
    (∀ o ∈ (makeUnitsAdjacent [a, b]).2, o + 1 < n) ∧
      arrangement n ((makeUnitsAdjacent [a, b]).2 ++ (makeUnitsAdjacent [a, b]).2.reverse) = List.range n :=
  ⟨Tk.makeUnitsAdjacent_inRange n a b ha hb,
    foldl_swapAt_reverse _ _ (by simpa using Tk.makeUnitsAdjacent_inRange n a b ha hb)⟩

/-- The typed transcription of `make_units_adjacent` succeeds and builds the swaps of the position model. -/
theorem from_tk_typed_swaps (units : List W) (a b : Nat) (ha : a < units.length) (hb : b < units.length)
    (hab : a ≠ b) :
    ∃ sw, makeUnitsAdjacentT units [a, b] = .ok ((makeUnitsAdjacent [a, b]).1, sw) ∧ sw.dom = units ∧
      sw.layers.map (·.2) = (makeUnitsAdjacent [a, b]).2 :=
  Tk.muaT_pair units a b ha hb hab

/-- For three units the loop is wrong (it compares tket indices with positions that earlier
    swaps have changed): `[2, 0, 1]` ends as `1, 0, 2`.  No supported op has three qubits —
    `box_from_tk` raises before the swaps are built (`Controlled(CX)`: ValueError). -/
theorem from_tk_adjacent_three_units :
    ((arrangement 3 (makeUnitsAdjacent [2, 0, 1]).2).drop (makeUnitsAdjacent [2, 0, 1]).1).take 3 = [1, 0, 2] ∧
      fromTk ⟨3, 0, [⟨"CCX", none, [2, 0, 1], []⟩], [], false, {}⟩ = .error .value :=
  ⟨Tk.makeUnitsAdjacent_three_wrong, by decide +kernel⟩

/-- **The imported circuit is well-typed**: every box finds its domain at its offset, the scan
    ends in the recorded codomain, the domain is empty and the codomain that of the post-processing. -/
theorem from_tk_well_typed (inp : TkIn) (d : D) (hpp : inp.pp.WT) (h : fromTk inp = .ok d) :
    wellTyped d.dom d.layers = true ∧ scanCod d.dom d.layers = d.cod ∧ d.dom = [] ∧
      d.cod = List.replicate inp.pp.cod .b :=
  ⟨(Tk.fromTk_WT hpp h).1.1, (Tk.fromTk_WT hpp h).1.2, (Tk.fromTk_WT hpp h).2.1, (Tk.fromTk_WT hpp h).2.2⟩

/-- **Every gate is placed on the units tket names**: the commands read off the imported circuit
    by following wire identities are those of the tket circuit (`ImpSpec.run`), and its `Bra`s are
    the measurements into post-selected bits. -/
theorem from_tk_gates_on_named_units (inp : TkIn) (d : D) (himp : inp.importable = true)
    (h : fromTk inp = .ok d) :
    (Tr.run d.layers).cmds = (ImpSpec.run inp).cmds ∧ (Tr.run d.layers).bras = (ImpSpec.run inp).braList inp :=
  Tk.fromTk_trace himp h

/-- **Measured bits land at the positions of the non-post-selected bits**: before the scalar and
    the post-processing are attached the wires that leave are the bit wires `n_qubits + j` in the
    order of `j` — and by `from_tk_gates_on_named_units` a `Measure` into the bit of rank `j` among
    the non-post-selected ones writes exactly that wire. -/
theorem from_tk_bits_in_order (inp : TkIn) (body : D) (himp : inp.importable = true)
    (h : fromTkBody inp = .ok body) :
    (Tr.run body.layers).arr = List.range' inp.nq inp.nbits ∧
      (Tr.run body.layers).cmds = (ImpSpec.run inp).cmds := by
  rw [Tk.fromTkBody_trace himp h]; exact ⟨rfl, rfl⟩

/-- A well-formed tket circuit is importable: the rank of a measured bit among the
    non-post-selected bits is below `n_bits` (tk.py:274, 323-324). -/
theorem from_tk_importable (inp : TkIn) (h : inp.wellFormed = true) : inp.importable = true :=
  Tk.importable_of_wellFormed h

/-- **The import is defined** on every importable tket circuit whose post-processing has as many
    inputs as there are non-post-selected bits (as `Circuit.upgrade` and `to_tk` make it). -/
theorem from_tk_total (inp : TkIn) (himp : inp.importable = true) (hpp : inp.pp.dom = inp.nbits) :
    ∃ d, fromTk inp = .ok d :=
  Tk.fromTk_total himp hpp

/-- The import of a well-formed tket circuit, all in one: it is defined, well-typed, every gate
    sits on the units tket names, and its `Bra`s are the post-selected measurements. -/
theorem from_tk_import_partial (inp : TkIn) (hwf : inp.wellFormed = true) (hpp : inp.pp.WT)
    (hdom : inp.pp.dom = inp.nbits) :
    ∃ d, fromTk inp = .ok d ∧ wellTyped [] d.layers = true ∧ scanCod [] d.layers = List.replicate inp.pp.cod .b ∧
      (Tr.run d.layers).cmds = (ImpSpec.run inp).cmds ∧ (Tr.run d.layers).bras = (ImpSpec.run inp).braList inp := by
  have himp := Tk.importable_of_wellFormed hwf
  obtain ⟨d, hd⟩ := Tk.fromTk_total himp hdom
  obtain ⟨⟨w1, w2⟩, hdm, hcd⟩ := Tk.fromTk_WT hpp hd
  obtain ⟨t1, t2⟩ := Tk.fromTk_trace himp hd
  rw [hdm] at w1 w2
  exact ⟨d, hd, w1, by rw [w2, hcd], t1, t2⟩

/-- `tk.Circuit(1, 1).H(0).Measure(0, 0).H(0).post_select({0: 0})`. -/
def inF33 : TkIn := ⟨1, 1, [⟨"H", none, [0], []⟩, ⟨"Measure", none, [0], [0]⟩, ⟨"H", none, [0], []⟩], [(0, 0)], false, {}⟩

/-- Finding F33: the post-selection of a measurement is moved behind the gates that follow it
    (`Ket(0) >> H >> H >> Bra(0)`); `psFinal` is the condition under which that is harmless. -/
theorem from_tk_postselection_deferred :
    inF33.importable = true ∧ inF33.psFinal = false ∧
      (fromTk inF33).toOption.map (·.layers) =
        some [(.ket [0], 0), (.gate "H" 1, 0), (.gate "H" 1, 0), (.bra [0], 0)] := by decide +kernel

/-- `tk.Circuit(3, 3).H(0).CX(2, 0).Measure(0, 2).SWAP(0, 2).Measure(1, 1).Rx(1/4, 2).CZ(0, 2).Measure(2, 0)
    .post_select({1: 1})`: distant units in both directions, a SWAP, a post-selected bit between two measured ones. -/
def inEx : TkIn := ⟨3, 3, [⟨"H", none, [0], []⟩, ⟨"CX", none, [2, 0], []⟩, ⟨"Measure", none, [0], [2]⟩,
  ⟨"SWAP", none, [0, 2], []⟩, ⟨"Measure", none, [1], [1]⟩, ⟨"Rx", some 4, [2], []⟩, ⟨"CZ", none, [0, 2], []⟩,
  ⟨"Measure", none, [2], [0]⟩], [(1, 1)], false, ⟨2, 2, []⟩⟩

-- The hypotheses of the import theorems are met by it.
example : inEx.wellFormed = true ∧ inEx.importable = true ∧ inEx.psFinal = true ∧ isOk (fromTk inEx) = true ∧
    inEx.pp.dom = inEx.nbits := by decide +kernel

example : inEx.pp.WT := by simp [PP.WT, D.WT, PP.toD, inEx, wellTyped, scanCod]

/-- What the specification says of it: the SWAP exchanged the ids 0 and 2, the measurement into
    bit 2 (rank 1) writes wire 3 + 1, the one into bit 0 writes wire 3 + 0. -/
example : (ImpSpec.run inEx).cmds = [⟨"H", none, [0], []⟩, ⟨"CX", none, [2, 0], []⟩, ⟨"Measure", none, [0], [4]⟩,
    ⟨"Rx", some 4, [0], []⟩, ⟨"CZ", none, [2, 0], []⟩, ⟨"Measure", none, [0], [3]⟩] ∧
    (ImpSpec.run inEx).braList inEx = [(1, 1)] := by decide +kernel

example : ∃ d, fromTk inEx = .ok d ∧ (Tr.run d.layers).cmds = (ImpSpec.run inEx).cmds := by
  have hok : isOk (fromTk inEx) = true := by decide +kernel
  cases h : fromTk inEx with
  | error e => rw [h] at hok; cases hok
  | ok d => exact ⟨d, rfl, (from_tk_gates_on_named_units inEx d (by decide +kernel) h).1⟩

/-- On up to 6 wires the swaps bring the units of every two-unit gate to consecutive positions at
    the returned offset (30 ordered pairs; e.g. `CX(0, 3)` on 4 wires: arrangement 0, 3, 1, 2).
    `from_tk_adjacent` is the statement for every width. -/
theorem from_tk_adjacent_upto6 :
    pairsWhere 6 false = [] ∧ (pairsWhere 6 true).length = 30 ∧
      arrangement 4 (makeUnitsAdjacent [0, 3]).2 = [0, 3, 1, 2] := by decide +kernel

/-! ### the hypotheses are met by non-trivial circuits -/

/-- `Ket(1, 0) >> CX >> Id(1) @ Ket(1) @ Id(1) >> SWAP @ Id(1) >> Id(1) @ Rx(3/16) @ Id(1)
      >> Id(1) @ Measure(2) >> Bra(0) @ Id(bit @ bit) >> Swap(bit, bit) >> XOR`: a preparation in the middle of the
    register list, a logical swap, a post-selection, measurements, a bit swap, a classical gate. -/
def ex1 : Circ := ⟨[], [(.ket [1, 0], 0), (.gate "CX" 2, 0), (.ket [1], 1), (.swap .q .q, 0),
  (.rot "Rx" 3, 1), (.measure 2 true false, 1), (.bra [0], 0), (.swap .b .b, 0), (.cgate "XOR" 2 1, 0)]⟩

private theorem ex1_clean : ex1.clean = true := by decide +kernel

private theorem toTk_ex1 : toTk ex1 = .ok ⟨3, 3, [], [0, 1],
    [⟨"X", none, [1], []⟩, ⟨"CX", none, [1, 2], []⟩, ⟨"X", none, [0], []⟩, ⟨"Rx", some 6, [1], []⟩,
     ⟨"Measure", none, [1], [1]⟩, ⟨"Measure", none, [2], [0]⟩, ⟨"Measure", none, [0], [2]⟩],
    [(2, 0)], [], ⟨2, 1, [(.gate "XOR" 2 1, 0)]⟩⟩ := by decide +kernel

example : ex1.clean = true := ex1_clean

example : toTk ex1 = .ok ⟨3, 3, [], [0, 1],
    [⟨"X", none, [1], []⟩, ⟨"CX", none, [1, 2], []⟩, ⟨"X", none, [0], []⟩, ⟨"Rx", some 6, [1], []⟩,
     ⟨"Measure", none, [1], [1]⟩, ⟨"Measure", none, [2], [0]⟩, ⟨"Measure", none, [0], [2]⟩],
    [(2, 0)], [], ⟨2, 1, [(.gate "XOR" 2 1, 0)]⟩⟩ := toTk_ex1

/-- The mid-circuit preparation shifted the second qubit of the Ket to unit 2 in the earlier CX. -/
example : ∃ sp ρq ρb dreg, canon ex1 = .ok sp ∧ Refines sp ⟨3, 3, [], [0, 1],
    [⟨"X", none, [1], []⟩, ⟨"CX", none, [1, 2], []⟩, ⟨"X", none, [0], []⟩, ⟨"Rx", some 6, [1], []⟩,
     ⟨"Measure", none, [1], [1]⟩, ⟨"Measure", none, [2], [0]⟩, ⟨"Measure", none, [0], [2]⟩],
    [(2, 0)], [], ⟨2, 1, [(.gate "XOR" 2 1, 0)]⟩⟩ ρq ρb dreg :=
  to_tk_refines_partial ex1 _ ex1_clean toTk_ex1

/-- A circuit with inputs and outputs: `init_and_discard` adds the preparations and discards. -/
def ex2 : Circ := ⟨[.q, .b], [(.gate "H" 1, 0), (.measure 1 false true, 0)]⟩

example : ex2.clean = true ∧ isOk (toTk ex2) = true := by decide +kernel

/-- Circuits of the shapes of the findings F11, F26, F28 (fixed in /repo) are inside the fragment:
    F11 `Ket(1, 0) >> Id(1) @ Measure() >> Measure() @ Id(bit)` (the post-processing swaps),
    F26 `Ket(1, 0) >> Id(1) @ Bits(0) @ Id(1) >> Measure(1, override_bits=True) @ Id(1) >> Id(bit) @ X
         >> Id(bit) @ Measure()` (X and Measure on unit 1),
    F28 `Ket(0, 1, 0) >> Bra(0) @ Id(2) >> Measure() @ Id(1) >> Id(bit) @ Measure() >> Swap(bit, bit)`
        (post-selection stays on bit 0). -/
def exF11 : Circ := ⟨[], [(.ket [1, 0], 0), (.measure 1 true false, 1), (.measure 1 true false, 0)]⟩
def exF26 : Circ := ⟨[], [(.ket [1, 0], 0), (.bits [0] false, 1), (.measure 1 true true, 0),
  (.gate "X" 1, 1), (.measure 1 true false, 1)]⟩
def exF28 : Circ := ⟨[], [(.ket [0, 1, 0], 0), (.bra [0], 0), (.measure 1 true false, 0),
  (.measure 1 true false, 1), (.swap .b .b, 0)]⟩

example : exF11.clean = true ∧ (toTk exF11).toOption.map (·.pp) = some ⟨2, 2, [(.swap, 0)]⟩ := by decide +kernel
example : exF26.clean = true ∧ (toTk exF26).toOption.map (·.cmds) =
    some [⟨"X", none, [0], []⟩, ⟨"Measure", none, [0], [0]⟩, ⟨"X", none, [1], []⟩,
          ⟨"Measure", none, [1], [1]⟩] := by decide +kernel
example : exF28.clean = true ∧ (toTk exF28).toOption.map (·.ps) = some [(0, 0)] := by decide +kernel

/-- One instance of the round-trip statement `Tk.FromToRoundTrip` (which is NOT proved): `ex1`. -/
theorem round_trip_example : RoundTripOn ex1 false := by
  intro st d hst hd
  rw [toTk_ex1] at hst
  cases hst
  have e2 : fromTk (St.toIn ⟨3, 3, [], [0, 1],
      [⟨"X", none, [1], []⟩, ⟨"CX", none, [1, 2], []⟩, ⟨"X", none, [0], []⟩, ⟨"Rx", some 6, [1], []⟩,
       ⟨"Measure", none, [1], [1]⟩, ⟨"Measure", none, [2], [0]⟩, ⟨"Measure", none, [0], [2]⟩],
      [(2, 0)], [], ⟨2, 1, [(.gate "XOR" 2 1, 0)]⟩⟩ false) = .ok ⟨[], [.b],
      [(.ket [0], 0), (.ket [0], 1), (.ket [0], 2), (.bits [0] false, 3), (.bits [0] false, 4),
       (.gate "X" 1, 1), (.gate "CX" 2, 1), (.gate "X" 1, 0), (.rot "Rx" 3, 1), (.swap .b .b, 3),
       (.swap .q .b, 2), (.measure 1 false true, 1), (.swap .b .q, 2), (.swap .b .b, 3),
       (.measure 1 false true, 2), (.bra [0], 0), (.discard [.q], 0), (.discard [.q], 0),
       (.cgate "XOR" 2 1, 0)]⟩ := by decide +kernel
  rw [e2] at hd
  cases hd
  refine ⟨⟨3, 3, [], [.out 0 0],
      [⟨"X", none, [0], []⟩, ⟨"CX", none, [0, 1], []⟩, ⟨"X", none, [2], []⟩, ⟨"Rx", some 6, [0], []⟩,
       ⟨"Measure", none, [0], [0]⟩, ⟨"Measure", none, [1], [1]⟩, ⟨"Measure", none, [2], [2]⟩],
      [(2, 0)], [], [("XOR", [.reg 1, .reg 0])]⟩,
    ⟨3, 3, [], [.out 0 0],
      [⟨"X", none, [1], []⟩, ⟨"CX", none, [1, 2], []⟩, ⟨"X", none, [0], []⟩, ⟨"Rx", some 6, [1], []⟩,
       ⟨"Measure", none, [1], [1]⟩, ⟨"Measure", none, [2], [0]⟩, ⟨"Measure", none, [0], [2]⟩],
      [(2, 0)], [], [("XOR", [.reg 0, .reg 1])]⟩,
    fun i => if i = 0 then 1 else if i = 1 then 2 else 0,
    fun i => if i = 0 then 1 else if i = 1 then 0 else 2, by decide +kernel, by decide +kernel, ?_⟩
  exact ⟨by decide +kernel, by decide +kernel, by decide +kernel, by decide +kernel, by decide +kernel, by decide +kernel, by decide +kernel⟩

end DV.C13
