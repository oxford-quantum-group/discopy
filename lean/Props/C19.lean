/-
  Props/C19.lean — C19 "Cartesian diagrams compute the function they draw".
  Property theorems; the lemmas are in Proofs/Cartesian.lean.

  Vocabulary (Model/Cartesian.lean, Proofs/Cartesian.lean):
    d.call xs     what `d(*xs)` returns: transcription of cartesian.Diagram.__call__, i.e. the
                  functor of monoidal.py:838-846 into `Function`s (then / tensor / id closures)
    b.call xs     the same for a single `Box` (the functor's Box branch: no identities composed)
    d.run xs      the property's reference semantics: feed the inputs through the boxes in order,
                  each box applied to the wires at its offset, outputs spliced back in place
    d.WF          each box finds its `dom` wires at its offset and the scan ends at `cod`
    b.Respects    on `dom` atomic arguments the box returns something that unpacks (tuplify) to
                  exactly `cod` atomic values — a bare value or a 1-tuple for `cod = 1`, `()` for 0
    AllAtoms xs   no Python tuple among the values: ints (`atom n`) and typed tokens (`tok ty n`:
                  floats, bools, None, strings, lists, dicts, sets …) alike.  Every theorem below
                  therefore holds for inputs of all these types, and says that the result carries
                  the very tokens a run puts on the wires: `1`, `1.0` and `True` (`atom 1`,
                  `tok float 1`, `tok bool 1`) are three different values (`typed_tokens_distinct`)
                  that Python's `==`/`hash` cannot tell apart.  The model has no history: `d.call`
                  is a function of the inputs alone, so the differential check may call one diagram
                  object several times and compare every call with the same `d.call`.

  Stated limit (not a partial proof): wires carry non-tuple values.  A box that puts a tuple on a
  single wire is re-split by `tuplify`; `limit_witness` below exhibits the counter-case, so the
  hypothesis `Respects` is not silent.  Everything else in the property is proved for all
  diagrams, all arities (0 and 1 are separate paths of `tuplify`/`untuplify`: the case analysis
  is in `tuplify_untuplify`, on which `Strict.computes` and through it every layer rests) and
  all widths of Swap/Copy/Discard.
-/
import Proofs.Cartesian

namespace DV.C19
open DV DV.Cart

/-! ### Calling a diagram = running it -/

/-- Main clause.  For every well-typed diagram whose boxes respect their arity and every tuple
    of atomic inputs — of ANY length — `d(*xs)` is the packed result of the reference run:
    the same value, or the same exception class (a wrong number of inputs is a `TypeError`). -/
theorem call_eq_run (d : CDiagram) (hwf : d.WF) (hb : d.BoxesOK) (xs : List PyVal)
    (hx : AllAtoms xs) : d.call xs = (d.run xs).map untuplify := Cart.call_eq_run hwf hb xs hx

/-- The run of such a diagram puts exactly `cod` atomic values on the output wires. -/
theorem run_wires (d : CDiagram) (hwf : d.WF) (hb : d.BoxesOK) (xs ys : List PyVal)
    (hx : AllAtoms xs) (h : d.run xs = .ok ys) : ys.length = d.cod ∧ AllAtoms ys :=
  Cart.run_good hwf hb hx h

/-- A wrong number of inputs is refused with a `TypeError`. -/
theorem call_wrong_input_count (d : CDiagram) (hwf : d.WF) (hb : d.BoxesOK) (xs : List PyVal)
    (hx : AllAtoms xs) (h : xs.length ≠ d.dom) : d.call xs = .error .type := by
  rw [Cart.call_eq_run hwf hb xs hx, Cart.run_of_length_ne h]
  rfl

/-- A `Box` called directly takes the other branch of the functor: it returns the function's own
    object, which unpacks to the run of the one-box diagram (for every box, no hypothesis). -/
theorem box_call_eq_run (b : CBox) (xs : List PyVal) :
    (b.call xs).map tuplify = b.diagram.run xs := Cart.box_call_eq_run b xs

/-- The diagrams the public constructor hands back are exactly the well-typed requests. -/
theorem mk_ok (dom cod : Nat) (bs : List CBox) (os : List Int) (d : CDiagram)
    (h : CDiagram.mk? dom cod bs os = .ok d) :
    d.WF ∧ d.dom = dom ∧ d.cod = cod ∧ d.boxes = bs ∧ d.offsets.map Int.ofNat = os :=
  Cart.mk?_ok h

theorem mk_of_wf (dom cod : Nat) (bs : List CBox) (os : List Nat) (h : WFfrom dom bs os cod) :
    CDiagram.mk? dom cod bs (os.map Int.ofNat) = .ok ⟨dom, cod, bs, os⟩ := Cart.mk?_of_wf h

/-- `>>` composes runs … -/
theorem run_then (a b : CDiagram) (ha : a.WF) (hba : a.BoxesOK) (h : a.cod = b.dom)
    (xs : List PyVal) (hx : AllAtoms xs) :
    ∃ c, a.then b = .ok c ∧ c.run xs = (a.run xs).bind b.run :=
  ⟨_, Cart.then_eq h, Cart.run_then ha hba h xs hx⟩

/-- … and `@` runs its factors side by side. -/
theorem run_tensor (a b : CDiagram) (ha : a.WF) (hba : a.BoxesOK) (xs ys : List PyVal)
    (hx : AllAtoms xs) (hlx : xs.length = a.dom) (hly : ys.length = b.dom) :
    (a.tensor b).run (xs ++ ys) =
      (a.run xs).bind (fun xs' => (b.run ys).bind (fun ys' => .ok (xs' ++ ys'))) :=
  Cart.run_tensor ha hba xs ys hx hlx hly

/-! ### Swap, Copy, Discard of every width -/

/-- `Swap(l, r)` is accepted by the scanning constructor and exchanges its two blocks of inputs
    as a whole (induction over the `l × r` network of cartesian.py:281-282). -/
theorem swap_spec (xs ys : List PyVal) (hx : AllAtoms xs) (hy : AllAtoms ys) :
    ∃ d, swapD xs.length ys.length = .ok d ∧ d.dom = xs.length + ys.length ∧
      d.cod = ys.length + xs.length ∧ d.WF ∧ d.BoxesOK ∧
      d.run (xs ++ ys) = .ok (ys ++ xs) ∧ d.call (xs ++ ys) = .ok (untuplify (ys ++ xs)) :=
  Cart.swap_spec xs ys hx hy

/-- `Copy(n)` duplicates its inputs as a whole (COPY on every wire, then induction over the
    unshuffle network of cartesian.py:295-297). -/
theorem copy_spec (xs : List PyVal) (hx : AllAtoms xs) :
    ∃ d, copyD xs.length = .ok d ∧ d.dom = xs.length ∧ d.cod = 2 * xs.length ∧ d.WF ∧
      d.BoxesOK ∧ d.run xs = .ok (xs ++ xs) ∧ d.call xs = .ok (untuplify (xs ++ xs)) :=
  Cart.copy_spec xs hx

/-- `Discard(n)` deletes all its inputs. -/
theorem discard_spec (xs : List PyVal) (hx : AllAtoms xs) :
    (discardD xs.length).dom = xs.length ∧ (discardD xs.length).cod = 0 ∧
      (discardD xs.length).WF ∧ (discardD xs.length).BoxesOK ∧
      (discardD xs.length).run xs = .ok [] ∧ (discardD xs.length).call xs = .ok (.tup []) :=
  Cart.discard_spec xs hx

/-! ### The cartesian axioms on all inputs -/

/-- Naturality of swap: `(f @ g >> Swap(f.cod, g.cod))(*xs, *ys) = (Swap(f.dom, g.dom) >> g @ f)(*xs, *ys)`
    for all well-typed `f`, `g` with good boxes that return on `xs`, `ys`. -/
theorem swap_natural (f g : CDiagram) (hf : f.WF) (hg : g.WF) (hbf : f.BoxesOK) (hbg : g.BoxesOK)
    (xs ys xs' ys' : List PyVal) (hx : AllAtoms xs) (hy : AllAtoms ys)
    (hfx : f.run xs = .ok xs') (hgy : g.run ys = .ok ys') :
    ∃ s1 s2 l r, swapD f.cod g.cod = .ok s1 ∧ swapD f.dom g.dom = .ok s2 ∧
      (f.tensor g).then s1 = .ok l ∧ s2.then (g.tensor f) = .ok r ∧
      l.call (xs ++ ys) = .ok (untuplify (ys' ++ xs')) ∧
      r.call (xs ++ ys) = .ok (untuplify (ys' ++ xs')) :=
  Cart.swap_natural hf hg hbf hbg hx hy hfx hgy

/-- Naturality of copy: `(f >> Copy(f.cod))(*xs) = (Copy(f.dom) >> f @ f)(*xs)`. -/
theorem copy_natural (f : CDiagram) (hf : f.WF) (hbf : f.BoxesOK) (xs xs' : List PyVal)
    (hx : AllAtoms xs) (hfx : f.run xs = .ok xs') :
    ∃ c1 c2 l r, copyD f.cod = .ok c1 ∧ copyD f.dom = .ok c2 ∧
      f.then c1 = .ok l ∧ c2.then (f.tensor f) = .ok r ∧
      l.call xs = .ok (untuplify (xs' ++ xs')) ∧ r.call xs = .ok (untuplify (xs' ++ xs')) :=
  Cart.copy_natural hf hbf hx hfx

/-- Naturality of discard: `(f >> Discard(f.cod))(*xs) = Discard(f.dom)(*xs) = ()`. -/
theorem discard_natural (f : CDiagram) (hf : f.WF) (hbf : f.BoxesOK) (xs xs' : List PyVal)
    (hx : AllAtoms xs) (hfx : f.run xs = .ok xs') :
    ∃ l, f.then (discardD f.cod) = .ok l ∧ l.call xs = .ok (.tup []) ∧
      (discardD f.dom).call xs = .ok (.tup []) :=
  Cart.discard_natural hf hbf hx hfx

/-! ### Non-vacuity: boxes that respect their arity exist for every arity -/

theorem affine_respects (m n : Nat) (s : Int) (bare : Bool) :
    ((Prim.affine m n s bare).box m n).Respects := Cart.affine_respects m n s bare

/-- Hierarchical boxes: a box whose function is the identity sub-diagram `Id(m)`. -/
theorem ident_respects (m : Nat) : ((Prim.ident m).box m m).Respects := Cart.ident_respects m

/-- Type-observing and type-preserving pool boxes, and 0-input states of any (non-tuple) value. -/
theorem tyc_respects (m i : Nat) : ((Prim.tyc m i).box m 1).Respects := Cart.tyc_respects m i

theorem proj_respects (m i : Nat) : ((Prim.proj m i).box m 1).Respects := Cart.proj_respects m i

theorem pick_respects (m : Nat) (is : List Nat) : ((Prim.pick m is).box m is.length).Respects :=
  Cart.pick_respects m is

theorem const_respects (m : Nat) (v : PyVal) (hv : v.isAtom = true) :
    ((Prim.const m v).box m 1).Respects := Cart.const_respects m v hv

theorem generators_respect : SWAP.Respects ∧ COPY.Respects ∧ DISCARD.Respects ∧ ADD.Respects :=
  ⟨Cart.SWAP_respects, Cart.COPY_respects, Cart.DISCARD_respects, Cart.ADD_respects⟩

/-- A diagram with arity-0 and arity-1 boxes on 2 wires:
    `const 7 : 0→1` (bare value) at 1, `ADD` at 1, `SWAP` at 0, `DISCARD` at 0, `unit : 0→0` at 1,
    `const (5,) : 0→1` (1-tuple) at 1, `COPY` at 0:   (x, y) ↦ (x, x, 5). -/
def ex1 : CDiagram :=
  ⟨2, 3, [(Prim.affine 0 1 7 true).box 0 1, ADD, SWAP, DISCARD, (Prim.affine 0 0 0 false).box 0 0,
          (Prim.affine 0 1 5 false).box 0 1, COPY], [1, 1, 0, 0, 1, 1, 0]⟩

example : ex1.WF := by decide +kernel
example : ex1.BoxesOK := by
  simp only [CDiagram.BoxesOK, ex1, List.forall_mem_cons]
  exact ⟨affine_respects 0 1 7 true, generators_respect.2.2.2, generators_respect.1,
    generators_respect.2.2.1, affine_respects 0 0 0 false, affine_respects 0 1 5 false,
    generators_respect.2.1, fun _ h => nomatch h⟩
example : ex1.call [.atom 10, .atom 20] = .ok (.tup [.atom 10, .atom 10, .atom 5]) := by decide +kernel
example : ex1.run [.atom 10, .atom 20] = .ok [.atom 10, .atom 10, .atom 5] := by decide +kernel
example : ex1.call [.atom 10] = .error .type := by decide +kernel

/-- arity-1 output: the call returns the bare value, arity-0 output: the empty tuple. -/
example : (CDiagram.mk 2 1 [ADD] [0]).call [.atom 1, .atom 2] = .ok (.atom 3) := by decide +kernel
example : (CDiagram.mk 1 0 [DISCARD] [0]).call [.atom 1] = .ok (.tup []) := by decide +kernel
example : (CDiagram.id 0).call [] = .ok (.tup []) := by decide +kernel
example : (CDiagram.id 1).call [.atom 4] = .ok (.atom 4) := by decide +kernel
/-- The `Box` branch returns the 1-tuple unchanged; through a diagram it is unpacked. -/
example : ((Prim.affine 0 1 5 false).box 0 1).call [] = .ok (.tup [.atom 5]) := by decide +kernel
example : ((Prim.affine 0 1 5 false).box 0 1).diagram.call [] = .ok (.atom 5) := by decide +kernel

/-- Swap(2, 3), Copy(3), Discard(2) computed by the model (cartesian.py:277, 289, 306). -/
example : (swapD 2 3).bind (·.call [.atom 0, .atom 1, .atom 2, .atom 3, .atom 4]) =
    .ok (.tup [.atom 2, .atom 3, .atom 4, .atom 0, .atom 1]) := by decide +kernel
example : (copyD 3).bind (·.call [.atom 0, .atom 1, .atom 2]) =
    .ok (.tup [.atom 0, .atom 1, .atom 2, .atom 0, .atom 1, .atom 2]) := by decide +kernel
example : (discardD 2).call [.atom 43, .atom 44] = .ok (.tup []) := by decide +kernel

/-! ### Typed tokens: equal-looking values of different types stay apart -/

/-- `1`, `1.0`, `True` — and `0.0`, `-0.0` (entry 0 of the harness's table of other floats) —
    are pairwise different wire values, whatever Python's `==` says. -/
theorem typed_tokens_distinct :
    PyVal.atom 1 ≠ .tok .float 1 ∧ PyVal.atom 1 ≠ .tok .bool 1 ∧
      PyVal.tok .float 1 ≠ .tok .bool 1 ∧ PyVal.tok .float 0 ≠ .tok .floatx 0 ∧
      (∀ t n, (PyVal.tok t n).isAtom = true) := by
  refine ⟨by decide, by decide, by decide, by decide, fun _ _ => rfl⟩

/-- `SWAP >> tyc @ proj`: the type of the first output and the second output itself.  On
    `(1, 2.0)`, `(1.0, 2)` and `(True, None)` — three calls a cache keyed by `==` would confuse —
    the model answers with the types of THIS call. -/
def ex2 : CDiagram := ⟨2, 2, [SWAP, (Prim.tyc 1 0).box 1 1, (Prim.proj 1 0).box 1 1], [0, 0, 1]⟩

example : ex2.WF := by decide +kernel
example : ex2.BoxesOK := by
  simp only [CDiagram.BoxesOK, ex2, List.forall_mem_cons]
  exact ⟨generators_respect.1, tyc_respects 1 0, proj_respects 1 0, fun _ h => nomatch h⟩
example : ex2.call [.atom 1, .tok .float 2] = .ok (.tup [.atom 1, .atom 1]) := by decide +kernel
example : ex2.call [.tok .float 1, .atom 2] = .ok (.tup [.atom 0, .tok .float 1]) := by decide +kernel
example : ex2.call [.tok .bool 1, .tok .none 0] = .ok (.tup [.atom 5, .tok .bool 1]) := by decide +kernel
/-- Structural diagrams move unhashable values (a list, a dict) like any other. -/
example : (swapD 1 2).bind (·.call [.tok .list 0, .tok .dict 1, .tok .float 1]) =
    .ok (.tup [.tok .dict 1, .tok .float 1, .tok .list 0]) := by decide +kernel
example : (copyD 2).bind (·.call [.tok .set 0, .tok .bool 0]) =
    .ok (.tup [.tok .set 0, .tok .bool 0, .tok .set 0, .tok .bool 0]) := by decide +kernel
/-- The numeric tower of the pool's arithmetic: `True + True` is the int 2, `1 + 1.0` the float 2.0,
    `None + 1` a `TypeError`. -/
example : ADD.call [.tok .bool 1, .tok .bool 1] = .ok (.atom 2) := by decide +kernel
example : ADD.call [.atom 1, .tok .float 1] = .ok (.tok .float 2) := by decide +kernel
example : ADD.call [.tok .none 0, .atom 1] = .error .type := by decide +kernel
/-- A 0-input box (a state) used twice is run twice: two wires. -/
example : (CDiagram.mk 0 2 [(Prim.const 0 (.tok .float 1)).box 0 1,
    (Prim.const 0 (.tok .float 1)).box 0 1] [0, 1]).call [] =
    .ok (.tup [.tok .float 1, .tok .float 1]) := by decide +kernel

/-! ### The documented limit: a tuple on a single wire is re-split -/

/-- `nest : 2 → 1` returns `((x, y),)` — one wire carrying the tuple `(x, y)` — then `DISCARD`
    deletes that wire.  The run succeeds with no output; the call re-splits the tuple into two
    arguments and the second layer refuses them (`(nest >> DISCARD)(1, 2)` is a `TypeError`). -/
def limitD : CDiagram := ⟨2, 0, [(Prim.nest 2).box 2 1, DISCARD], [0, 0]⟩

theorem limit_witness :
    limitD.WF ∧ limitD.run [.atom 1, .atom 2] = .ok [] ∧
      limitD.call [.atom 1, .atom 2] = .error .type ∧ ¬ ((Prim.nest 2).box 2 1).Respects := by
  refine ⟨by decide, by decide, by decide, ?_⟩
  intro h
  have := (h [.atom 1, .atom 2] (.tup [.tup [.atom 1, .atom 2]]) rfl
    (by intro z hz; simp at hz; rcases hz with rfl | rfl <;> rfl) rfl).2
  exact absurd (this (.tup [.atom 1, .atom 2]) (by simp [tuplify])) (by simp [PyVal.isAtom])

end DV.C19
