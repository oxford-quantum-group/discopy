/-
  Props/C03.lean — C03 "equality is structural, hash-consistent and printable".
  Property theorems; the lemmas are in Proofs/Eq.lean, Proofs/ReprString.lean, Proofs/Downgrade.lean and
  Proofs/ReprPRO.lean (and Proofs/Laws.lean); short proofs are given here.

  Model of the code's triples:
  * `Diagram.eqv`      = `monoidal.Diagram.__eq__` (monoidal.py:438-442): dom, cod, boxes, offsets;
  * `Box.eqvDiagram`   = `monoidal.Box.__eq__` against a plain diagram (monoidal.py:701-707);
  * `Val` / `Val.eqv`  = a Python value is a `Box` instance or a plain `Diagram`; `==` dispatched as
                         Python does (reflected `__eq__` of the subclass first);
  * `Sum.eqv`          = `cat.Sum.__eq__` (cat.py:666-670); types/objects/boxes: structural `=`
                         (`monoidal.Ty.__eq__` 165-166, `rigid.Ob.__eq__` 55-59, `cat.Box.__eq__` 600-604);
  * `reprDiagram`, `reprBox`, `reprTy`, `reprOb`, `reprSum` = the `__repr__` methods (Model/Repr.lean).
  Every `__hash__` in scope is `hash(repr(self))` (monoidal.py:168, 453, 709; cat.py:252, 598, 672)
  — so `repr_congr` IS hash consistency (`hash_congr`, for an arbitrary string hash `H`) — except
  `cat.Ob.__hash__ = hash(name)` and `rigid.Ob.__hash__ = hash(name)` / `hash((name, z))`, which
  hash exactly the fields `==` compares (`ob_hash_congr`).

  "However they were built": model values carry no construction history, so `eqv_iff` says it;
  that the CODE's values agree with the model's whatever the history is the correspondence run.

  "Their printed repr is constructor syntax that evaluates back to an equal value":
  Proved — `repr_inj` (and `val_repr_inj`, `sum_repr_inj`, `reprBox_inj`, `reprTy_inj`): the printed
  STRING of a well-typed value determines the value up to `==`, under the explicit token-hygiene
  hypothesis `TokensSafe`: every name token, and every `data` token other than `None`, is non-empty
  and contains none of the six characters `, ( ) [ ] =` (true of the reprs of identifier-like
  strings such as `'abc'`, of ints and of floats).  It goes in two steps: the string determines the
  printed syntax tree (`RT.render_inj`, unique decoding, Proofs/ReprString.lean), and the tree
  determines the value (`repr_inj_tree`: neither repr short-cut, nor the `.dagger()` suffix, nor
  the optional `z=` / `data=` arguments, nor the derived `Swap`/`Cup`/`Cap` forms conflate values).
  PARTIAL — not proved: (i) values whose `data` token itself contains brackets or commas (list- or
  dict-valued data) — `ReprInjAnyData` is kept as an unproved `def … : Prop`; for those only the
  tree-level theorem `repr_inj_tree` holds; (ii) that Python's `eval` rebuilds an equal value
  from the string is runtime behaviour of the interpreter.  Both rest on the oracle, which
  executes `eval(repr(v)) == v` on every generated value.
  Bubbles are not modelled (finding F8 lives in the oracle).

  Derived values: `downgrade()` is modelled (Model/Downgrade.lean) and proved to keep the
  triple coherent — `downgrade_total`, `downgrade_eqv_congr`, `downgrade_repr_congr`,
  `downgrade_hash_congr`, `reprM_congr`, `box_downgrade_spec`, `reprBoxM_eq`; as far as true:
  `downgraded_repr_not_inj` (the printed form of a downgraded value with adjoint types does not
  determine it: finding F43b), so `repr_inj` is NOT claimed for downgraded values.

  PRO types: the classes `monoidal.PRO` / `rigid.PRO` (Model/ReprPRO.lean) define only
  `__init__`, `upgrade` and `__repr__` (`PRO(n)`); `==` and `hash` are `monoidal.Ty`'s (the objects;
  `hash(repr(self))`).  `pro_eq_iff` (PRO(m) == PRO(n) iff m = n), `reprPRO_congr` / `pro_hash_congr`
  (equal PRO types print and hash alike), `reprPRO_inj` (the printed form determines the type, no
  hygiene hypothesis needed: the only token is an int), `pro_tensor`, `pro_slice` (the derived values
  stay in the class: `upgrade` never raises on them).  That `hash()` is DEFINED on the class at all
  (a Python class that overrides `__eq__` without `__hash__` is unhashable) is not a statement about
  values: it is checked by the oracle on every PRO value the check builds.
-/
import Proofs.ReprString
import Proofs.Downgrade
import Proofs.ReprPRO

namespace DV.C03
open DV

/-! ### Equality is structural -/

/-- Two diagrams are `==` exactly when they have the same domain, codomain, boxes and offsets. -/
theorem eqv_iff (a b : Diagram) :
    a.eqv b = true ↔ a.dom = b.dom ∧ a.cod = b.cod ∧ a.boxes = b.boxes ∧ a.offsets = b.offsets :=
  Diagram.eqv_iff

/-- On well-typed values `==` is full structural equality (the ignored `layers` are determined). -/
theorem eqv_iff_eq (a b : Diagram) (ha : a.WF) (hb : b.WF) : a.eqv b = true ↔ a = b :=
  Diagram.eqv_iff_eq ha hb

theorem eqv_refl (a : Diagram) : a.eqv a = true := Diagram.eqv_refl a
theorem eqv_symm (a b : Diagram) (h : a.eqv b = true) : b.eqv a = true := Diagram.eqv_symm h
theorem eqv_trans (a b c : Diagram) (h1 : a.eqv b = true) (h2 : b.eqv c = true) :
    a.eqv c = true := Diagram.eqv_trans h1 h2

/-- Sums: `==` exactly when same domain, codomain and pairwise `==` terms in the same order. -/
theorem sum_eqv_iff (a b : Sum) :
    a.eqv b = true ↔ a.dom = b.dom ∧ a.cod = b.cod ∧ a.terms.length = b.terms.length ∧
      ∀ i (h1 : i < a.terms.length) (h2 : i < b.terms.length),
        (a.terms[i]).eqv (b.terms[i]) = true := by
  rw [Sum.eqv_iff, eqvList_iff]

theorem sum_eqv_refl (a : Sum) : a.eqv a = true := Sum.eqv_refl a
theorem sum_eqv_symm (a b : Sum) (h : a.eqv b = true) : b.eqv a = true := by
  rw [Sum.eqv_iff] at h ⊢
  exact ⟨h.1.symm, h.2.1.symm, eqvList_symm h.2.2⟩
theorem sum_eqv_trans (a b c : Sum) (h1 : a.eqv b = true) (h2 : b.eqv c = true) :
    a.eqv c = true := by
  rw [Sum.eqv_iff] at h1 h2 ⊢
  exact ⟨h1.1.trans h2.1, h1.2.1.trans h2.2.1, eqvList_trans h1.2.2 h2.2.2⟩
theorem sum_eqv_iff_eq (a b : Sum) (ha : a.WF) (hb : b.WF) : a.eqv b = true ↔ a = b :=
  Sum.eqv_iff_eq ha hb

/-! ### Mixed Box / Diagram comparisons, as the code does them -/

/-- A box equals the one-box diagram that wraps it, both ways round. -/
theorem box_eqv_wrap (b : Box) :
    (Val.box b).eqv (Val.diag (Diagram.ofBox b)) = true ∧
    (Val.diag (Diagram.ofBox b)).eqv (Val.box b) = true := Val.box_eqv_wrap b

/-- The asymmetric `Box.__eq__` agrees, on well-typed values, with field-by-field comparison of
    the wrapped box (it does not compare offsets; a well-typed one-box diagram has offset 0). -/
theorem val_eqv_eq (u v : Val) (hu : u.WF) (hv : v.WF) :
    u.eqv v = u.toDiagram.eqv v.toDiagram := Val.eqv_eq_toDiagram hu hv

theorem val_eqv_refl (u : Val) (hu : u.WF) : u.eqv u = true := by
  rw [Val.eqv_eq_toDiagram hu hu]; exact Diagram.eqv_refl _
theorem val_eqv_symm (u v : Val) (hu : u.WF) (hv : v.WF) (h : u.eqv v = true) :
    v.eqv u = true := by
  rw [Val.eqv_eq_toDiagram hu hv] at h
  rw [Val.eqv_eq_toDiagram hv hu]; exact Diagram.eqv_symm h
theorem val_eqv_trans (u v w : Val) (hu : u.WF) (hv : v.WF) (hw : w.WF)
    (h1 : u.eqv v = true) (h2 : v.eqv w = true) : u.eqv w = true := by
  rw [Val.eqv_eq_toDiagram hu hv] at h1
  rw [Val.eqv_eq_toDiagram hv hw] at h2
  rw [Val.eqv_eq_toDiagram hu hw]; exact Diagram.eqv_trans h1 h2

/-! ### Equal values print alike, hence hash alike -/

theorem repr_congr (a b : Diagram) (h : a.eqv b = true) : reprDiagram a = reprDiagram b :=
  DV.repr_congr h

/-- `__hash__ = hash(repr(self))`: for ANY string hash `H`, equal diagrams hash alike. -/
theorem hash_congr {α} (H : String → α) (a b : Diagram) (h : a.eqv b = true) :
    H (reprDiagram a) = H (reprDiagram b) := DV.hash_congr H h

/-- The same across box instances and plain diagrams (a box and its wrapping diagram hash alike,
    so either can be the key of a functor's mapping). -/
theorem val_repr_congr (u v : Val) (hu : u.WF) (hv : v.WF) (h : u.eqv v = true) :
    u.repr = v.repr := Val.repr_congr hu hv h
theorem val_hash_congr {α} (H : String → α) (u v : Val) (hu : u.WF) (hv : v.WF)
    (h : u.eqv v = true) : H u.repr = H v.repr := Val.hash_congr H hu hv h

theorem sum_repr_congr (a b : Sum) (h : a.eqv b = true) : reprSum a = reprSum b :=
  Sum.repr_congr h

/-- Objects: `cat.Ob.__hash__ = hash(name)`, `rigid.Ob.__hash__ = hash(name)` if `z = 0` else
    `hash((name, z))` — a function of the compared fields. -/
theorem ob_hash_congr {α} (H1 : String → α) (H2 : String × Int → α) (x y : Ob) (h : x = y) :
    (if x.z = 0 then H1 x.name else H2 (x.name, x.z)) =
    (if y.z = 0 then H1 y.name else H2 (y.name, y.z)) := by rw [h]

/-- At winding number 0 the two `Ty.__repr__` (monoidal.py:170, rigid.py:106) print alike. -/
theorem reprTy_monoidal (t : Ty) (h : ∀ x ∈ t, x.z = 0) : reprTy t = reprTyMonoidal t := by
  rw [reprTy, reprTyMonoidal, reprTTyMonoidal_eq h]

/-! ### The printed form loses nothing -/

/-- **`repr` is injective up to `==`** on well-typed diagrams over boxes the Python classes can
    produce, with hygienic tokens: diagrams that print alike are equal. -/
theorem repr_inj (a b : Diagram) (ha : a.WF) (hb : b.WF) (hca : a.Canon) (hcb : b.Canon)
    (hta : a.TokensSafe) (htb : b.TokensSafe) (h : reprDiagram a = reprDiagram b) :
    a.eqv b = true := DV.repr_inj ha hb hca hcb hta htb h

/-- … also across box instances and plain diagrams, … -/
theorem val_repr_inj (u v : Val) (hu : u.WF) (hv : v.WF) (hcu : u.toDiagram.Canon)
    (hcv : v.toDiagram.Canon) (htu : u.toDiagram.TokensSafe) (htv : v.toDiagram.TokensSafe)
    (h : u.repr = v.repr) : u.eqv v = true := Val.repr_inj hu hv hcu hcv htu htv h

/-- … for sums, boxes and types. -/
theorem sum_repr_inj (a b : Sum) (ha : a.WF) (hb : b.WF) (hca : ∀ t ∈ a.terms, t.Canon)
    (hcb : ∀ t ∈ b.terms, t.Canon) (hta : a.TokensSafe) (htb : b.TokensSafe)
    (h : reprSum a = reprSum b) : a.eqv b = true :=
  reprTSum_inj ha hb hca hcb (RT.render_inj (reprTSum_good hta) (reprTSum_good htb) h)

theorem reprBox_inj (a b : Box) (ha : a.Canon) (hb : b.Canon) (hta : a.TokensSafe)
    (htb : b.TokensSafe) (h : reprBox a = reprBox b) : a = b := DV.reprBox_inj ha hb hta htb h

theorem reprTy_inj (s t : Ty) (hs : Ty.TokensSafe s) (ht : Ty.TokensSafe t)
    (h : reprTy s = reprTy t) : s = t := DV.reprTy_inj hs ht h

/-- Step 1: the printed string of a hygienic syntax tree determines the tree. -/
theorem render_inj (s t : RT) (hs : s.Good) (ht : t.Good) (h : s.render = t.render) : s = t :=
  RT.render_inj hs ht h

/-- Step 2 (no token hypothesis at all): the printed syntax tree determines the value up to `==`. -/
theorem repr_inj_tree (a b : Diagram) (ha : a.WF) (hb : b.WF) (hca : a.Canon) (hcb : b.Canon)
    (h : reprTDiagram a = reprTDiagram b) : a.eqv b = true := reprTDiagram_inj ha hb hca hcb h

theorem val_repr_inj_tree (u v : Val) (hu : u.WF) (hv : v.WF) (hcu : u.toDiagram.Canon)
    (hcv : v.toDiagram.Canon) (h : u.reprT = v.reprT) : u.eqv v = true :=
  Val.reprT_inj hu hv hcu hcv h

theorem sum_repr_inj_tree (a b : Sum) (ha : a.WF) (hb : b.WF) (hca : ∀ t ∈ a.terms, t.Canon)
    (hcb : ∀ t ∈ b.terms, t.Canon) (h : reprTSum a = reprTSum b) : a.eqv b = true :=
  reprTSum_inj ha hb hca hcb h

/-- `Canon` ("boxes the Python classes can produce") is kept by the operations. -/
theorem canon_ops (a b d : Diagram) (ha : a.WF) (hb : b.WF) (hca : a.Canon) (hcb : b.Canon) :
    (a.then b = .ok d → d.Canon) ∧ (a.tensor b = .ok d → d.Canon) ∧ a.dagger.Canon :=
  ⟨Diagram.Canon.then hca hcb, Diagram.Canon.tensor ha hb hca hcb, Diagram.Canon.dagger ha hca⟩

/-- Full statement for ARBITRARY data tokens (e.g. list- or dict-valued `data`, whose repr has
    brackets and commas of its own): NOT proved.  `ok` is the class of admitted tokens; for Python
    the intended one is "the repr of a value that parses back as one expression, and distinct
    values have distinct reprs".  Rests on the `eval(repr(v)) == v` oracle. -/
def ReprInjAnyData (ok : String → Prop) : Prop :=
  ∀ a b : Diagram, a.WF → b.WF → a.Canon → b.Canon →
    (reprTDiagram a).AllTok ok → (reprTDiagram b).AllTok ok →
    reprDiagram a = reprDiagram b → a.eqv b = true

/-! ### Derived values: `downgrade()` keeps the triple coherent

  `Box.downgrade` / `Diagram.downgrade` (Model/Downgrade.lean; monoidal.py:161-163, 328-332, 684-693):
  the objects of the types are kept, a `Swap`/`Cup`/`Cap` becomes the generic box carrying the
  name the class derives, the result is a `monoidal` value (types print their names only:
  `reprDiagramM`).  A model value has no history, so "whatever was done to the value before"
  is again the correspondence run (history stream of the check). -/

/-- `downgrade()` is total on well-typed diagrams: same `dom`, `cod`, offsets, downgraded boxes. -/
theorem downgrade_total (d : Diagram) (h : d.WF) :
    ∃ d', d.downgrade = .ok d' ∧ d'.WF ∧ d'.dom = d.dom ∧ d'.cod = d.cod ∧
      d'.boxes = d.boxes.map Box.downgrade ∧ d'.offsets = d.offsets := by
  obtain ⟨d', hd'⟩ := Diagram.downgrade_total h
  exact ⟨d', hd', Diagram.downgrade_ok hd'⟩

/-- Equal diagrams have equal downgrades … -/
theorem downgrade_eqv_congr (a b a' b' : Diagram) (h : a.eqv b = true)
    (ha : a.downgrade = .ok a') (hb : b.downgrade = .ok b') : a'.eqv b' = true :=
  Diagram.downgrade_eqv_congr h ha hb

/-- … which print alike, hence hash alike (`__hash__ = hash(repr(self))`, any string hash `H`). -/
theorem downgrade_repr_congr (a b a' b' : Diagram) (h : a.eqv b = true)
    (ha : a.downgrade = .ok a') (hb : b.downgrade = .ok b') : reprDiagramM a' = reprDiagramM b' :=
  Diagram.downgrade_repr_congr h ha hb
theorem downgrade_hash_congr {α} (H : String → α) (a b a' b' : Diagram) (h : a.eqv b = true)
    (ha : a.downgrade = .ok a') (hb : b.downgrade = .ok b') :
    H (reprDiagramM a') = H (reprDiagramM b') := by rw [Diagram.downgrade_repr_congr h ha hb]

/-- Any two `==` values of `monoidal` (downgraded or not) print alike. -/
theorem reprM_congr (a b : Diagram) (h : a.eqv b = true) : reprDiagramM a = reprDiagramM b :=
  DV.reprM_congr h

/-- A downgraded box is a generic box with the same `dom`, `cod`, `data` and dagger flag;
    downgrading is idempotent and leaves generic boxes alone. -/
theorem box_downgrade_spec (b : Box) :
    b.downgrade.kind = .gen ∧ b.downgrade.dom = b.dom ∧ b.downgrade.cod = b.cod ∧
    b.downgrade.data = b.data ∧ b.downgrade.dagger = b.dagger ∧
    b.downgrade.downgrade = b.downgrade ∧ (b.kind = .gen → b.downgrade = b) :=
  ⟨b.downgrade_kind, b.downgrade_dom, b.downgrade_cod, b.downgrade_data.1, b.downgrade_data.2,
    b.downgrade_idem, Box.downgrade_gen⟩

/-- At winding number 0 the `monoidal` printer is the `rigid` one (the two families print alike). -/
theorem reprBoxM_eq (b : Box) (hd : ∀ x ∈ b.dom, x.z = 0) (hc : ∀ x ∈ b.cod, x.z = 0) :
    reprBoxM b = reprBox b := by simp [reprBoxM, reprBox, reprTBoxM_eq hd hc]

/-- As far as true: injectivity of the printed form does NOT extend to downgraded values (`==`
    compares the winding numbers that `downgrade` keeps, `monoidal.Ty.__repr__` drops them). -/
theorem downgraded_repr_not_inj :
    ∃ a b : Box, a.downgrade ≠ b.downgrade ∧ reprBoxM a.downgrade = reprBoxM b.downgrade :=
  DV.reprBoxM_not_inj

/-! ### Non-vacuity -/

private def x : Ob := ⟨"'x'", 0⟩
private def yl : Ob := ⟨"'y'", -1⟩
private def f : Box := { name := "'f'", dom := [x], cod := [yl, yl], data := "[1, 2]" }

-- two construction histories of the same value: `(f >> f†) >> f` and `f >> (f† >> f)`, and the
-- public constructor, are `==` and print alike
private def okWith {α} (r : Except Err α) (p : α → Bool) : Bool :=
  match r with | .error _ => false | .ok d => p d
private def F : Diagram := Diagram.ofBox f

example : okWith (F.then F.dagger) (fun a => okWith (a.then F) fun l =>
    okWith (F.dagger.then F) fun b => okWith (F.then b) fun r =>
    okWith (Diagram.mk? [x] [yl, yl] [f, f.dag, f] [0, 0, 0]) fun m =>
      l.eqv r && r.eqv m) = true := by decide +kernel

example : reprDiagram F.dagger =
    "Box('f', Ty('x'), Ty(Ob('y', z=-1), Ob('y', z=-1)), data=[1, 2]).dagger()" := by decide +kernel
example : reprDiagram (Diagram.id [x, yl]) = "Id(Ty('x', Ob('y', z=-1)))" := by decide +kernel
example : (Val.box f).repr = (Val.diag F).repr := by decide +kernel

-- downgrade of a rigid diagram with a swap on adjoint types: the swap becomes a generic box named
-- by `str` of its types, the winding numbers are no longer printed
private def sw : Box := { kind := .swap, name := "-", dom := [x, yl], cod := [yl, x] }
example : (Diagram.ofBox sw).downgrade.toOption.map reprDiagramM =
    some "Box('Swap(x, y.l)', Ty('x', 'y'), Ty('y', 'x'))" := by decide +kernel
example : (Diagram.ofBox sw).WF :=
  ⟨rfl, rfl, rfl, rfl, by simp [LArrow.WF, Chain, Diagram.ofBox, Layer.dom, Layer.cod]⟩

-- the hypotheses of `repr_inj` are met by a concrete three-box rigid diagram with a daggered box
-- and numeric data
private def h : Box := { name := "'h'", dom := [x], cod := [yl, yl], data := "2.5" }
private def D3 : Diagram :=
  ⟨[x], [yl, yl], [h, h.dag, h], [0, 0, 0],
    ⟨[x], [yl, yl], [⟨[], h, []⟩, ⟨[], h.dag, []⟩, ⟨[], h, []⟩]⟩⟩
example : D3.WF :=
  ⟨rfl, rfl, rfl, rfl, by simp [LArrow.WF, Chain, D3, Layer.dom, Layer.cod, h, Box.dag]⟩
example : D3.Canon := by intro b hb; simp [D3] at hb; rcases hb with rfl | rfl | rfl <;> trivial
example : D3.TokensSafe := by
  have hx : Ty.TokensSafe [x] := by intro o ho; simp at ho; subst ho; exact lit_safe "'x'"
  have hy : Ty.TokensSafe [yl, yl] := by intro o ho; simp at ho; subst ho; exact lit_safe "'y'"
  refine ⟨hx, hy, ?_⟩
  intro b hb
  simp [D3] at hb
  rcases hb with rfl | rfl | rfl
  · exact ⟨lit_safe "'h'", .inr (lit_safe "2.5"), hx, hy⟩
  · exact ⟨lit_safe "'h'", .inr (lit_safe "2.5"), hy, hx⟩
  · exact ⟨lit_safe "'h'", .inr (lit_safe "2.5"), hx, hy⟩
-- list-valued data is outside the hygiene hypothesis (it has a comma and brackets of its own)
example : ¬ SafeTok "[1, 2]" := by
  intro hs; have := hs.2 '[' (by decide); revert this; decide

/-! ### PRO types (monoidal.PRO, rigid.PRO) -/

/-- `PRO(m) == PRO(n)` exactly when they have the same number of wires. -/
theorem pro_eq_iff (m n : Nat) : proTy m = proTy n ↔ m = n := proTy_eq_iff m n

/-- Equal PRO values print alike ... -/
theorem reprPRO_congr (s t : Ty) (h : s = t) : reprPRO s = reprPRO t := DV.reprPRO_congr h

/-- ... hence hash alike, for any string hash (`monoidal.Ty.__hash__ = hash(repr(self))`). -/
theorem pro_hash_congr {α} (H : String → α) (m n : Nat) (h : proTy m = proTy n) :
    H (reprPRO (proTy m)) = H (reprPRO (proTy n)) := by rw [h]

/-- The printed form `PRO(n)` determines the type. -/
theorem reprPRO_inj (m n : Nat) (h : reprPRO (proTy m) = reprPRO (proTy n)) : proTy m = proTy n :=
  (proTy_eq_iff m n).mpr (DV.reprPRO_inj h)

/-- Tensor and slices of PRO types are PRO types again (`upgrade` finds only objects named 1). -/
theorem pro_tensor (m n : Nat) : proTensor m n = .ok (m + n) := by
  unfold proTensor
  have : proTy m ++ proTy n = proTy (m + n) := by simp [proTy, List.replicate_append_replicate]
  rw [this, proUpgrade_proTy]
theorem pro_slice (n : Nat) (i j : Option Int) :
    proSlice n i j = .ok (pySlice (proTy n) i j).length := proSlice_ok n i j

example : reprPRO (proTy 12) = "PRO(12)" := by decide +kernel
example : proSlice 5 (some 1) (some (-1)) = .ok 3 := by decide +kernel
example : proTy 2 ≠ proTy 3 := by decide +kernel
-- a type with a foreign object is refused by `PRO.upgrade` (monoidal.py:219-221)
example : proUpgrade [proOb, ⟨"'x'", 0⟩] = .error .type := by decide +kernel

end DV.C03
