/-
  Props/C18.lean — C18 "Grammar front-ends only produce well-typed, grammatical derivations".
  Property theorems; the lemmas are in Proofs/Grammar.lean and Proofs/GrammarBoxes.lean.

  What is proved (about Model/Grammar.lean, which transcribes pregroup.eager_parse /
  brute_force, cfg.CFG.generate, biclosed.Functor.__call__ + rigid.fa … curry, ccg.cat2ty /
  tree2diagram):

  * eager_parse / brute_force: every returned diagram is well-typed, has the words' (empty)
    domain, the requested target as codomain, the given words in order followed only by cups
    `Cup(x, x.r)` sitting on adjacent wires; the only exception is NotImplementedError (so the
    loop terminates: its bound, derived from the input, is never reached).
  * CFG.generate, for EVERY oracle stream standing for `random.shuffle`: every yielded sentence
    is a closed, well-typed derivation of the start symbol, every box is one of the given
    productions applied at the leftmost open symbol, fewer than `max_depth` boxes; nothing is
    raised.
  * biclosed2rigid: for FA/BA/FC/BC/FX/BX over arbitrarily nested slash types (any number of
    objects on either side, empty sides included), for Curry with every integer `n_wires` and
    both sides, and for whole biclosed diagrams: the image is returned (no AxiomError), is
    well-typed, and its dom/cod are the images of the original's dom/cod — for the REPAIRED
    text of the code (`Variant.repaired`, findings F10 and F14).
  * every rule box has the type its rule says, for independent X, Y, Z in CCG notation
    (`X/Y = X << Y`, `X\Y = Y >> X`): FA X/Y Y ⇒ X, BA Y X\Y ⇒ X, FC X/Y Y/Z ⇒ X/Z,
    BC Y\Z X\Y ⇒ X\Z, FX X/Y Y\Z ⇒ X\Z, BX Y/Z X\Y ⇒ X/Z (`rules_as_stated`); the images of the
    crossed compositions written out for X ≠ Z, both variants
    (`crossed_composition_type_preserving`).
  * For the code AS IT IS (`Variant.asIs`) the same statement is FALSE; the negation is proved
    on concrete witnesses (`ba_asIs_raises`, `ba_asIs_wrong_type`, `curry_asIs_raises`) and the
    positive theorem is kept with the excluding hypotheses (`…_partial`): BA's left side is one
    object, right-curried wires have a non-empty image.
  * words and generic boxes (`Word(name, cod, dom=…, _dagger=…)` of cfg/ccg, `biclosed.Box`) with
    an ARBITRARY domain — empty (the default), atomic, nested, several objects — and either
    dagger flag: the image is exactly one box of the same name from the image of the domain to
    the image of the codomain (`word_type_preserving`, `box_image`), for both variants.
  * whole diagrams keep their words and boxes: besides cups, caps and swaps the image contains
    exactly one box per word / generic box of the source (those inside curried diagrams
    included), in the source's order, each over the images of its domain and codomain
    (`biclosed2rigid_preserves_boxes`).
  * tree2diagram(tree, dom=…): every CCG derivation it accepts is a well-typed biclosed diagram
    whose domain is the optional `dom` for a leaf tree and empty otherwise, and whose
    translation is type-preserving — for BOTH variants (CCG categories are single objects, so
    the shapes of F10/F14 never arise).

  * cat2ty: returns single-object categories only, and reads the fully parenthesised print of
    every category back to the type it denotes (`cat2ty_round_trip`).

  Nothing of the property's statement is left unproved for the model.  What the theorems do
  not reach: the Python text itself (tied by the correspondence run), `random.shuffle`
  (an arbitrary oracle in the model), daggered RULE boxes (daggered words and generic boxes are modelled: `Rule.dgen`), names that are not identifiers.
-/
import Proofs.Grammar
import Proofs.GrammarBoxes

namespace DV.C18
open DV

/-! ### pregroup.eager_parse / brute_force -/

/-- Whatever `eager_parse(*words, target)` returns is well-typed, has the words' domain, the
    target as codomain, and consists of the words in order followed only by cups `Cup(x, x.r)`. -/
theorem eager_parse_spec (words : List Box) (target : Ty) (d : Diagram)
    (h : eagerParse words target = .ok d) :
    d.WF ∧ d.dom = words.flatMap (·.dom) ∧ d.cod = target ∧
      ∃ cups, d.boxes = words ++ cups ∧ ∀ c ∈ cups, ∃ x : Ob, c = Box.cup x x.r :=
  eagerParse_spec h

/-- With words of empty domain (`Word(name, cod)`) the parse is a closed diagram. -/
theorem eager_parse_closed (words : List Box) (target : Ty) (d : Diagram)
    (hw : ∀ w ∈ words, w.dom = []) (h : eagerParse words target = .ok d) : d.dom = [] := by
  rw [(eagerParse_spec h).2.1]
  exact List.flatMap_eq_nil_iff.mpr hw

/-- Every layer after the words is a cup on ADJACENT ADJOINT wires: the type it is applied to
    reads `left ++ [x, x.r] ++ right` (well-typedness puts the box's domain at its offset). -/
theorem eager_parse_cups_adjacent (words : List Box) (target : Ty) (d : Diagram)
    (h : eagerParse words target = .ok d) :
    ∀ l ∈ d.layers.boxes.drop words.length,
      ∃ x : Ob, l.box = Box.cup x x.r ∧ l.dom = l.left ++ [x, x.r] ++ l.right := by
  obtain ⟨w, _, _, cups, hb, hc⟩ := eagerParse_spec h
  intro l hl
  have hmem : l.box ∈ (d.layers.boxes.drop words.length).map (·.box) := List.mem_map_of_mem hl
  rw [List.map_drop, ← w.boxes, hb, List.drop_left] at hmem
  obtain ⟨x, hx⟩ := hc _ hmem
  exact ⟨x, hx, by simp [Layer.dom, hx, Box.cup]⟩

/-- The only exception is `NotImplementedError`: in particular the loop needs no fuel — the
    bound `eagerParse` derives from the input is never reached (`|scan|` drops by 2). -/
theorem eager_parse_only_notimpl (words : List Box) (target : Ty) (e : Err)
    (h : eagerParse words target = .error e) : e = .notImpl := eagerParse_error h

/-- `brute_force` only yields `eager_parse` results of word sequences over the vocabulary. -/
theorem brute_force_sound (vocab : List Box) (target : Ty) (k : Nat) (d : Diagram)
    (h : d ∈ bruteForce vocab target k) :
    ∃ ws, (∀ w ∈ ws, w ∈ vocab) ∧ eagerParse ws target = .ok d :=
  bruteForceLoop_sound vocab target k [[]] (by simp) d h

/-! ### cfg.CFG.generate -/

/-- For every oracle stream (= every behaviour of `random.shuffle`): each yielded sentence is a
    well-typed closed derivation of the start symbol using only the given productions, each
    applied at the leftmost open symbol, with fewer than `max_depth` productions. -/
theorem cfg_generate_sound (P : CfgParams) (oracle : List (List Nat)) (res : List Diagram)
    (h : cfgGenerate P oracle = .ok res) :
    ∀ s ∈ res, s.WF ∧ s.dom = [] ∧ s.cod = P.start ∧ (∀ b ∈ s.boxes, b ∈ P.productions) ∧
      (∀ o ∈ s.offsets, o = 0) ∧ s.boxes.length < P.maxDepth.toNat := by
  intro s hs
  obtain ⟨g, hd, hl⟩ := (cfgGenerate_outcome P oracle).of_ok h s hs
  exact ⟨g.wf, hd, g.cod, g.boxes, g.offsets, hl⟩

/-- `generate` raises nothing: the model fails only when the oracle stream is shorter than
    the number of shuffles the run performs. -/
theorem cfg_generate_no_exception (P : CfgParams) (oracle : List (List Nat)) (e : Err)
    (h : cfgGenerate P oracle = .error e) : e = .fuel :=
  (cfgGenerate_outcome P oracle).of_error h

/-! ### the object map of biclosed2rigid -/

/-- `|F(x << y)| = |F x| + |F y|` and `|F(x >> y)| = |F x| + |F y|`. -/
theorem img_slash_length (x y : BTy) :
    (BTy.img (BTy.over x y)).length = (BTy.img x).length + (BTy.img y).length ∧
    (BTy.img (BTy.under x y)).length = (BTy.img x).length + (BTy.img y).length :=
  ⟨by simp, by simp⟩

theorem img_monoidal (a b : BTy) : BTy.img (a ++ b) = BTy.img a ++ BTy.img b := BTy.img_append a b

theorem adjoint_laws (t a b : Ty) :
    Ty.r (Ty.l t) = t ∧ Ty.l (Ty.r t) = t ∧ Ty.l (a ++ b) = Ty.l b ++ Ty.l a ∧
      Ty.r (a ++ b) = Ty.r b ++ Ty.r a :=
  ⟨Ty.l_r t, Ty.r_l t, Ty.l_append a b, Ty.r_append a b⟩

/-! ### biclosed2rigid on rule boxes -/

/-- REPAIRED code: for every rule box FA/BA/FC/BC/FX/BX (and every generic box) over arbitrarily
    nested slash types the image is returned, well-typed, with dom/cod the images of the
    box's dom/cod. -/
theorem biclosed2rigid_type_preserving (r : Rule) (hc : r.check = true) :
    ∃ d, r.img Variant.repaired = .ok d ∧ d.WF ∧ d.dom = BTy.img r.dom ∧ d.cod = BTy.img r.cod :=
  Rule.img_has Variant.repaired r hc (Rule.okFor_repaired r)

/-- Every rule box has the type its rule says, for independent `X`, `Y`, `Z` (`X/Y = X << Y`,
    `X\Y = Y >> X`, the convention of `ccg.cat2ty`):

        FA  X/Y  Y   ⇒ X        BA  Y    X\Y ⇒ X
        FC  X/Y  Y/Z ⇒ X/Z      BC  Y\Z  X\Y ⇒ X\Z
        FX  X/Y  Y\Z ⇒ X\Z      BX  Y/Z  X\Y ⇒ X/Z

    and premises that fit the rule are accepted by the constructor. -/
theorem rules_as_stated (X Y Z : BTy) :
    ((Rule.fa X Y).check = true ∧ (Rule.fa X Y).dom = BTy.fwd X Y ++ Y ∧ (Rule.fa X Y).cod = X) ∧
    ((Rule.ba Y X).check = true ∧ (Rule.ba Y X).dom = Y ++ BTy.bwd X Y ∧ (Rule.ba Y X).cod = X) ∧
    ((Rule.fc X Y Y Z).check = true ∧ (Rule.fc X Y Y Z).dom = BTy.fwd X Y ++ BTy.fwd Y Z ∧
      (Rule.fc X Y Y Z).cod = BTy.fwd X Z) ∧
    ((Rule.bc Z Y Y X).check = true ∧ (Rule.bc Z Y Y X).dom = BTy.bwd Y Z ++ BTy.bwd X Y ∧
      (Rule.bc Z Y Y X).cod = BTy.bwd X Z) ∧
    ((Rule.fx X Y Z Y).check = true ∧ (Rule.fx X Y Z Y).dom = BTy.fwd X Y ++ BTy.bwd Y Z ∧
      (Rule.fx X Y Z Y).cod = BTy.bwd X Z) ∧
    ((Rule.bx Y Z Y X).check = true ∧ (Rule.bx Y Z Y X).dom = BTy.fwd Y Z ++ BTy.bwd X Y ∧
      (Rule.bx Y Z Y X).cod = BTy.fwd X Z) := by
  simp [Rule.check, Rule.dom, Rule.cod]

/-- Crossed compositions with INDEPENDENT outer types `X`, `Z` (the library's own tests use
    `X = Z`, where `X\Z` and `Z\X` coincide), both variants of the code: the image of
    `FX(X/Y, Y\Z)` goes from `F X @ (F Y).l @ (F Z).r @ F Y` to `(F Z).r @ F X = F(X\Z)`, the
    image of `BX(Y/Z, X\Y)` from `F Y @ (F Z).l @ (F Y).r @ F X` to `F X @ (F Z).l = F(X/Z)`. -/
theorem crossed_composition_type_preserving (v : Variant) (X Y Z : BTy) :
    (∃ d, (Rule.fx X Y Z Y).img v = .ok d ∧ d.WF ∧
      d.dom = BTy.img X ++ Ty.l (BTy.img Y) ++ (Ty.r (BTy.img Z) ++ BTy.img Y) ∧
      d.cod = Ty.r (BTy.img Z) ++ BTy.img X) ∧
    (∃ d, (Rule.bx Y Z Y X).img v = .ok d ∧ d.WF ∧
      d.dom = BTy.img Y ++ Ty.l (BTy.img Z) ++ (Ty.r (BTy.img Y) ++ BTy.img X) ∧
      d.cod = BTy.img X ++ Ty.l (BTy.img Z)) := by
  obtain ⟨d, h, w, hd, hc⟩ := Rule.img_has v (.fx X Y Z Y) (by simp [Rule.check]) trivial
  obtain ⟨e, h', w', hd', hc'⟩ := Rule.img_has v (.bx Y Z Y X) (by simp [Rule.check]) trivial
  exact ⟨⟨d, h, w, by rw [hd]; simp [Rule.dom, BTy.img_append], by rw [hc]; simp [Rule.cod]⟩,
    ⟨e, h', w', by rw [hd']; simp [Rule.dom, BTy.img_append], by rw [hc']; simp [Rule.cod]⟩⟩

/-- Words and generic boxes with an arbitrary domain, both variants: the image of
    `Word(name, cod, dom=dom, _dagger=dagger)` is the single box `name : F(dom) → F(cod)` (with the
    same dagger flag) — in particular its domain is the image of the word's domain, whether that
    is the default empty type or any nested slash type. -/
theorem word_type_preserving (v : Variant) (name : String) (cod dom : BTy) (dagger : Bool) :
    (mkWord name cod dom dagger).img v = .ok (Diagram.ofBox
        { name := name, dom := BTy.img dom, cod := BTy.img cod, dagger := dagger }) ∧
      (mkWord name cod dom dagger).dom = dom ∧ (mkWord name cod dom dagger).cod = cod := by
  refine ⟨?_, mkWord_dom .., mkWord_cod ..⟩
  cases dagger <;> simp [mkWord, wordDom_eq, Rule.img, Rule.check, Rule.imgCore, Box.dag]

/-- The image of a generic `biclosed.Box(name, dom, cod)` is one box over the images. -/
theorem box_image (v : Variant) (name : String) (dom cod : BTy) :
    (Rule.gen name dom cod).img v =
      .ok (Diagram.ofBox { name := name, dom := BTy.img dom, cod := BTy.img cod }) ∧
    (Rule.dgen name dom cod).img v =
      .ok (Diagram.ofBox { name := name, dom := BTy.img dom, cod := BTy.img cod, dagger := true }) := by
  constructor <;> simp [Rule.img, Rule.check, Rule.imgCore, Box.dag]

/-- The same for `BA` alone, in the terms of finding F10. -/
theorem ba_type_preserving (l r : BTy) :
    ∃ d, (Rule.ba l r).img Variant.repaired = .ok d ∧ d.WF ∧
      d.dom = BTy.img l ++ (Ty.r (BTy.img l) ++ BTy.img r) ∧ d.cod = BTy.img r := by
  obtain ⟨d, h, w, hd, hc⟩ := biclosed2rigid_type_preserving (.ba l r) rfl
  exact ⟨d, h, w, by rw [hd]; simp [Rule.dom, BTy.img_append], hc⟩

/-- Code AS IT IS: every rule other than `BA`, and `BA` when the left side of its `Under` is
    exactly one object. -/
theorem biclosed2rigid_type_preserving_partial (r : Rule) (hc : r.check = true)
    (hba : ∀ l rr, r = .ba l rr → l.length = 1) :
    ∃ d, r.img Variant.asIs = .ok d ∧ d.WF ∧ d.dom = BTy.img r.dom ∧ d.cod = BTy.img r.cod := by
  refine Rule.img_has Variant.asIs r hc ?_
  match r, hba with
  | .ba l rr, hba => exact Or.inr (hba l rr rfl)
  | .gen .., _ | .dgen .., _ | .fa .., _ | .fc .., _ | .bc .., _ | .fx .., _ | .bx .., _ => trivial

/-- A box its constructor refuses (`TypeError`) is refused by the model. -/
theorem rule_refused (v : Variant) (r : Rule) (hc : r.check = false) : r.img v = .error .type := by
  simp [Rule.img, hc]

/-! ### Curry boxes and whole diagrams -/

/-- REPAIRED code: `biclosed2rigid(Curry(d, n_wires, left))` for every integer `n_wires` and
    both sides, given a type-preserving image `g` of `d`. -/
theorem curry_type_preserving (ddom dcod : BTy) (g : Diagram) (n : Int) (left : Bool)
    (hg : g.WF) (hd : g.dom = BTy.img ddom) (hc : g.cod = BTy.img dcod) :
    ∃ d, curryImg Variant.repaired ddom g n left = .ok d ∧ d.WF ∧
      d.dom = BTy.img (curryDom Variant.repaired ddom n left) ∧
      d.cod = BTy.img (curryCod ddom dcod n left) :=
  curryImg_has Variant.repaired ddom dcod g n left hg hd hc (Or.inr (Or.inl rfl))

/-- Code AS IT IS: left currying for every `n_wires`; right currying when the curried wires
    have a non-empty image (finding F14 is the complement). -/
theorem curry_type_preserving_partial (ddom dcod : BTy) (g : Diagram) (n : Int) (left : Bool)
    (hg : g.WF) (hd : g.dom = BTy.img ddom) (hc : g.cod = BTy.img dcod)
    (hok : left = true ∨ BTy.img (curryWires ddom n false) ≠ []) :
    ∃ d, curryImg Variant.asIs ddom g n left = .ok d ∧ d.WF ∧
      d.dom = BTy.img (curryDom Variant.asIs ddom n left) ∧
      d.cod = BTy.img (curryCod ddom dcod n left) :=
  curryImg_has Variant.asIs ddom dcod g n left hg hd hc
    (hok.elim Or.inl (fun h => Or.inr (Or.inr h)))

/-- REPAIRED code: every well-typed biclosed diagram (rule boxes, generic boxes, Curry boxes of
    well-typed diagrams, nested to any depth) has a well-typed image whose dom/cod are the
    images of its dom/cod. -/
theorem biclosed2rigid_diagram_type_preserving (d : BD) (ht : d.Typed Variant.repaired) :
    ∃ g, d.img Variant.repaired = .ok g ∧ g.WF ∧ g.dom = BTy.img d.dom ∧
      g.cod = BTy.img (d.cod Variant.repaired) :=
  BD.img_has Variant.repaired d ht (BD.avoids_repaired d)

/-- The translation keeps the words and boxes: the image's boxes other than cups, caps and swaps
    are, in order, the images `name : F(dom) → F(cod)` of the source's words and generic boxes
    (`BD.gens`; the contents of curried diagrams included) — whenever an image is returned, for
    either variant; and for the repaired code one is returned for every well-typed diagram. -/
theorem biclosed2rigid_preserves_boxes (v : Variant) (d : BD) (g : Diagram)
    (h : d.img v = .ok g) : g.gens = d.gens :=
  BD.img_gens v d g h

theorem biclosed2rigid_preserves_boxes_total (d : BD) (ht : d.Typed Variant.repaired) :
    ∃ g, d.img Variant.repaired = .ok g ∧ g.gens = d.gens := by
  obtain ⟨g, hg, _⟩ := BD.img_has Variant.repaired d ht (BD.avoids_repaired d)
  exact ⟨g, hg, BD.img_gens _ d g hg⟩

/-- Code AS IT IS: the same for diagrams without a box of the shapes of F10/F14. -/
theorem biclosed2rigid_diagram_type_preserving_partial (d : BD) (ht : d.Typed Variant.asIs)
    (ha : d.Avoids Variant.asIs) :
    ∃ g, d.img Variant.asIs = .ok g ∧ g.WF ∧ g.dom = BTy.img d.dom ∧
      g.cod = BTy.img (d.cod Variant.asIs) :=
  BD.img_has Variant.asIs d ht ha

/-! ### CCG -/

/-- `cat2ty` returns categories only: one object, and one object on each side of every slash. -/
theorem cat2ty_category (s : List Char) (t : BTy) (h : cat2ty s = .ok t) : t.Simple1 := cat2ty_simple h

/-- Whatever `tree2diagram(tree, dom=dom)` returns is a well-typed biclosed diagram whose domain
    is `dom` for a leaf tree and empty for an inner node (`CTree.domOf`), and its translation is
    type-preserving — for every `dom`, for the code as it is and for the repaired code alike. -/
theorem tree2diagram_type_preserving (v : Variant) (t : CTree) (dom : BTy) (d : BD)
    (h : t.toBD v dom = .ok d) :
    d.Typed v ∧ d.dom = t.domOf dom ∧
      ∃ g, d.img v = .ok g ∧ g.WF ∧ g.dom = BTy.img (t.domOf dom) ∧ g.cod = BTy.img (d.cod v) := by
  have g := CTree.toBD_good v t dom d h
  exact ⟨g.typed, g.dom, g.dom ▸ BD.img_has v d g.typed g.avoids⟩

/-- With the default `dom=Ty()` the derivation is closed. -/
theorem tree2diagram_closed (v : Variant) (t : CTree) (d : BD) (h : t.toBD v [] = .ok d) :
    d.dom = [] := by
  rw [(CTree.toBD_good v t [] d h).dom, CTree.domOf_nil]

/-- `cat2ty` reads the fully parenthesised print of a category (depccg's format: parentheses
    around every slash category below the top, atoms free of parentheses and slashes, feature
    annotations `[…]` allowed) back to the biclosed type the category denotes:
    `X/Y ↦ X << Y`, `X\Y ↦ Y >> X`, features dropped. -/
theorem cat2ty_round_trip (c : Cat) (hc : c.Plain) : cat2ty c.print = .ok c.ty :=
  cat2tyFuel_print c hc _ (Nat.le_refl _)

/-! ### Non-vacuity and the witnesses of F10 / F14 -/

private def isErr (r : Except Err Diagram) (e : Err) : Bool :=
  match r with | .error e' => e' == e | .ok _ => false
private def okWith (r : Except Err Diagram) (p : Diagram → Bool) : Bool :=
  match r with | .error _ => false | .ok d => p d

private def n : Ob := ⟨"n", 0⟩
private def s : Ob := ⟨"s", 0⟩
private def Alice : Box := { name := "Alice", dom := [], cod := [n] }
private def loves : Box := { name := "loves", dom := [], cod := [n.r, s, n.l] }
private def Bob : Box := { name := "Bob", dom := [], cod := [n] }

/-- "Alice loves Bob" parses to `s` with the two expected cups, at offsets 0 and 1. -/
example : okWith (eagerParse [Alice, loves, Bob] [s]) (fun d =>
    d.boxes == [Alice, loves, Bob, Box.cup n n.r, Box.cup n.l n] && d.offsets == [0, 1, 4, 0, 1]
      && d.dom == [] && d.cod == [s]) = true := by decide +kernel
/-- … and "loves Alice Bob" is refused with NotImplementedError. -/
example : isErr (eagerParse [loves, Alice, Bob] [s]) .notImpl = true := by decide +kernel
/-- brute force over {Alice, loves} with target `n`: the first queue entry (the empty word
    sequence) already yields one parse, "Alice". -/
example : (bruteForce [Alice, loves] [n] 1).length = 1 := by decide +kernel

private def S : Ob := ⟨"S", 0⟩
private def NP : Ob := ⟨"NP", 0⟩
private def VP : Ob := ⟨"VP", 0⟩
private def R0 : Box := { name := "R0", dom := [NP, VP], cod := [S] }
private def jane : Box := { name := "Jane", dom := [], cod := [NP] }
private def runs : Box := { name := "runs", dom := [], cod := [VP] }
private def G : CfgParams :=
  { productions := [R0, jane, runs], start := [S], maxSentences := 1, maxDepth := 6, maxIter := 5,
    removeDuplicates := false, notTwice := [] }

/-- One sentence `Jane runs`, derived leftmost: runs, Jane, R0 read top-down. -/
example : (match cfgGenerate G [[0, 1, 2], [1, 0, 2], [2, 1, 0]] with
    | .ok [d] => d.boxes == [runs, jane, R0] && d.dom == [] && d.cod == [S]
    | _ => false) = true := by decide +kernel

private def x : BTy := [.atom "x"]
private def y : BTy := [.atom "y"]
private def z : BTy := [.atom "z"]

/-- Composite, nested sides: `FA(((x << y) @ z) << (y @ (x >> z)))`: the image of the domain
    has 9 wires (3 for the result, 3 for the adjoint of the argument, 3 for the argument). -/
example : okWith ((Rule.fa (BTy.over x y ++ z) (y ++ BTy.under x z)).img Variant.repaired)
    (fun d => d.dom.length == 9 && d.cod.length == 3 && d.boxes.length == 3) = true := by decide +kernel

/-- Forward crossed composition with different outer types, `FX(x/y, y\(z @ x))`: the conclusion
    is `x\(z @ x) = (z @ x) >> x` — NOT `x >> (z @ x)` — and the image's codomain is its image
    `x.r @ z.r @ x`. -/
example : (Rule.fx x y (z ++ x) y).cod = BTy.under (z ++ x) x ∧
    (Rule.fx x y (z ++ x) y).cod ≠ BTy.under x (z ++ x) := by decide +kernel
example : okWith ((Rule.fx x y (z ++ x) y).img Variant.current) (fun d =>
    d.cod == [⟨"x", 1⟩, ⟨"z", 1⟩, ⟨"x", 0⟩] && d.cod == BTy.img (BTy.bwd x (z ++ x)) &&
    d.dom.length == 5) = true := by decide +kernel
/-- Backward crossed composition `BX(y/z, x\y)` with `x ≠ z`: conclusion `x/z`. -/
example : okWith ((Rule.bx y z y x).img Variant.current) (fun d =>
    d.cod == [⟨"x", 0⟩, ⟨"z", -1⟩] && d.dom.length == 4) = true := by decide +kernel

/-- F10, the reported witness: with the code as it is `biclosed2rigid(BA((x @ y) >> z))` raises
    AxiomError … -/
theorem ba_asIs_raises : isErr ((Rule.ba (x ++ y) z).img Variant.asIs) .axiom = true := by decide +kernel
/-- … with the repaired split it is the two nested cups `x @ y @ y.r @ x.r @ z → z`. -/
example : okWith ((Rule.ba (x ++ y) z).img Variant.repaired) (fun d =>
    d.dom == BTy.img (Rule.ba (x ++ y) z).dom && d.cod == BTy.img z && d.boxes.length == 2) = true := by
  decide +kernel
/-- F10 can also pass silently: for `BA(((x << x) @ x) >> z)` the code as it is returns a diagram
    whose codomain is `x @ x.r @ z` instead of `z`. -/
theorem ba_asIs_wrong_type :
    okWith ((Rule.ba (BTy.over x x ++ x) z).img Variant.asIs) (fun d =>
      d.cod != BTy.img (Rule.ba (BTy.over x x ++ x) z).cod &&
      d.cod == [⟨"x", 0⟩, ⟨"x", 1⟩, ⟨"z", 0⟩]) = true := by decide +kernel
/-- so type preservation of the code as it is fails for `BA`: -/
theorem ba_asIs_not_type_preserving :
    ¬ ∀ l r : BTy, ∃ d, (Rule.ba l r).img Variant.asIs = .ok d ∧ d.dom = BTy.img (Rule.ba l r).dom ∧
      d.cod = BTy.img (Rule.ba l r).cod := by
  intro h
  obtain ⟨d, hd, _, _⟩ := h (x ++ y) z
  have := ba_asIs_raises
  rw [hd] at this
  simp [isErr] at this

private def f : BD := BD.ofRule (.gen "f" (x ++ y) z)

/-- F14: with the code as it is `biclosed2rigid(Curry(f, 0))` (f : x @ y → z) raises AxiomError … -/
theorem curry_asIs_raises : isErr (BD.curryBoxImg Variant.asIs f 0 false) .axiom = true := by decide +kernel
/-- … the repaired code returns `f : x @ y → z` (currying no wire). -/
example : okWith (BD.curryBoxImg Variant.repaired f 0 false) (fun d =>
    d.dom == BTy.img (x ++ y) && d.cod == BTy.img z && d.boxes.length == 1) = true := by decide +kernel
/-- Right-currying the last wire, as is: `x → z @ y.l`, one cap and `f`. -/
example : okWith (BD.curryBoxImg Variant.asIs f 1 false) (fun d =>
    d.dom == BTy.img x && d.cod == BTy.img (BTy.over z y) && d.boxes.length == 2) = true := by decide +kernel

/-- A CCG derivation: `Alice (loves Bob)`, via `fa` then `ba`, translates to two cups. -/
private def tree : CTree :=
  .node "'ba'" ['S'] [.word "'Alice'" ['N', 'P'],
    .node "'fa'" ['S', '\\', 'N', 'P']
      [.word "'loves'" ['(', 'S', '\\', 'N', 'P', ')', '/', 'N', 'P'], .word "'Bob'" ['N', 'P']]]
example : (match tree.toBD Variant.asIs [] with
    | .ok d => okWith (d.img Variant.asIs) (fun g => g.dom == [] && g.cod == [⟨"'S'", 0⟩]
        && g.boxes.length == 5)
    | .error _ => false) = true := by decide +kernel

/-- A leaf tree with the optional domain: `tree2diagram({'word': 'that', 'cat': 'S/NP'},
    dom=(x << y) @ z)` is the word `that : (x << y) @ z → S << NP`; its image goes from the
    3-wire image `x @ y.l @ z` of the domain to `S @ NP.l`. -/
example : (match (CTree.word "'that'" ['S', '/', 'N', 'P']).toBD Variant.current (BTy.over x y ++ z) with
    | .ok d => d.dom == BTy.over x y ++ z && okWith (d.img Variant.current) (fun g =>
        g.dom == [⟨"x", 0⟩, ⟨"y", -1⟩, ⟨"z", 0⟩] && g.cod == [⟨"'S'", 0⟩, ⟨"'NP'", -1⟩] &&
        g.boxes.length == 1)
    | .error _ => false) = true := by decide +kernel
/-- … an inner node ignores the argument: the derivation stays closed. -/
example : (match tree.toBD Variant.current (BTy.over x y ++ z) with
    | .ok d => d.dom == [] | .error _ => false) = true := by decide +kernel
/-- A word with a nested domain inside a diagram, followed by a rule: the generic boxes of the
    image are the two words, in order. -/
example : (match (BD.snoc (BD.snoc (BD.snoc (.id z) 0 (mkWord "w" (BTy.over x y) z false)) 1
      (mkWord "u" y [] true)) 0 (.fa x y)).img Variant.current with
    | .ok g => g.gens == [{ name := "w", dom := [⟨"z", 0⟩], cod := [⟨"x", 0⟩, ⟨"y", -1⟩] },
        { name := "u", dom := [], cod := [⟨"y", 0⟩], dagger := true }] && g.boxes.length == 3
    | .error _ => false) = true := by decide +kernel

/-- `(S[dcl]\NP)/NP` is a plain category; its print parses back to `(NP >> S) << NP`. -/
private def tv : Cat :=
  .fwd (.bwd (.atom ['S', '[', 'd', 'c', 'l', ']']) (.atom ['N', 'P'])) (.atom ['N', 'P'])
example : tv.Plain := by
  simp only [tv, Cat.Plain, PlainChar]
  decide +kernel
example : tv.print = ['(', 'S', '[', 'd', 'c', 'l', ']', '\\', 'N', 'P', ')', '/', 'N', 'P'] := by
  decide +kernel
example : tv.ty = BTy.over (BTy.under [.atom "'NP'"] [.atom "'S'"]) [.atom "'NP'"] := by decide +kernel

end DV.C18
