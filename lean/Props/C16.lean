/-
  Props/C16.lean — C16 "Circuits translate to ZX diagrams denoting the same linear map".
  Property theorems only; proofs in Proofs/ZXTable.lean (finite tables by
  `decide` in exact ℤ[ζ₈][1/2] arithmetic), Proofs/Gates.lean (symbolic in the phase, arbitrary
  commutative ring) and Proofs/GatesComplex.lean (ℂ, every real phase).

  Standard interpretation (Model/Gates.lean): `Z(n, m, ψ) = |0…0⟩⟨0…0| + e^{2πiψ}|1…1⟩⟨1…1|`, X the same
  over `|±⟩`, Hadamard, swap, scalar; a `boxes/offsets` diagram denotes the ordered product of
  `1 ⊗ box ⊗ 1` (`evalZX`).  Matrices in discopy's `[input, output]` order.

  PROVED — `gate2zx_sound g : ⟦gate2zx g⟧ = k g • eval g`, with an explicit `k g ≠ 0`, for every entry of
  the table zx.py:368-396 that is sound:
      H, X, Y, Z (k = 1; −1 for Y while F17 is open), CX, CZ (k = 1/√2), SWAP, scalar (k = 1),
      Ket / Bra of EVERY bitstring (k = 1; `gate2zx_ketbra_sound`, `ket_zxOK`, `bra_zxOK` of Proofs/KetBra.lean —
      `gate2zx_sound_ketbra` below is tabulated over `bitstringsUpTo3`, length ≤ 3), Rz(φ), Rx(φ) at EVERY real φ (k = e^{iπφ}).
  For CRz, CRx, CU1 the table is UNSOUND (finding F7):
      * the CORRECTED decompositions are sound at every real phase (k = 1/√2);
      * the decompositions as they are denote CRz(2φ) / CU1(2φ) (every real φ) and are proportional to the
        gate ONLY where e^{iπφ} = 1 resp. e^{2πiφ} = 1; for all three a concrete refutation at φ = 1/4.
  `zx_dagger`: the dagger of every generator (any arity, any phase) denotes the conjugate transpose;
  `zx_dagger_scalar_value`: in the executable model, for every scalar VALUE (numeric types of the Python
  data are not modelled), conjugating Gaussian dyadic rationals, the identity exactly on the real ones;
  `gate2zx_arity`: images are well typed with the gate's numbers of inputs and outputs.
  WHOLE CIRCUITS AND DIAGRAMS (Proofs/CircuitAlg.lean, CircuitCyc8.lean, RotCyc8.lean, KetBra.lean,
  CircuitTablesZX.lean):
      * over EVERY commutative (star) ring: composition of well-typed ZX diagrams is the matrix product
        (`zx_compose`), placing a sub-diagram at an offset is `1_l ⊗ ⟦d⟧ ⊗ 1_r` (`zx_whisker`), hence a
        box-by-box translation whose images denote `k_i • U_i` denotes `(∏ k_i) • ⟦circuit⟧`
        (`circuit2zx_sound_generic`); `⟦d†⟧ = ⟦d⟧ᴴ` for every well-typed diagram of any generators and any
        phases (`zx_diagram_dagger_generic`, by induction from `zx_dagger`);
      * for the executable model: `circuit2zx_sound` — the corrected `circuit2zx` of every well-typed
        circuit over the translated gate set (table, Rz/Rx/CRz/CRx/CU1 at every even integer phase index, kets
        and bras ≤ 4 bits (the list `zxTableC` inside the definition `Gate.inZXSet`; the per-gate fact holds for
        every bitstring) ANYWHERE in the circuit — a `Circ` is any well-typed list of layers, so states and
        effects in the middle, to the left or right of rotated wires, are included —, normalised scalars, and
        square-root scalars `sqrt(z)` — the subclass `gates.Sqrt` of `gates.Scalar`, translated to the scalar
        box of its DATA — whose value is invertible in ℤ[ζ₈][1/2] or zero: `gate2zx_sound_sqrt`; `Circuit.cups`
        / `caps` are `CX ≫ H ⊗ sqrt(2) ⊗ 1 ≫ Bra(0,0)` and its dagger: `cup`, `cap` below) is a well-typed
        diagram denoting `k • ⟦c⟧` for ONE invertible, hence non-zero, `k`; `circuit2zx_sound_asis_partial` the same for the table as it is on circuits
        without CRz/CRx/CU1; `zx_diagram_dagger` for every well-typed diagram with normalised scalars.
  NOT PROVED (decided on every run by the oracle and exact correspondence)
      * odd phase indices inside whole circuits (the per-gate hypothesis `Gate.zxOK` is decidable:
        `circuit2zx_sound_of`); kets / bras of more than 4 bits are outside `Gate.inZXSet`, hence outside the
        STATEMENT `circuit2zx_sound`, but `Gate.zxOK` is proved for them (`ket_zxOK`, `bra_zxOK`), so
        `circuit2zx_sound_of` applies; `gate2zx_sound` for the as-is `CRx`
        symbolically (its image has no neat closed form; refuted at φ = 1/4); square-root scalars whose value
        is a non-zero NON-unit of ℤ[ζ₈][1/2] (`sqrt(9)`, `sqrt(-3+4i)`): the whole-circuit theorem gets its
        non-zero overall scalar from invertibility of the per-gate scalars.
-/
import Proofs.ZXTable
import Proofs.GatesComplex
import Proofs.CircuitProps
import Proofs.ZXScalarValue

namespace DV.C16
open DV DV.Gates

/-- The number 2 of ℤ[ζ₈][1/2] (the data of the `sqrt(2)` in `Circuit.cups`). -/
def two : Cyc8 := ⟨2, 0, 0, 0, 0⟩

/-! ### gate2zx is sound on the phase-free part of the table -/

/-- zx.py:389-395 and SWAP in the executable model: `⟦gate2zx g⟧ = k • eval g`, `k ≠ 0`. -/
theorem gate2zx_sound_named :
    ∀ p ∈ zxNamed, zxEvalOf false p.2 = .ok (msmul (zxScalarNamed p.1) p.2.eval) ∧
      zxScalarNamed p.1 ≠ 0 := gate2zx_named_sound

/-- The same entries over an arbitrary commutative ring with `2r² = 1` (the images denote the
    STANDARD matrices; `Y` in `[input, output]` order is `[[0, i], [−i, 0]]`). -/
theorem gate2zx_sound_named_symbolic {R : Type} [CommRing R] (r i : R) (hr : 2 * r * r = 1) :
    evalZX r 1 zxH = hMat r ∧
    evalZX r 1 zxZ = [[1, 0], [0, -1]] ∧
    evalZX r 1 zxX = [[0, 1], [1, 0]] ∧
    evalZX r 1 (zxY i) = [[0, i], [-i, 0]] ∧
    evalZX r 2 zxCZ = msmul r [[1, 0, 0, 0], [0, 1, 0, 0], [0, 0, 1, 0], [0, 0, 0, -1]] ∧
    evalZX r 2 zxCX = msmul r [[1, 0, 0, 0], [0, 1, 0, 0], [0, 0, 0, 1], [0, 0, 1, 0]] :=
  zxNamed_sound r i hr

/-- Kets and bras: the image denotes the basis vector exactly.  Tabulated over the bitstrings of length ≤ 3; an
    instance of `gate2zx_ketbra_sound`, which holds for every bitstring (the membership hypothesis is not used). -/
theorem gate2zx_sound_ketbra :
    ∀ bs ∈ bitstringsUpTo3,
      zxEvalOf false (.ket bs) = .ok (Gate.ket bs).eval ∧
      zxEvalOf false (.bra bs) = .ok (Gate.bra bs).eval := fun bs _ => gate2zx_ketbra_sound false bs

/-! ### rotations, every real phase -/

/-- `⟦Z(1,1,φ)⟧ = e^{iπφ} • Rz(φ)` and `⟦X(1,1,φ)⟧ = e^{iπφ} • Rx(φ)` for every real `φ`; `e^{iπφ} ≠ 0`. -/
theorem gate2zx_sound_rot1 (φ : ℝ) :
    evalZX rC 1 [(.z 1 1 (spiderVal φ), 0)] = msmul (nuC φ) (RzC φ) ∧
    evalZX rC 1 [(.x 1 1 (spiderVal φ), 0)] = msmul (nuC φ) (RxC φ) ∧ nuC φ ≠ 0 :=
  ⟨(gate2zx_rot1_complex φ).1, (gate2zx_rot1_complex φ).2, nuC_ne_zero φ⟩

/-- The CORRECTED decompositions of CRz, CU1, CRx denote `(1/√2) •` the gate for every real `φ`. -/
theorem gate2zx_sound_repaired (φ : ℝ) :
    evalZX rC 2 [(.z 1 2 1, 0), (.z 1 2 (spiderVal (φ / 2)), 2), (.x 2 1 1, 1),
                 (.z 1 0 (spiderVal (-(φ / 2))), 1)] = msmul rC (CRzC φ) ∧
    evalZX rC 2 [(.z 1 2 (spiderVal (φ / 2)), 0), (.z 1 2 (spiderVal (φ / 2)), 2), (.x 2 1 1, 1),
                 (.z 1 0 (spiderVal (-(φ / 2))), 1)] = msmul rC (CU1C φ) ∧
    evalZX rC 2 [(.z 1 2 1, 0), (.x 1 2 (spiderVal (φ / 2)), 2), (.h, 1), (.z 2 1 1, 1),
                 (.x 1 0 (spiderVal (-(φ / 2))), 1)] = msmul rC (CRxC φ) ∧ rC ≠ 0 :=
  ⟨(gate2zx_fixed_complex φ).1, (gate2zx_fixed_complex φ).2.1, (gate2zx_fixed_complex φ).2.2, rC_ne_zero⟩

/-- … and in the executable model at every exactly representable phase. -/
theorem gate2zx_sound_repaired_exact :
    ∀ k ∈ ctrlRotKinds, ∀ n ∈ evenPhases,
      zxEvalOf true (.rot k n) = .ok (msmul Cyc8.invSqrt2 (Gate.rot k n).eval) :=
  fun k hk n hn => gate2zx_fixed_sound k hk n (evenPhases_even n hn)

/-- Rz, Rx in the executable model at every exactly representable phase. -/
theorem gate2zx_sound_rot1_exact :
    ∀ n ∈ evenPhases,
      ZXDiag.eval 1 [(.z 1 1 n, 0)] = msmul (Cyc8.zetaPow (n / 2)) (Gate.rot .Rz n).eval ∧
      ZXDiag.eval 1 [(.x 1 1 n, 0)] = msmul (Cyc8.zetaPow (n / 2)) (Gate.rot .Rx n).eval ∧
      gate2zx false (.rot .Rz n) = .ok [(.z 1 1 n, 0)] ∧
      gate2zx false (.rot .Rx n) = .ok [(.x 1 1 n, 0)] := fun n hn =>
  ⟨Except.ok.inj (gate2zx_rot_sound .Rz (by decide) n (evenPhases_even n hn)),
   Except.ok.inj (gate2zx_rot_sound .Rx (by decide) n (evenPhases_even n hn)), rfl, rfl⟩

/-! ### finding F7: CRz, CRx, CU1 as zx.py has them -/

/-- As they are, the images of CRz(φ) and CU1(φ) denote the gates at TWICE the phase (every real φ). -/
theorem F7_asis_denotes_double_phase (φ : ℝ) :
    evalZX rC 2 [(.z 1 2 1, 0), (.z 1 2 (spiderVal φ), 2), (.x 2 1 1, 1),
                 (.z 1 0 (spiderVal (-φ)), 1)] = msmul rC (CRzC (2 * φ)) ∧
    evalZX rC 2 [(.z 1 2 (spiderVal φ), 0), (.z 1 2 (spiderVal φ), 2), (.x 2 1 1, 1),
                 (.z 1 0 (spiderVal (-φ)), 1)] = msmul rC (CU1C (2 * φ)) := gate2zx_asis_complex φ

/-- Exact extent for CRz: SOME scalar makes the as-is image equal to the gate iff `e^{iπφ} = 1`. -/
theorem F7_CRz_sound_iff (φ : ℝ) :
    (∃ k : ℂ, evalZX rC 2 [(.z 1 2 1, 0), (.z 1 2 (spiderVal φ), 2), (.x 2 1 1, 1),
                 (.z 1 0 (spiderVal (-φ)), 1)] = msmul k (CRzC φ)) ↔ nuC φ = 1 := asis_CRz_sound_iff φ

/-- Exact extent for CU1: iff `e^{2πiφ} = 1`. -/
theorem F7_CU1_sound_iff (φ : ℝ) :
    (∃ k : ℂ, evalZX rC 2 [(.z 1 2 (spiderVal φ), 0), (.z 1 2 (spiderVal φ), 2), (.x 2 1 1, 1),
                 (.z 1 0 (spiderVal (-φ)), 1)] = msmul k (CU1C φ)) ↔ spiderVal φ = 1 := asis_CU1_sound_iff φ

/-- Concrete refutation for all three (CRx included) at φ = 1/4 in exact arithmetic: the cross product
    of entries (0,0) and (3,3) of image and gate differs, so no scalar `k` exists
    (`cross_of_proportional`). -/
theorem F7_witness :
    ∀ k ∈ ctrlRotKinds,
      (zxEvalOf false (.rot k 2)).toOption.map (crossFailsAt · (Gate.rot k 2).eval 0 0 3 3)
        = some true := F7_asis_unsound

theorem cross_of_proportional {R : Type} [CommRing R] (k a a' b b' : R) (h : a = k * b) (h' : a' = k * b') :
    a * b' = a' * b := Gates.cross_of_proportional k a a' b b' h h'

/-- `gate2zx_sound_partial`: the table as it is, in the executable model, is sound on every entry
    except CRz, CRx, CU1: named gates, kets/bras (tabulated for ≤ 3 bits; `gate2zx_ketbra_sound` holds for every
    bitstring), Rz, Rx at the tabulated even phase indices (`gate2zx_rot_sound` holds for every even `n : ℤ`). -/
theorem gate2zx_sound_partial :
    (∀ p ∈ zxNamed, zxEvalOf false p.2 = .ok (msmul (zxScalarNamed p.1) p.2.eval)) ∧
    (∀ bs ∈ bitstringsUpTo3, zxEvalOf false (.ket bs) = .ok (Gate.ket bs).eval ∧
                             zxEvalOf false (.bra bs) = .ok (Gate.bra bs).eval) ∧
    (∀ n ∈ evenPhases,
      zxEvalOf false (.rot .Rz n) = .ok (msmul (Cyc8.zetaPow (n / 2)) (Gate.rot .Rz n).eval) ∧
      zxEvalOf false (.rot .Rx n) = .ok (msmul (Cyc8.zetaPow (n / 2)) (Gate.rot .Rx n).eval)) :=
  ⟨fun p hp => (gate2zx_named_sound p hp).1, fun bs _ => gate2zx_ketbra_sound false bs, fun n hn =>
    ⟨gate2zx_rot_sound .Rz (by decide) n (evenPhases_even n hn),
     gate2zx_rot_sound .Rx (by decide) n (evenPhases_even n hn)⟩⟩

/-- Gates outside the table are refused (`KeyError`). -/
theorem gate2zx_refuses :
    gate2zx false (.q gS) = .error .index ∧ gate2zx false (.q gT) = .error .index ∧
    gate2zx false (.rot .Ry 2) = .error .index ∧ gate2zx false (.ctrl (.q gZ)) = .error .index :=
  gate2zx_unsupported

/-! ### arity -/

/-- The image of a gate is a well-typed diagram with the gate's numbers of input and output wires
    (table, rotations, kets/bras ≤ 3 bits — for every bitstring: `zxKetBra_typed`; as-is and corrected). -/
theorem gate2zx_arity :
    (∀ p ∈ zxNamed, ∀ f ∈ [false, true],
      (gate2zx f p.2).toOption.bind (ZXDiag.codFrom p.2.dom) = some p.2.cod) ∧
    (∀ k ∈ [RotKind.Rx, .Rz, .CRz, .CRx, .CU1], ∀ n ∈ evenPhases, ∀ f ∈ [false, true],
      (gate2zx f (.rot k n)).toOption.bind (ZXDiag.codFrom k.nq) = some k.nq) ∧
    (∀ bs ∈ bitstringsUpTo3, ∀ f ∈ [false, true],
      (gate2zx f (.ket bs)).toOption.bind (ZXDiag.codFrom 0) = some bs.length ∧
      (gate2zx f (.bra bs)).toOption.bind (ZXDiag.codFrom bs.length) = some 0) := gate2zx_arity_table

/-! ### dagger -/

/-- `⟦b†⟧ = ⟦b⟧ᴴ` for every ZX generator — every arity, every phase (a spider of negated phase
    carries `star μ = e^{−2πiψ}`), over every commutative star ring with `star r = r`. -/
theorem zx_dagger {R : Type} [CommRing R] [StarRing R] (r : R) (hr : star r = r) (b : ZXB R) :
    b.daggerS.mat r = dagger (b.mat r) := zxb_dagger r hr b

/-- The dagger as zx.py computes it on the syntax (phase negated, legs swapped; zx.py:282-283, 336-337, 365-366),
    in the executable model: all arities ≤ 2, all phases `p/8`.  Every conjunct is an instance of `ZXBox.dagger_mat`
    (Proofs/CircuitCyc8.lean), which holds for every box — any arity, any phase index, any normalised scalar; the
    list hypotheses are not used. -/
theorem zx_dagger_exact :
    (∀ nm ∈ smallArities, ∀ p ∈ evenPhases ++ [1, 3, 5, 7],
      (ZXBox.z nm.1 nm.2 p).dagger.sem.mat Cyc8.invSqrt2 =
        dagger ((ZXBox.z nm.1 nm.2 p).sem.mat Cyc8.invSqrt2) ∧
      (ZXBox.x nm.1 nm.2 p).dagger.sem.mat Cyc8.invSqrt2 =
        dagger ((ZXBox.x nm.1 nm.2 p).sem.mat Cyc8.invSqrt2)) ∧
    ZXBox.h.dagger.sem.mat Cyc8.invSqrt2 = dagger (ZXBox.h.sem.mat Cyc8.invSqrt2) ∧
    ZXBox.swap.dagger.sem.mat Cyc8.invSqrt2 = dagger (ZXBox.swap.sem.mat Cyc8.invSqrt2) :=
  ⟨fun _ _ _ _ => ⟨ZXBox.dagger_mat rfl, ZXBox.dagger_mat rfl⟩, ZXBox.dagger_mat rfl, ZXBox.dagger_mat rfl⟩

/-- Scalars by VALUE (the numeric type of the Python datum — int, float, numpy.complex64, sympy
    `1/2 + I/4`, … — is not modelled; the correspondence reads every datum to its exact value): in the
    executable model the dagger of a scalar box denotes the conjugate transpose for EVERY value, it
    turns the Gaussian dyadic rational `(a + c·i)/2^e` into `(a − c·i)/2^e`, and it is the same box
    exactly when the value is real (zx.py:365-366). -/
theorem zx_dagger_scalar_value :
    (∀ s : Cyc8, (ZXBox.scalar s).dagger.sem.mat Cyc8.invSqrt2 =
      dagger ((ZXBox.scalar s).sem.mat Cyc8.invSqrt2)) ∧
    (∀ (a c : Int) (e : Nat), (ZXBox.scalar (gaussian a c e)).dagger = .scalar (gaussian a (-c) e)) ∧
    (∀ (a c : Int) (e : Nat),
      (ZXBox.scalar (gaussian a c e)).dagger = .scalar (gaussian a c e) ↔ c = 0) :=
  ⟨scalar_dagger_sem, scalar_dagger_gaussian, scalar_dagger_gaussian_fixed_iff⟩

example : (ZXBox.scalar (gaussian 1 1 2)).dagger = .scalar (gaussian 1 (-1) 2) ∧
    (ZXBox.scalar (gaussian 1 1 2)).dagger ≠ .scalar (gaussian 1 1 2) := by decide

/-! ### whole circuits and whole diagrams -/

/-- Composition of well-typed ZX diagrams denotes the matrix product — every commutative ring. -/
theorem zx_compose {R : Type} [CommRing R] (ρ : R) {w k m : Nat} {d d' : ZXD R}
    (h : ZXD.codFrom w d = some k) (h' : ZXD.codFrom k d' = some m) :
    evalZX ρ w (d ++ d') = mul (evalZX ρ w d) (evalZX ρ k d') := evalZX_append ρ h h'

/-- A diagram placed at offset `l` with `r` wires to its right denotes `1_l ⊗ ⟦d⟧ ⊗ 1_r`. -/
theorem zx_whisker {R : Type} [CommRing R] (ρ : R) (l r : Nat) {a b : Nat} {d : ZXD R}
    (h : ZXD.codFrom a d = some b) :
    evalZX ρ (l + a + r) (zxShift l d) = kron (idQ l) (kron (evalZX ρ a d) (idQ r)) := evalZX_shift ρ l r h

/-- **ONE overall scalar**: if the image of every box denotes `k_i • U_i` (`ZXImage`), the image of the
    circuit is well typed and denotes `(∏ k_i) • ⟦circuit⟧` — every commutative ring. -/
theorem circuit2zx_sound_generic {R : Type} [CommRing R] (ρ : R) {n m : Nat} {L : Layers R} {Z : ZXD R}
    {ks : List R} (h : ZXImage ρ n L Z ks m) :
    LTyped n L m ∧ ZXD.codFrom n Z = some m ∧ evalZX ρ n Z = msmul ks.prod (evalLayers n L) :=
  evalZX_image ρ h

/-- **`⟦d†⟧ = ⟦d⟧ᴴ` for whole diagrams** — every commutative star ring with `star r = r`, every
    well-typed diagram, any generators, any phases. -/
theorem zx_diagram_dagger_generic {R : Type} [CommRing R] [StarRing R] (ρ : R) (hρ : star ρ = ρ)
    {w m : Nat} {d : ZXD R} (h : ZXD.codFrom w d = some m) :
    evalZX ρ m d.daggerS = dagger (evalZX ρ w d) := evalZX_dagger ρ hρ h

/-- The per-gate hypothesis of the executable instance (`Gate.zxOK g k k'`: the image of `g` under the
    corrected table is a well-typed diagram with normalised scalars denoting `k • ⟦g⟧`, `k·k' = 1`), on
    the translated gate set; scalars for every normalised value. -/
theorem gate2zx_table_ok :
    (∀ p ∈ zxTable, p.1.zxOK p.2 (zxInv p.2) = true) ∧
    (∀ z : Cyc8, z.isNormal = true → (Gate.scalar z).zxOK 1 1 = true) := ⟨zxTable_ok, scalar_zxOK⟩

/-- Square-root scalars (`gates.Sqrt`, recognised by `gate2zx` only because it SUBCLASSES `gates.Scalar`):
    the image is the scalar box of the data `z = r²`, denoting `r • ⟦sqrt(z)⟧`; `k = r` is invertible for
    `sqrt(2)` (cups and caps), and `sqrt(0)` is translated exactly. -/
theorem gate2zx_sound_sqrt :
    (∀ z r r' : Cyc8, z.isNormal = true → r.isNormal = true → r'.isNormal = true → r * r = z → r * r' = 1 →
      (Gate.sqrt z r).zxOK r r' = true) ∧ (Gate.sqrt 0 0).zxOK 1 1 = true ∧
    (Gate.sqrt two Cyc8.sqrt2).zxOK Cyc8.sqrt2 Cyc8.invSqrt2 = true :=
  ⟨sqrt_zxOK, sqrt_zero_zxOK, sqrt_zxOK _ _ _ rfl rfl rfl (by decide) (by decide)⟩

/-- … and Rz, Rx, CRz, CRx, CU1 at EVERY even integer phase index (the symbolic theorems read in ℚ(ζ₈)). -/
theorem gate2zx_every_phase_index (k : RotKind) (n : Int) (hk : k ≠ .Ry) (hn : n % 2 = 0) :
    ∃ κ, (Gate.rot k n).zxOK κ (zxInv κ) = true := ⟨_, rot_zxOK k hk n hn⟩

/-- Whole circuits from the per-gate hypothesis alone. -/
theorem circuit2zx_sound_of (n m : Nat) (c : Circ) (d : ZXDiag) (ht : Circ.codFrom n c = some m)
    (hg : ∀ x ∈ c, ∃ k k', x.2.1.zxOK k k' = true) (h : circuit2zx true c = .ok d) :
    ∃ K K' : Cyc8, K ≠ 0 ∧ Cyc8.val K * Cyc8.val K' = 1 ∧ ZXDiag.codFrom n d = some m ∧
      ZXDiag.eval n d = msmul K (evalCirc n c) := Gates.circuit2zx_sound_of ht hg h

/-- **Whole circuits: ONE non-zero scalar** (corrected table), every well-typed circuit over the
    translated gate set; the image is well typed with the circuit's arity. -/
theorem circuit2zx_sound (n m : Nat) (c : Circ) (d : ZXDiag) (ht : Circ.codFrom n c = some m)
    (hg : ∀ x ∈ c, x.2.1.inZXSet) (h : circuit2zx true c = .ok d) :
    ZXDiag.codFrom n d = some m ∧ ∃ k : Cyc8, k ≠ 0 ∧ ZXDiag.eval n d = msmul k (evalCirc n c) :=
  circuit2zx_sound_cyc8 n m c d ht hg h

/-- The table AS IT IS (F7 open) on circuits without CRz, CRx, CU1 (`_partial`). -/
theorem circuit2zx_sound_asis_partial (n m : Nat) (c : Circ) (d : ZXDiag)
    (ht : Circ.codFrom n c = some m)
    (hg : ∀ x ∈ c, (∃ k, (x.2.1, k) ∈ zxTableA ++ zxTableC) ∨
      ∃ z : Cyc8, x.2.1 = Gate.scalar z ∧ z.isNormal = true)
    (h : circuit2zx false c = .ok d) :
    ZXDiag.codFrom n d = some m ∧ ∃ k : Cyc8, k ≠ 0 ∧ ZXDiag.eval n d = msmul k (evalCirc n c) :=
  circuit2zx_sound_asis n m c d ht hg h

/-- **Whole diagrams: the dagger denotes the conjugate transpose** — every well-typed ZX diagram of the
    executable syntax (any arities, all phases `p/8`, normalised scalars). -/
theorem zx_diagram_dagger (n m : Nat) (d : ZXDiag) (ht : ZXDiag.codFrom n d = some m)
    (hn : d.normal = true) : ZXDiag.eval m d.dagger = dagger (ZXDiag.eval n d) :=
  ZXDiag.eval_dagger ht hn

/-! ### concrete non-trivial instances -/

example : zxEvalOf true (.rot .CRx 2) = .ok (msmul Cyc8.invSqrt2 (Gate.rot .CRx 2).eval) ∧
    (Gate.rot .CRx 2).eval ≠ idQ 2 := ⟨gate2zx_fixed_sound .CRx (by decide) 2 rfl, by decide⟩
example : circuit2zx false [(0, .ket [true], 0), (0, .q gH, 0)] =
    .ok [(.x 0 1 4, 0), (.scalar Cyc8.invSqrt2, 1), (.h, 0)] := by decide
example : ZXDiag.eval 1 (ZXDiag.dagger [(.z 1 2 3, 0), (.x 2 1 1, 0)]) =
    dagger (ZXDiag.eval 1 [(.z 1 2 3, 0), (.x 2 1 1, 0)]) := by decide
/-- A circuit meeting the hypotheses of `circuit2zx_sound`: Ket(1) ; H ; CRz(1/4) on the pair ; scalar ;
    Rx(−3/4). -/
def c1 : Circ :=
  [(0, .ket [true], 1), (0, .q gH, 1), (0, .rot .CRz 2, 0), (2, .scalar Cyc8.I, 0), (1, .rot .Rx (-6), 0)]
example : Circ.codFrom 1 c1 = some 2 := by decide
example : ∀ x ∈ c1, x.2.1.inZXSet := by
  intro x hx
  simp only [c1, List.mem_cons, List.not_mem_nil, or_false] at hx
  rcases hx with rfl | rfl | rfl | rfl | rfl
  · exact (ketBra_inZXSet (bs := [true]) (by decide)).1
  · exact named_inZXSet (p := ("H", .q gH)) (List.mem_of_getElem? (i := 3) rfl)
  · exact .inr (.inr (.inl ⟨.CRz, 2, rfl, by decide, by decide⟩))
  · exact .inr (.inl ⟨Cyc8.I, rfl, rfl⟩)
  · exact .inr (.inr (.inl ⟨.Rx, -6, rfl, by decide, by decide⟩))
example : (circuit2zx true c1).toOption.map List.length = some 9 := by decide
/-- `Circuit.cups(qubit, qubit)` (circuit.py:554-565): `CX ≫ H ⊗ sqrt(2) ⊗ 1 ≫ Bra(0, 0)` meets the hypotheses
    — it contains the square-root scalar; its dagger `Circuit.caps` too. -/
def cup : Circ :=
  [(0, .ctrl (.q gX), 0), (0, .q gH, 1), (1, .sqrt two Cyc8.sqrt2, 1), (0, .bra [false, false], 0)]
def cap : Circ :=
  [(0, .ket [false, false], 0), (1, .sqrt two Cyc8.sqrt2, 1), (0, .q gH, 1), (0, .ctrl (.q gX), 0)]
theorem sqrt2_inZXSet : (Gate.sqrt two Cyc8.sqrt2).inZXSet :=
  .inr (.inr (.inr (.inl ⟨two, Cyc8.sqrt2, Cyc8.invSqrt2, rfl, rfl, rfl, rfl, by decide, by decide⟩)))
example : Circ.codFrom 2 cup = some 0 ∧ Circ.codFrom 0 cap = some 2 := by decide
example : ∀ x ∈ cup ++ cap, x.2.1.inZXSet := by
  intro x hx
  simp only [cup, cap, List.cons_append, List.nil_append, List.mem_cons, List.not_mem_nil, or_false] at hx
  rcases hx with rfl | rfl | rfl | rfl | rfl | rfl | rfl | rfl
  · exact named_inZXSet (p := ("CX", .ctrl (.q gX))) (List.mem_of_getElem? (i := 2) rfl)
  · exact named_inZXSet (p := ("H", .q gH)) (List.mem_of_getElem? (i := 3) rfl)
  · exact sqrt2_inZXSet
  · exact (ketBra_inZXSet (bs := [false, false]) (by decide)).2
  · exact (ketBra_inZXSet (bs := [false, false]) (by decide)).1
  · exact sqrt2_inZXSet
  · exact named_inZXSet (p := ("H", .q gH)) (List.mem_of_getElem? (i := 3) rfl)
  · exact named_inZXSet (p := ("CX", .ctrl (.q gX))) (List.mem_of_getElem? (i := 2) rfl)
example : circuit2zx true cup = .ok [(.z 1 2 0, 0), (.x 2 1 0, 1), (.h, 0), (.scalar two, 1),
    (.x 1 0 0, 0), (.x 1 0 0, 0), (.scalar Cyc8.half, 0)] := by decide
/-- A post-selection in the MIDDLE of a circuit, to the left of rotated wires:
    `1 ⊗ Rz(1/4) ⊗ 1 ≫ Bra(0) ⊗ 1 ⊗ 1 ≫ 1 ⊗ Rz(1/2)` — after the bra the second rotation sits on the wire that
    was the THIRD one; the translation keeps the two spiders on their own wires (offsets 1 and 1, with the
    effect in between), and the circuit meets the hypotheses of `circuit2zx_sound`. -/
def midBra : Circ := [(1, .rot .Rz 2, 1), (0, .bra [false], 2), (1, .rot .Rz 4, 0)]
example : Circ.codFrom 3 midBra = some 2 := by decide
example : circuit2zx true midBra =
    .ok [(.z 1 1 2, 1), (.x 1 0 0, 0), (.scalar Cyc8.invSqrt2, 0), (.z 1 1 4, 1)] := by decide
example : ZXDiag.eval 3 [(.z 1 1 2, 1), (.x 1 0 0, 0), (.scalar Cyc8.invSqrt2, 0), (.z 1 1 4, 1)] ≠
    ZXDiag.eval 3 [(.z 1 1 6, 1), (.x 1 0 0, 0), (.scalar Cyc8.invSqrt2, 0)] := by decide
example : spiderVal (1 / 2) = nuC 1 ∧ nuC 1 ≠ 0 := ⟨by simpa using spiderVal_half 1, nuC_ne_zero 1⟩

/-- A LOCAL PATTERN of consecutive gates: `SWAP ≫ CRz(1/4) ≫ SWAP` at one offset (what
    `gates.rewire(CRz(1/4), 1, 0)` returns: control below target).  The translation is box by box — the
    image keeps both swaps around the image of `CRz` — and it has to: `CRz` is NOT symmetric in its two
    qubits, the conjugated gate is `diag(1, e⁻, 1, e⁺)`, the plain one `diag(1, 1, e⁻, e⁺)`; both have the
    entry 1 at (0, 0), so they are not proportional either.  The circuit meets the hypotheses of
    `circuit2zx_sound`: it is well typed, `SWAP` is in the translated table and `CRz(1/4)` has an even phase index. -/
def swapCRz : Circ := [(0, .swap, 0), (0, .rot .CRz 2, 0), (0, .swap, 0)]
def plainCRz : Circ := [(0, .rot .CRz 2, 0)]
example : Circ.codFrom 2 swapCRz = some 2 := by decide
theorem swap_conjugation_kept : (circuit2zx true swapCRz).toOption =
    (circuit2zx true plainCRz).toOption.map (fun d => (.swap, 0) :: d ++ [(.swap, 0)]) := by decide
theorem crz_not_symmetric : evalCirc 2 swapCRz ≠ evalCirc 2 plainCRz ∧
    (evalCirc 2 swapCRz).head?.bind List.head? = some 1 ∧
    (evalCirc 2 plainCRz).head?.bind List.head? = some 1 := by decide

end DV.C16
