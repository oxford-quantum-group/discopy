/-
  Props/C07.lean — C07 "snake removal is sound for rigid diagrams".

  PARTIAL (only the termination of the final `monoidal.normalize` is missing).
  The code's yielded trace is checked on every run against the step relation `sstep`
  (one legal interchange | deletion of an adjacent cap/cup pair joined straight and forming a
  snake equation | one `normalize` redex step); the soundness theorems below are about every trace
  that relation accepts, so they transfer to whatever strategy the code follows.
  Proved for every accepted trace: every diagram is well-typed, has the input's dom/cod, and
  denotes the input's morphism under every rigid functor (monoidal functor + snake equations for
  the images of cups/caps) into every partial strict monoidal algebra; only pairs satisfying a snake
  equation are removed by a yank step (`yank_step_is_snake`); `find_snake` is complete over all
  caps and both legs (`find_snake_complete`; positive form `find_snake_sees_both_legs`: a cup that
  is in place on one leg of a cap but fails the snake equation cannot hide a snake on the other
  leg); `follow_wire` returns the consumer of the wire it follows
  (`follow_wire_spec`, against independent producer labels).
  Proved about the model's transcription of the loop (rewriting.py:395-441), for every well-typed
  diagram whose cups/caps have the shape their constructors enforce:
    * `unsnake_indices_invariant` — on every result of `find_snake`, the trace `unsnake` yields
      (with its in-place index re-numbering over the whole obstruction lists) is accepted;
    * `unsnake_never_raises` / `unsnake_moves_then_yank` — `unsnake` raises nothing (no
      InterchangerError, IndexError or AxiomError: also not for obstructions wired to the other
      leg of the cap or to the cup), every yielded diagram but the last is ONE legal interchange
      of its predecessor, the cap and the cup end up adjacent and the last step is their yank;
      exactly two boxes disappear;
    * `snake_loop_total`, `snake_loop_exit`, `snake_loop_no_yankable` — with the fuel the model
      uses (`len + 1`) the first loop never raises, never runs out of fuel, yields an accepted
      trace and ends in a well-typed diagram in which no cap leg runs straight into the opposite
      leg of a matching cup; `snake_removal_is_normalize_after_loop`, `snake_removal_never_raises` —
      `snakeRemoval` equals the final `normalize` run on the loop's result, and that raises
      nothing either (a redex can always be interchanged): no exception for any fuel;
    * `normalize_step_not_undone` — for either value of `left`, a redex interchanged with the
      preference it was tested with and interchanged again at the same position is back at its
      offsets only if both boxes are scalars: no two-cycle on an effect directly above a state
      at the same offset (the pair that can be moved either way);
    * bookkeeping that needs no snake invariant: `move_obstructions_spec` (for a well-typed
      diagram), `remove_pair_length` (for `0 ≤ cap ≤ cup < len`), `snake_loop_result` (no
      hypothesis).
  NOT proved (kept as a `Prop` no theorem claims): `snake_removal_terminates` — termination of the
  monoidal normal form that follows the snake loop on connected diagrams (C06's gap).
-/
import Proofs.Snake
import Proofs.FollowWire
import Proofs.UnsnakeLoop
import Proofs.NormalizeCycle

namespace DV.C07
open DV

theorem trace_sound {O M : Type} (C : SMC O M) (F : RFunctor C) (left : Bool) (d : Diagram)
    (steps : List Diagram) (hd : d.WF) (hv : d.boxesValid)
    (h : checkSnakeTrace left d steps 0 = none) :
    ∀ s ∈ steps, s.WF ∧ s.dom = d.dom ∧ s.cod = d.cod ∧
      F.toMFunctor.eval s = F.toMFunctor.eval d :=
  checkSnakeTrace_ok F hd hv h

/-- One accepted step, of any of the three kinds. -/
theorem step_sound {O M : Type} (C : SMC O M) (F : RFunctor C) (left : Bool) (d d' : Diagram)
    (hd : d.WF) (hv : d.boxesValid) (h : sstep left d d' = true) :
    (d'.WF ∧ d'.dom = d.dom ∧ d'.cod = d.cod) ∧ F.toMFunctor.eval d' = F.toMFunctor.eval d :=
  let r := sstep_ok F hd hv h; ⟨⟨r.1.wf, r.1.dom, r.1.cod⟩, r.2⟩

/-- Only cap/cup pairs that satisfy a snake equation are removed: a position accepted by the
    yank test holds a cap layer and a cup layer of one of the two snake shapes. -/
theorem yank_step_is_snake (d : Diagram) (k : Nat) (hd : d.WF) (hv : d.boxesValid)
    (h : yankableAt d k = true) :
    ∃ a b, d.layers.boxes[k]? = some a ∧ d.layers.boxes[k+1]? = some b ∧
      a.box.kind = .cap ∧ b.box.kind = .cup ∧ YankShape a b :=
  let ⟨a, b, ea, eb, h1, h2, _, _, s⟩ := yankableAt_spec hd hv h; ⟨a, b, ea, eb, h1, h2, s⟩

/-- Deleting the pair is well-typed with the same dom/cod. -/
theorem remove_pair_typed (d d' : Diagram) (k : Nat) (hd : d.WF)
    (hk : k + 1 < d.layers.boxes.length) (h : d.removePair (k : Int) ((k : Int) + 1) = .ok d') :
    d'.WF ∧ d'.dom = d.dom ∧ d'.cod = d.cod :=
  let r := Diagram.removePair_wf hd hk h; ⟨r.1, r.2.1, r.2.2.1⟩

/-- When `find_snake` returns nothing, no cap admits a yank on either leg. -/
theorem find_snake_complete (d : Diagram) (h : d.findSnake = none) :
    ∀ cap b off, cap < d.boxes.length → d.boxes[cap]? = some b → d.offsets[cap]? = some off →
      b.kind = .cap → tryYank d cap b off true = none ∧ tryYank d cap b off false = none :=
  fun cap b off hc hb ho hk =>
    findSnakeFrom_none h cap b off (Nat.zero_le _) (by omega) hb ho hk

/-- Positive form, per leg: whenever SOME cap has a leg (left or right) that admits a yank,
    `find_snake` returns a pair — whatever the other leg of that cap or any other cap runs into.
    In particular a cup that sits in the right place on a cap's left leg but does not satisfy the
    snake equation with it (rewriting.py:389-392) cannot hide a genuine snake on the right leg. -/
theorem find_snake_sees_both_legs (d : Diagram) (cap : Nat) (b : Box) (off : Int)
    (leftSnake : Bool) (y : Yank) (hc : cap < d.boxes.length) (hb : d.boxes[cap]? = some b)
    (ho : d.offsets[cap]? = some off) (hk : b.kind = .cap)
    (h : tryYank d cap b off leftSnake = some y) : d.findSnake.isSome = true := by
  cases hf : d.findSnake with
  | some _ => rfl
  | none =>
    have hn := find_snake_complete d hf cap b off hc hb ho hk
    cases leftSnake
    · rw [hn.2] at h; cases h
    · rw [hn.1] at h; cases h

/-- `follow_wire` (rewriting.py:350-371) is correct against an independent labelling of every
    wire by its producer (`Diagram.labels`): it returns the box that consumes the very wire it was
    asked to follow, at a position inside that box's input span — or `len(d)` and the wire's
    position in the codomain.  This is what makes `find_snake`'s positional test mean "the cap's
    leg runs straight into that leg of the cup". -/
theorem follow_wire_spec (d : Diagram) (hd : d.WF) (i j : Nat) (hi : i < d.boxes.length) :
    ∃ c j' : Nat, (d.followWire i (j : Int)).1 = c ∧ (d.followWire i (j : Int)).2.1 = (j' : Int) ∧
      (d.labels c)[j']? = (d.labels (i+1))[j]? ∧ i < c ∧ c ≤ d.boxes.length ∧
      (c < d.boxes.length → ∃ l, d.layers.boxes[c]? = some l ∧
        l.left.length ≤ j' ∧ j' < l.left.length + l.box.dom.length) :=
  Diagram.followWire_spec hd i j hi

/-- The index invariant of `unsnake` (rewriting.py:404-428): on every result of `find_snake` the
    trace it yields — obstructions moved one by one with the in-place re-numbering of the pending
    ones, then the deletion of boxes `cap..cup` — is accepted step by step. -/
theorem unsnake_indices_invariant (d : Diagram) (y : Yank) (steps : List Diagram) (hd : d.WF)
    (hv : d.boxesValid) (hf : d.findSnake = some y) (hu : d.unsnake y = .ok steps) :
    checkSnakeTrace false d steps 0 = none := by
  obtain ⟨steps', hu', hch, _⟩ := unsnake_ok hd hv hf
  rw [hu] at hu'; cases hu'
  exact hch.check false 0

/-- `unsnake` raises nothing on a result of `find_snake`; each yielded diagram but the last is one
    legal interchange of its predecessor (`IChain`), the last is the yank of an ADJACENT cap/cup
    pair (`ystep` only deletes positions `k, k+1` with `yankableAt`), and two boxes disappear. -/
theorem unsnake_moves_then_yank (d : Diagram) (y : Yank) (hd : d.WF) (hv : d.boxesValid)
    (hf : d.findSnake = some y) :
    ∃ moves last, d.unsnake y = .ok (moves ++ [last]) ∧ IChain d moves ∧
      ystep (lastOr d moves) last = true ∧ last.boxes.length + 2 = d.boxes.length :=
  unsnake_shape hd hv hf

/-- In particular no `InterchangerError` (nor any other exception) comes out of `unsnake`. -/
theorem unsnake_never_raises (d : Diagram) (y : Yank) (hd : d.WF) (hv : d.boxesValid)
    (hf : d.findSnake = some y) : ∃ steps, d.unsnake y = .ok steps ∧ steps ≠ [] :=
  let ⟨moves, last, h, _⟩ := unsnake_shape hd hv hf
  ⟨moves ++ [last], h, by simp⟩

/-- The first loop of `snake_removal` with the model's fuel: total, accepted, snake-free. -/
theorem snake_loop_total (left : Bool) (d : Diagram) (hd : d.WF) (hv : d.boxesValid) :
    ∃ d1 acc, snakeLoop (d.boxes.length + 1) d [] = .ok (d1, acc) ∧
      checkSnakeTrace left d acc 0 = none ∧ lastOr d acc = d1 ∧ d1.findSnake = none ∧
      d1.WF ∧ d1.boxesValid ∧ d1.boxes.length ≤ d.boxes.length :=
  let ⟨d1, steps, h, hch, hla, hn, w, v, hle⟩ :=
    snakeLoop_spec (d.boxes.length + 1) (acc := []) hd hv (Nat.lt_succ_self _)
  ⟨d1, steps, by simpa using h, hch.check left 0, hla, hn, w, v, hle⟩

/-- The loop does not stop for lack of fuel: its result contains no snake. -/
theorem snake_loop_exit (d d1 : Diagram) (acc : List Diagram) (hd : d.WF) (hv : d.boxesValid)
    (h : snakeLoop (d.boxes.length + 1) d [] = .ok (d1, acc)) : d1.findSnake = none := by
  obtain ⟨d1', acc', h', _, _, hn, _⟩ := snake_loop_total false d hd hv
  rw [h] at h'; cases h'; exact hn

/-- "The result contains no cap whose leg runs straight into the opposite leg of a matching cup":
    after the loop no cap admits a yank on either leg. -/
theorem snake_loop_no_yankable (d d1 : Diagram) (acc : List Diagram) (hd : d.WF)
    (hv : d.boxesValid) (h : snakeLoop (d.boxes.length + 1) d [] = .ok (d1, acc)) :
    ∀ cap b off, cap < d1.boxes.length → d1.boxes[cap]? = some b → d1.offsets[cap]? = some off →
      b.kind = .cap → tryYank d1 cap b off true = none ∧ tryYank d1 cap b off false = none :=
  find_snake_complete d1 (snake_loop_exit d d1 acc hd hv h)

/-- Whatever `snake_removal` raises, the final `monoidal.normalize` raises it. -/
theorem snake_removal_is_normalize_after_loop (d : Diagram) (left : Bool) (fuel : Nat) (hd : d.WF)
    (hv : d.boxesValid) :
    ∃ d1 acc, checkSnakeTrace left d acc 0 = none ∧ lastOr d acc = d1 ∧ d1.findSnake = none ∧
      d1.WF ∧ d.snakeRemoval left fuel = normalizeTrace left fuel d1 acc := by
  obtain ⟨d1, acc, h, hc, hla, hn, w, _⟩ := snake_loop_total left d hd hv
  exact ⟨d1, acc, hc, hla, hn, w, by simp [Diagram.snakeRemoval, h]⟩

/-- `rigid.Diagram.normalize()` raises nothing on a well-typed input, for any number of passes
    allowed to the final loop (when they run out the model returns `fin = false`, never an error).
    `NotImplementedError` comes from `normal_form`'s revisit cache, not from the generator. -/
theorem snake_removal_never_raises (d : Diagram) (left : Bool) (fuel : Nat) (hd : d.WF)
    (hv : d.boxesValid) : ∃ steps fin, d.snakeRemoval left fuel = .ok (steps, fin) := by
  obtain ⟨d1, acc, _, _, _, w, h⟩ := snake_removal_is_normalize_after_loop d left fuel hd hv
  obtain ⟨⟨steps, fin⟩, hr⟩ := normalizeTrace_total (left := left) fuel (acc := acc) w
  exact ⟨steps, fin, by rw [h, hr]⟩

/-! Bookkeeping that needs no invariant. -/

/-- `moveObstructions` only permutes the boxes (so their number is preserved), yields one diagram
    per obstruction and moves the target index by `dt` each time. -/
theorem move_obstructions_spec (bump : Nat → Nat → Nat) (dt : Int) (obs : List Nat)
    (d d1 : Diagram) (t t1 : Int) (ro ro1 : List Nat) (acc acc1 : List Diagram) (hd : d.WF)
    (h : moveObstructions bump dt obs d t ro acc = .ok (d1, t1, ro1, acc1)) :
    d1.WF ∧ d1.boxes.Perm d.boxes ∧ d1.boxes.length = d.boxes.length ∧
      t1 = t + dt * obs.length ∧ ∃ new, acc1 = acc ++ new ∧ new.length = obs.length :=
  let ⟨w, _, _, p, l, ht, _, hn⟩ := moveObstructions_spec obs hd h
  ⟨w, p, l, ht, hn⟩

/-- `removePair` deletes exactly the `cup + 1 - cap` boxes `cap..cup`. -/
theorem remove_pair_length (d d' : Diagram) (cap cup : Int) (h : d.removePair cap cup = .ok d')
    (h0 : 0 ≤ cap) (h1 : cap ≤ cup) (h2 : cup < (d.boxes.length : Int)) :
    (d'.boxes.length : Int) + (cup + 1 - cap) = d.boxes.length := by
  obtain ⟨c, rfl⟩ := Int.eq_ofNat_of_zero_le h0
  obtain ⟨u, rfl⟩ := Int.eq_ofNat_of_zero_le (by omega : 0 ≤ cup)
  unfold Diagram.removePair at h
  split at h
  · split at h
    · cases h
    · cases h
      have e : ((u : Int) + 1) = ((u + 1 : Nat) : Int) := by omega
      simp only [e, pySlice_take, pySlice_drop, List.length_append, List.length_take,
        List.length_drop]
      omega
  · cases h
  · cases h

/-- For any fuel and any input: the accumulated trace only grows, ends in the returned diagram, and
    the loop stops either snake-free or after exactly `fuel` rounds. -/
theorem snake_loop_result (fuel : Nat) (d d1 : Diagram) (acc acc1 : List Diagram)
    (h : snakeLoop fuel d acc = .ok (d1, acc1)) :
    ∃ steps, acc1 = acc ++ steps ∧ lastOr d steps = d1 ∧
      (d1.findSnake = none ∨ SnakeRounds fuel d d1) :=
  snakeLoop_result fuel d d1 acc acc1 h

/-- The final `normalize` never undoes its own step (for either value of `left`): when position
    `i` is a redex for `left`, is interchanged with that same preference, is a redex again and is
    interchanged again, the two boxes are back at their offsets only if both are scalars (empty
    domain and codomain) — the shortest way `normal_form` could meet a diagram twice, and with it
    raise `NotImplementedError`, is closed for diagrams without scalars.  (An effect directly above
    a state at the same offset can be moved either way; testing with `left` but moving with the
    default preference does cycle there — see the examples below.) -/
theorem normalize_step_not_undone (d d1 d2 : Diagram) (left : Bool) (i : Nat) (hd : d.WF)
    (h1 : d.redex left i = true) (s1 : d.interchange (i : Int) ((i : Int) + 1) left = .ok d1)
    (h2 : d1.redex left i = true) (s2 : d1.interchange (i : Int) ((i : Int) + 1) left = .ok d2)
    (hc : d2.offsets = d.offsets) :
    ∃ b0 b1, d.boxes[i]? = some b0 ∧ d.boxes[i+1]? = some b1 ∧
      b0.dom = [] ∧ b0.cod = [] ∧ b1.dom = [] ∧ b1.cod = [] :=
  Diagram.normalize_no_two_cycle hd h1 s1 h2 s2 hc

/-- NOT PROVED: termination of the monoidal normal form that follows (C06's gap). -/
def snake_removal_terminates : Prop :=
  ∀ (d : Diagram) (left : Bool), d.WF → connected d →
    ∃ fuel steps, d.snakeRemoval left fuel = .ok (steps, true)

/-! Non-vacuity: the snake `Id(n) @ Cap(n.r, n) >> Cup(n, n.r) @ Id(n)` is found and removed. -/
private def n : Ob := ⟨"n", 0⟩
private def snake : Except Err Diagram :=
  Diagram.mk? [n] [n] [Box.cap n.r n, Box.cup n n.r] [1, 0]

example : (match snake with
    | .ok d => (match d.snakeRemoval false 10 with
        | .ok (steps, fin) => fin && steps.length == 1 && (checkSnakeTrace false d steps 0).isNone
            && (lastOr d steps).boxes.isEmpty
        | .error _ => false)
    | .error _ => false) = true := by decide +kernel
example : (match snake with | .ok d => yankableAt d 0 | .error _ => false) = true := by decide +kernel

/-! Non-vacuity of the `unsnake` theorems: snakes with obstructions on BOTH sides of the followed
    wire, interleaved, some of them wired to the other leg of the cap (`g` at offset 2 below the
    left snake's cap; `f` at offset 0 below the right snake's cap).  The hypotheses `WF`,
    `boxesValid`, `findSnake = some _` hold and the conclusions are observed. -/
private def f : Box := { name := "f", dom := [n], cod := [n] }
private def g : Box := { name := "g", dom := [n], cod := [n] }
private def leftSnake : Except Err Diagram :=
  Diagram.mk? [n] [n] [Box.cap n.r n, g, f, g, Box.cup n n.r] [1, 2, 0, 2, 0]
private def rightSnake : Except Err Diagram :=
  Diagram.mk? [n] [n] [Box.cap n n.l, g, f, g, f, Box.cup n.l n] [0, 2, 0, 2, 0, 1]

instance (b : Box) : Decidable b.valid := by unfold Box.valid; infer_instance
instance (d : Diagram) : Decidable d.boxesValid := by unfold Diagram.boxesValid; infer_instance

private def leftD : Diagram := match leftSnake with | .ok d => d | .error _ => Diagram.id []
private def rightD : Diagram := match rightSnake with | .ok d => d | .error _ => Diagram.id []

example : leftSnake = .ok leftD ∧ leftD.WF ∧ leftD.boxesValid ∧
    leftD.findSnake = some ⟨4, 0, [2], [1, 3], true⟩ :=
  ⟨by decide +kernel, Diagram.mk?_wf (by decide +kernel : leftSnake = .ok leftD), by decide +kernel, by decide +kernel⟩
example : rightSnake = .ok rightD ∧ rightD.WF ∧ rightD.boxesValid ∧
    rightD.findSnake = some ⟨5, 0, [2, 4], [1, 3], false⟩ :=
  ⟨by decide +kernel, Diagram.mk?_wf (by decide +kernel : rightSnake = .ok rightD), by decide +kernel, by decide +kernel⟩

example : (match leftSnake with
    | .ok d => (match d.unsnake ⟨4, 0, [2], [1, 3], true⟩ with
        | .ok steps => steps.length == 4 && (checkSnakeTrace false d steps 0).isNone
            && (lastOr d steps).boxes == [f, g, g] && (lastOr d steps).offsets == [0, 0, 0]
        | .error _ => false)
    | .error _ => false) = true := by decide +kernel

example : (match rightSnake with
    | .ok d => d.findSnake == some ⟨5, 0, [2, 4], [1, 3], false⟩ &&
      (match d.unsnake ⟨5, 0, [2, 4], [1, 3], false⟩ with
        | .ok steps => steps.length == 5 && (checkSnakeTrace false d steps 0).isNone
            && (lastOr d steps).boxes == [g, g, f, f] && (lastOr d steps).offsets == [0, 0, 0, 0]
        | .error _ => false) &&
      (match snakeLoop (d.boxes.length + 1) d [] with
        | .ok (d1, acc) => acc.length == 5 && d1.findSnake.isNone
        | .error _ => false)
    | .error _ => false) = true := by decide +kernel

/-! Non-vacuity of `find_snake_sees_both_legs`: caps BOTH of whose legs run into cups.
    `mixedR`: `Id(n.r) @ Cap(n, n.l) @ Id(n) >> Cup(n.r, n) @ Id(n.l @ n) >> Cup(n.l, n)` — the left
    leg enters `Cup(n.r, n)` in the right place but `n.r ≠ n.l` (no snake equation), the right leg
    is a genuine right-handed snake: the left attempt fails, the right one is returned, the loop
    yanks it and leaves `Cup(n.r, n)`.  `mixedL` is the mirror image (genuine left-handed snake,
    type-mismatched cup on the right leg, one obstruction); `mixedNone`: both legs mismatched,
    nothing may be removed. -/
private def mixedR : Except Err Diagram :=
  Diagram.mk? [n.r, n] [] [Box.cap n n.l, Box.cup n.r n, Box.cup n.l n] [1, 0, 0]
private def mixedL : Except Err Diagram :=
  Diagram.mk? [n, n.l] [] [Box.cap n.r n, f, Box.cup n n.l, Box.cup n n.r] [1, 0, 2, 0]
private def mixedNone : Except Err Diagram :=
  Diagram.mk? [n.r, n.l.l] [] [Box.cap n n.l, Box.cup n.r n, Box.cup n.l n.l.l] [1, 0, 0]

example : (match mixedR with
    | .ok d => d.boxesValid && (tryYank d 0 (Box.cap n n.l) 1 true).isNone
        && tryYank d 0 (Box.cap n n.l) 1 false == some ⟨2, 0, [1], [], false⟩
        && d.findSnake == some ⟨2, 0, [1], [], false⟩
        && (match d.snakeRemoval false 10 with
            | .ok (steps, fin) => fin && (checkSnakeTrace false d steps 0).isNone
                && (lastOr d steps).boxes == [Box.cup n.r n] && (lastOr d steps).findSnake.isNone
            | .error _ => false)
    | .error _ => false) = true := by decide +kernel

example : (match mixedL with
    | .ok d => d.boxesValid && d.findSnake == some ⟨3, 0, [1], [2], true⟩
        && (tryYank d 0 (Box.cap n.r n) 1 false).isNone
        && (match d.snakeRemoval true 10 with
            | .ok (steps, fin) => fin && (checkSnakeTrace true d steps 0).isNone
                && (lastOr d steps).boxes == [f, Box.cup n n.l] && (lastOr d steps).findSnake.isNone
            | .error _ => false)
    | .error _ => false) = true := by decide +kernel

example : (match mixedNone with
    | .ok d => d.boxesValid && d.findSnake.isNone && d.snakeRemoval false 10 == .ok ([], true)
    | .error _ => false) = true := by decide +kernel

/-! Non-vacuity of `normalize_step_not_undone`.
    `cupCap`: `f >> Cup(n, n.r) @ Id(y) >> Cap(n, n.l) @ Id(y) >> g` — connected; the cup sits
    directly above the cap at offset 0, so the pair can be interchanged either way.  With
    `left = true` position 1 is a redex, the left move is made, position 1 is no redex any more and
    `normalize(left=True)` starts with that step and finishes.  Moving with the OTHER preference
    instead puts position 1 back into a `left`-redex and a second such move restores the input:
    the hypothesis that test and move use the same `left` is needed.
    `twoScalars`: the hypotheses of the theorem are satisfiable — two scalars do cycle. -/
private def yy : Ob := ⟨"y", 0⟩
private def fTop : Box := { name := "f", dom := [⟨"x", 0⟩], cod := [n, n.r, yy] }
private def gBot : Box := { name := "g", dom := [n, n.l, yy], cod := [⟨"z", 0⟩] }
private def cupCap : Except Err Diagram :=
  Diagram.mk? [⟨"x", 0⟩] [⟨"z", 0⟩] [fTop, Box.cup n n.r, Box.cap n n.l, gBot] [0, 0, 0, 0]

example : (match cupCap with
    | .ok d => d.redex true 1 && d.redex false 1 &&
      (match d.interchange 1 2 true with
        | .ok d1 => d1.offsets == [0, 2, 0, 0] && !d1.redex true 1 &&
          (match d.snakeRemoval true 10 with
            | .ok (steps, fin) => fin && steps.head? == some d1
                && (checkSnakeTrace true d steps 0).isNone
            | .error _ => false)
        | .error _ => false) &&
      (match d.interchange 1 2 false with
        | .ok e => e.offsets == [0, 0, 2, 0] && e.boxes == [fTop, Box.cap n n.l, Box.cup n n.r, gBot]
            && e.redex true 1 && e.interchange 1 2 false == .ok d &&
          (match d.snakeRemoval false 10 with
            | .ok (steps, fin) => fin && steps.head? == some e
            | .error _ => false)
        | .error _ => false)
    | .error _ => false) = true := by decide +kernel

private def sc (s : String) : Box := { name := s, dom := [], cod := [] }
private def twoScalars : Except Err Diagram := Diagram.mk? [n] [n] [sc "a", sc "b"] [0, 0]

example : (match twoScalars with
    | .ok d => d.redex true 0 &&
      (match d.interchange 0 1 true with
        | .ok d1 => d1.redex true 0 &&
          (match d1.interchange 0 1 true with
            | .ok d2 => d2.offsets == d.offsets
            | .error _ => false)
        | .error _ => false)
    | .error _ => false) = true := by decide +kernel

end DV.C07
