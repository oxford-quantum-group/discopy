/-
  Props/C01.lean — C01 "every diagram the library hands back is well-typed".
  Property theorems; their proofs are appeals to, or a few lines over, Proofs/WF.lean and
  Proofs/WFOps.lean.

  Free-category level (class `cat`, Model/CatArrow.lean): `LArrow.WF a` says that reading the boxes of
  a plain arrow from its domain, each box finds its own domain and the reading ends on the codomain.
  The n-ary calling convention of `then` / `tensor` (cat.py:307-310, monoidal.py:384-385, 419-422)
  is `Diagram.thenN` / `Diagram.tensorN` / `LArrow.thenN`; `cat.Functor.__call__` is `CFunctor.apply`.

  `Diagram.WF d` says: `boxes`/`offsets` are the projections of the layer view, the layer
  view reads from `d.dom` to `d.cod`, each layer finding `left ++ box.dom ++ right` — i.e.
  the statement of C01 for one value.
-/
import Proofs.WFOps
import Proofs.Foliate
import Proofs.CircuitBox
import Proofs.CatArrow
import Proofs.TyClass

namespace DV.C01
open DV

/-- Closure over all sequences of operations of the op language (composition, tensor, dagger,
    slicing, indexing, interchange, normal form, swaps, permutations, cups, caps, the public
    constructor): whatever `eval` returns is well-typed. -/
theorem eval_wf (e : Expr) (d : Diagram) (h : e.eval = .ok d) : d.WF := Expr.eval_wf e h

/-- The scanning public constructor returns only well-typed values carrying exactly the
    requested fields (ill-typed requests are therefore refused). -/
theorem mk_ok (dom cod : Ty) (bs : List Box) (os : List Int) (d : Diagram)
    (h : Diagram.mk? dom cod bs os = .ok d) :
    d.WF ∧ d.dom = dom ∧ d.cod = cod ∧ d.boxes = bs ∧ d.offsets = os := Diagram.mk?_ok h

/-- `>>` on well-typed operands succeeds exactly when the types match … -/
theorem then_ok_iff (a b : Diagram) (ha : a.WF) (hb : b.WF) :
    (∃ d, a.then b = .ok d) ↔ a.cod = b.dom := Diagram.then_ok_iff ha hb

/-- … and is refused with an axiom error otherwise. -/
theorem then_refused (a b : Diagram) (ha : a.WF) (hb : b.WF) (h : a.cod ≠ b.dom) :
    a.then b = .error .axiom := Diagram.then_err ha hb h

theorem then_wf (a b d : Diagram) (ha : a.WF) (hb : b.WF) (h : a.then b = .ok d) :
    d.WF ∧ d.dom = a.dom ∧ d.cod = b.cod := Diagram.then_props ha hb h

/-- `@` on well-typed operands always succeeds and is well-typed. -/
theorem tensor_wf (a b : Diagram) (ha : a.WF) (hb : b.WF) :
    ∃ d, a.tensor b = .ok d ∧ d.WF ∧ d.dom = a.dom ++ b.dom ∧ d.cod = a.cod ++ b.cod := by
  obtain ⟨d, h⟩ := Diagram.tensor_total ha hb
  exact ⟨d, h, Diagram.tensor_props ha hb h⟩

theorem dagger_wf (d : Diagram) (h : d.WF) :
    d.dagger.WF ∧ d.dagger.dom = d.cod ∧ d.dagger.cod = d.dom :=
  ⟨Diagram.dagger_wf h, h.lcod, h.ldom⟩

theorem slice_wf (d d' : Diagram) (s t : Option Int) (hd : d.WF) (h : d.slice s t = .ok d') :
    d'.WF := Diagram.slice_wf s t hd h

/-- Reversed slices `d[a:b:-1]` (the dagger is the case `a = b = None`). -/
theorem slice_rev_wf (d d' : Diagram) (s t : Option Int) (hd : d.WF) (h : d.sliceRev s t = .ok d') :
    d'.WF := Diagram.sliceRev_wf s t hd h

theorem interchange_wf (d d' : Diagram) (i j : Int) (left : Bool) (hd : d.WF)
    (h : d.interchange i j left = .ok d') : d'.WF ∧ d'.dom = d.dom ∧ d'.cod = d.cod :=
  Diagram.interchange_wf hd h

/-- Transposes (rigid.py:252-279) of well-typed diagrams are well-typed. -/
theorem transpose_wf (d d' : Diagram) (left : Bool) (hd : d.WF) (h : d.transpose left = .ok d') :
    d'.WF := Diagram.transpose_wf hd h

/-- Every diagram yielded by `foliate` (rewriting.py:155-255) is well-typed with the input's
    domain, codomain and boxes, and every slice it returns is well-typed. -/
theorem foliate_wf (d : Diagram) (steps slices : List Diagram) (hd : d.WF)
    (h : d.foliate = .ok (steps, slices)) :
    (∀ s ∈ steps, s.WF ∧ s.dom = d.dom ∧ s.cod = d.cod ∧ s.boxes.Perm d.boxes) ∧
    (∀ s ∈ slices, s.WF) :=
  let r := Diagram.foliate_reach hd h
  ⟨fun s hs => (r.1 s hs).wf hd, r.2⟩

/-- Every step yielded by one `normalize` pass is well-typed with the input's type. -/
theorem normalize_steps_wf (left : Bool) (d d' : Diagram) (steps : List Diagram) (hd : d.WF)
    (h : normalizePass left (d.boxes.length - 1) 0 d [] = .ok (d', steps)) :
    ∀ s ∈ steps, s.WF ∧ s.dom = d.dom ∧ s.cod = d.cod :=
  (normalizePass_wf hd (by simp) h).2

theorem normal_form_wf (d d' : Diagram) (left : Bool) (fuel : Nat) (hd : d.WF)
    (h : d.normalForm left fuel = .ok d') : d'.WF ∧ d'.dom = d.dom ∧ d'.cod = d.cod :=
  Diagram.normalForm_wf hd h

theorem swap_wf (l r : Ty) (d : Diagram) (h : Diagram.swap l r = .ok d) :
    d.WF ∧ d.dom = l ++ r ∧ d.cod = r ++ l := Diagram.swap_props h

theorem permutation_wf (p : List Int) (dom : Ty) (d : Diagram)
    (h : Diagram.permutation p dom = .ok d) : d.WF ∧ d.dom = dom := Diagram.permutation_props h

theorem cups_wf (l r : Ty) (d : Diagram) (h : Diagram.cups l r = .ok d) : d.WF :=
  Diagram.cups_wf h

theorem caps_wf (l r : Ty) (d : Diagram) (h : Diagram.caps l r = .ok d) : d.WF :=
  Diagram.caps_wf h

/-! ### The n-ary calling convention: `recv.then(b₁, …, bₙ)`, `recv.tensor(b₁, …, bₙ)` -/

/-- n-ary composition of well-typed diagrams is accepted exactly when every junction matches —
    the junction between the receiver and the first argument included, whatever the receiver is
    (an identity is no exception). -/
theorem thenN_ok_iff (a : Diagram) (bs : List Diagram) (ha : a.WF) (hbs : ∀ b ∈ bs, b.WF) :
    (∃ d, a.thenN bs = .ok d) ↔ Junctions a.cod bs := Diagram.thenN_ok_iff ha hbs

/-- … and is refused with an axiom error otherwise. -/
theorem thenN_refused (a : Diagram) (bs : List Diagram) (ha : a.WF) (hbs : ∀ b ∈ bs, b.WF)
    (h : ¬ Junctions a.cod bs) : a.thenN bs = .error .axiom := Diagram.thenN_refused ha hbs h

/-- What it hands back is well-typed, starts where the receiver starts, ends where the last
    argument ends and has the boxes of the receiver and of all arguments, in order. -/
theorem thenN_wf (a d : Diagram) (bs : List Diagram) (ha : a.WF) (hbs : ∀ b ∈ bs, b.WF)
    (h : a.thenN bs = .ok d) :
    d.WF ∧ d.dom = a.dom ∧ d.cod = lastCod a.cod bs ∧
      d.boxes = a.boxes ++ (bs.map (·.boxes)).flatten := Diagram.thenN_props ha hbs h

/-- The n-ary tensor always succeeds on well-typed diagrams and is well-typed. -/
theorem tensorN_wf (a : Diagram) (bs : List Diagram) (ha : a.WF) (hbs : ∀ b ∈ bs, b.WF) :
    ∃ d, a.tensorN bs = .ok d ∧ d.WF ∧ d.dom = a.dom ++ (bs.map (·.dom)).flatten ∧
      d.cod = a.cod ++ (bs.map (·.cod)).flatten := Diagram.tensorN_props ha hbs

/-! ### The class `cat`: plain arrows and functors (cat.py) -/

/-- `Arrow(dom, cod, boxes)` hands back a value exactly when the boxes read from `dom` to `cod`,
    and then the value carries the requested fields. -/
theorem cat_mk_ok_iff (dom cod : Ty) (bs : List Layer) (a : LArrow) :
    LArrow.mk? dom cod bs = .ok a ↔ a = ⟨dom, cod, bs⟩ ∧ Chain dom bs cod := LArrow.mk?_ok_iff

theorem cat_mk_refused (dom cod : Ty) (bs : List Layer) (h : ¬ Chain dom bs cod) :
    LArrow.mk? dom cod bs = .error .axiom := LArrow.mk?_refused h

/-- `recv.then(b₁, …, bₙ)` on plain arrows is accepted exactly when every junction matches,
    receiver/first argument included (no hypothesis on the receiver: it may have no boxes). -/
theorem cat_thenN_ok_iff (a : LArrow) (bs : List LArrow) :
    (∃ d, a.thenN bs = .ok d) ↔ AJunctions a.cod bs := LArrow.thenN_ok_iff a bs

theorem cat_thenN_refused (a : LArrow) (bs : List LArrow) (h : ¬ AJunctions a.cod bs) :
    a.thenN bs = .error .axiom := LArrow.thenN_refused h

theorem cat_thenN_wf (a d : LArrow) (bs : List LArrow) (ha : a.WF) (hbs : ∀ b ∈ bs, b.WF)
    (h : a.thenN bs = .ok d) :
    d.WF ∧ d.dom = a.dom ∧ d.cod = alastCod a.cod bs := by
  refine ⟨LArrow.thenN_wf ha hbs h, ?_, ?_⟩
  all_goals (obtain ⟨_, rfl⟩ := LArrow.thenN_ok h; rfl)

/-- `cat.Functor.__call__` as written (cat.py:866-867), for ANY pair of object / arrow mappings —
    consistent or not —: if an image is handed back, it is well-typed and starts on the image of
    the domain. -/
theorem cat_functor_wf (F : CFunctor) (a r : LArrow) (hF : F.ImagesWF)
    (h : F.applyArrow a = .ok r) : r.WF ∧ F.obj a.dom = .ok r.dom := F.applyArrow_wf hF h

/-- It is handed back exactly when the images of the boxes compose, starting on the image of the
    domain; otherwise the request is refused … -/
theorem cat_functor_ok_iff (F : CFunctor) (a : LArrow) :
    (∃ r, F.applyArrow a = .ok r) ↔
      ∃ t imgs, F.obj a.dom = .ok t ∧ F.images a.boxes = .ok imgs ∧ AJunctions t imgs :=
  F.applyArrow_ok_iff a

/-- … with an axiom error. -/
theorem cat_functor_refused (F : CFunctor) (a : LArrow) (t : Ty) (imgs : List LArrow)
    (ht : F.obj a.dom = .ok t) (hi : F.images a.boxes = .ok imgs) (hj : ¬ AJunctions t imgs) :
    F.applyArrow a = .error .axiom := CFunctor.applyArrow_refused ht hi hj

/-- If every box image is typed `F(dom) → F(cod)`, the image of a well-typed arrow is accepted,
    well-typed, and goes from the image of the domain to the image of the codomain. -/
theorem cat_functor_typed (F : CFunctor) (a : LArrow) (t : Ty) (imgs : List LArrow)
    (hF : F.ImagesWF) (ha : a.WF) (hb : ∀ l ∈ a.boxes, F.okOn l)
    (ht : F.obj a.dom = .ok t) (hi : F.images a.boxes = .ok imgs) :
    ∃ r, F.applyArrow a = .ok r ∧ r.WF ∧ F.obj a.dom = .ok r.dom ∧ F.obj a.cod = .ok r.cod :=
  F.applyArrow_typed hF ha hb ht hi

/-- Closure over all sequences of operations of the class `cat` (scanning constructor, boxes,
    identities, n-ary `then` — `>>`, `<<` are the one-argument case —, dagger, slices, reversed
    slices, indexing, functor application with arbitrary mappings whose images are well-typed):
    whatever is handed back is well-typed. -/
theorem cat_eval_wf (e : CExpr) (x : CVal) (hF : e.ImagesWF) (h : e.eval = .ok x) : x.arrow.WF :=
  (CExpr.eval_wf e hF h).1


/-! ### Circuits: the class-specific box daggers (quantum/circuit.py, quantum/gates.py)

The dagger of a diagram splices `box.dagger()` of each box's own class into the reversed layers
without re-scanning, so it is well-typed only because every class's dagger exchanges dom and cod. -/

/-- Every box class of quantum.circuit / quantum.gates (Measure and Encode with all their flags,
    Discard, MixedState on any type, Digits/Bits, Ket, Bra, Copy, Match, Swap, quantum, controlled,
    rotation and classical gates, scalars, plain boxes): its own `dagger()` goes the other way. -/
theorem circuit_box_dagger_exchanges (b : CB.CBox) :
    b.dagger.dom = b.cod ∧ b.dagger.cod = b.dom := ⟨CB.CBox.dagger_dom b, CB.CBox.dagger_cod b⟩

/-- The dagger of a well-typed circuit, computed as the library does (reversed layers, each box
    replaced by its class's own dagger, nothing re-scanned), is well-typed and goes `cod → dom`. -/
theorem circuit_dagger_wf (d : Diagram) (ls : List CB.CLayer) (hd : d.WF)
    (hl : d.layers.boxes = ls.map CB.CLayer.toLayer) :
    (CB.circuitDagger d ls).WF ∧ (CB.circuitDagger d ls).dom = d.cod ∧
      (CB.circuitDagger d ls).cod = d.dom :=
  ⟨CB.circuitDagger_wf hd hl, rfl, rfl⟩

/-- … and on everything C01 reads (types of the boxes, left and right wires of every layer) it is
    the generic dagger of the model, which is what the shape correspondence of the semantic
    classes compares against. -/
theorem circuit_dagger_shape (ls : List CB.CLayer) :
    ((CB.cdagger ls).map CB.CLayer.toLayer).map (fun l => (l.left, l.box.dom, l.box.cod, l.right)) =
    ((ls.map CB.CLayer.toLayer).reverse.map Layer.dag).map
      (fun l => (l.left, l.box.dom, l.box.cod, l.right)) := by
  simp [CB.cdagger, List.map_reverse, CB.CLayer.dag, CB.CLayer.toLayer, CB.CBox.toBox,
    CB.CBox.dagger_dom, CB.CBox.dagger_cod, Function.comp_def, Layer.dag]

/-! Non-vacuity for the circuit boxes: the flags matter.  `Encode(1, reset_bits=True)` goes
    `bit → qubit @ bit`; its dagger is `Measure(1, override_bits=True) : qubit @ bit → bit`, and a
    `Measure(1)` without the flag would not find its domain there. -/
example : (CB.CBox.encode 1 true true).dagger = .measure 1 true true := rfl
example : (CB.CBox.encode 1 true true).cod = [CB.qubit, CB.bit] := by decide +kernel
example : (CB.CBox.measure 1 true false).dom ≠ (CB.CBox.encode 1 true true).cod := by decide +kernel
example : (CB.CBox.mixedState [CB.bit]).dagger.dom = [CB.bit] := by decide +kernel
example : (CB.CBox.discard (CB.pow CB.qubit 1)).dom ≠ (CB.CBox.mixedState [CB.bit]).cod := by decide +kernel

/-! Non-vacuity: a concrete three-box diagram with a scalar box and an effect evaluates, so the
    hypotheses above are met by a non-trivial value; and an out-of-range offset is refused. -/

private def x : Ob := ⟨"x", 0⟩
private def y : Ob := ⟨"y", 0⟩
private def f : Box := { name := "f", dom := [x], cod := [y, y] }
private def s : Box := { name := "s", dom := [], cod := [] }
private def e : Box := { name := "e", dom := [y], cod := [] }

private def isErr (r : Except Err Diagram) (e : Err) : Bool :=
  match r with | .error e' => e' == e | .ok _ => false
private def okWith (r : Except Err Diagram) (p : Diagram → Bool) : Bool :=
  match r with | .error _ => false | .ok d => p d

example : okWith (Expr.interchange (.mk [x] [y] [f, s, e] [0, 1, 0]) 1 2 false).eval
    (fun d => d.boxes == [f, e, s] && d.offsets == [0, 0, 0]) = true := by decide +kernel
example : isErr (Diagram.mk? [x] [x] [s] [5]) .axiom = true := by decide +kernel
example : isErr (Diagram.mk? [x, y] [x, y] [s] [-1]) .axiom = true := by decide +kernel

/-! Non-vacuity for the n-ary convention and the class `cat`: `Id(x).then(f, g)` with
    `f : y → z`, `g : z → x` is refused although its receiver has no boxes and `f >> g` composes;
    from `Id(y)` it is accepted.  A functor with `ar = {f ↦ f, g ↦ h}`, `h : x → y` (images that do
    not compose) is refused on `f >> g`; so is `ob = {y ↦ x, …}` with `ar[f]` still starting on `y`. -/
private def z : Ob := ⟨"z", 0⟩
private def cf : Layer := ⟨[], { name := "f", dom := [y], cod := [z] }, []⟩
private def cg : Layer := ⟨[], { name := "g", dom := [z], cod := [x] }, []⟩
private def ch : Layer := ⟨[], { name := "h", dom := [x], cod := [y] }, []⟩
private def bx (l : Layer) : CVal := ⟨l.arrow, true⟩
private def idOb : List (Ty × Ty) := [([x], [x]), ([y], [y]), ([z], [z])]

example : (CExpr.thenN (.id [x]) [.box cf, .box cg]).eval = .error .axiom := by decide +kernel
example : (CExpr.thenN (.id [y]) [.box cf, .box cg]).eval =
    .ok ⟨⟨[y], [x], [cf, cg]⟩, false⟩ := by decide +kernel
example : (CExpr.functor ⟨idOb, [(cf, bx cf), (cg, bx ch)]⟩ (.mk [y] [x] [cf, cg])).eval =
    .error .axiom := by decide +kernel
example : (CExpr.functor ⟨[([x], [x]), ([y], [x]), ([z], [z])], [(cf, bx cf), (cg, bx cg)]⟩
    (.mk [y] [x] [cf, cg])).eval = .error .axiom := by decide +kernel
example : (CExpr.functor ⟨[([x], [y]), ([y], [z]), ([z], [x])], [(cf, bx cg), (cg, bx ch)]⟩
    (.mk [y] [x] [cf, cg])).eval = .ok ⟨⟨[z], [y], [cg, ch]⟩, false⟩ := by decide +kernel
example : isErr (Expr.thenN (.id [x]) [.box e, .box s]).eval .axiom = true := by decide +kernel
example : okWith (Expr.thenN (.id [y]) [.box e, .box s]).eval
    (fun d => d.boxes == [e, s] && d.dom == [y]) = true := by decide +kernel

/-! ### Across type classes: the coercion of `Ty.tensor` / `Ty.__getitem__` to the class of the receiver

`t @ u` is `type(t).upgrade(Ty(*t.objects, *u.objects))` (monoidal.py:126-130): dom and cod of a tensor
of diagrams of DIFFERENT classes are computed with it (monoidal.py:425).  For C01 the coercion has to hand
back the objects it was given — then `Diagram.tensor` is the class-free `tensor_wf` above — or refuse. -/

/-- The statement: a coercion that answers, answers with the same objects. -/
def TyClassKeepsObjects (c : TyClass) : Prop :=
  ∀ t r : Ty, t.Flat → c.upgrade t = .ok r → r = t

/-- Named type classes (monoidal.Ty, rigid.Ty, circuit.Ty): the objects as they are. -/
theorem tyclass_ty_keeps : TyClassKeepsObjects .ty :=
  fun t r _ h => by rw [TyClass.upgrade_ty] at h; injection h with h; exact h.symm

/-- PRO (zx, cartesian, rigid.PRO, monoidal.PRO): the objects as they are ... -/
theorem tyclass_pro_keeps : TyClassKeepsObjects .pro :=
  fun _ _ hz h => TyClass.upgrade_pro_keeps h hz

/-- ... and a type with a wire that is not PRO's generating object `1` is refused: `PRO(n) @ Ty('x')`,
    hence `zx.Z(1, 2) @ rigid.Box('f', x, y)`, is a TypeError. -/
theorem tyclass_pro_refuses_named (t u : Ty) (h : ∃ o ∈ u, o.name ≠ "1") :
    Ty.tensorAs .pro t u = .error .type :=
  TyClass.upgrade_pro_refuses (by
    obtain ⟨o, ho, hn⟩ := h
    exact ⟨o, by simp [ho], hn⟩)

example : Ty.tensorAs .pro [⟨"1", 0⟩, ⟨"1", 0⟩] [⟨"'x'", 0⟩] = .error .type := by decide +kernel
example : Ty.tensorAs .pro [⟨"1", 0⟩] [⟨"1", 0⟩, ⟨"1", 0⟩] = .ok [⟨"1", 0⟩, ⟨"1", 0⟩, ⟨"1", 0⟩] := by decide +kernel
example : Ty.tensorAs .ty [⟨"'x'", 1⟩] [⟨"1", 0⟩] = .ok [⟨"'x'", 1⟩, ⟨"1", 0⟩] := by decide +kernel

/-- Dim does NOT keep the objects: `Dim(2) @ PRO(1)` is `Dim(2)` (finding F5c01a) ... -/
theorem tyclass_dim_drops_one : ¬ TyClassKeepsObjects .dim := fun h => by
  have := h [⟨"2", 0⟩, ⟨"1", 0⟩] [⟨"2", 0⟩] (by intro o ho; simp at ho; rcases ho with rfl | rfl <;> rfl) TyClass.upgrade_dim_drops
  exact absurd this (by decide +kernel)

/-- ... it keeps them on types whose names are ints > 1 (every type of class Dim is one). -/
theorem tyclass_dim_keeps_partial (t : Ty) (h : ∀ o ∈ t, nameKind o.name = .pos ∧ o.z = 0) :
    TyClass.upgrade .dim t = .ok t := dimObs_keeps h

example : TyClass.upgrade .dim [⟨"2", 0⟩, ⟨"3", 0⟩] = .ok [⟨"2", 0⟩, ⟨"3", 0⟩] :=
  tyclass_dim_keeps_partial _ (by decide +kernel)

end DV.C01
