/-
  Props/C04.lean — C04 "functors are functorial".
  Quantified over ALL functors: object images of any length including empty (`ob`), box images
  arbitrary diagrams; the only hypothesis is `Functor.okOn` (box images are well-typed diagrams
  from the image of the domain to the image of the codomain).

  Proved: typing (image WF, dom/cod are the images of dom/cod), `F(Id) = Id(F)`,
  `F(a >> b) = F(a) >> F(b)`, `F(a @ b) = F(a) @ F(b)`, adjoints `F(t.l) = F(t).l`, `F(t.r) = F(t).r` for every winding
  number, the special rules for swaps/cups/caps, dagger for generator boxes;
  `F_slice`: `F(d[i:j]) = F(d)[i':j']` for EVERY pair of Python bounds (omitted, negative, beyond the
  end, `i > j`: normalised by `pyLo`/`pyHi`, i.e. CPython's clamping), `i' = Σ_{k<i} |F(box_k).boxes|`
  (`Functor.imgIdx`), both slices always exist; `F_sum_*`: `F(a + b) = F(a) + F(b)`,
  `F(Sum([], dom, cod)) = Sum([], F dom, F cod)`, `F(Sum([d])) = Sum([F d])`, typing of the image of a
  sum, and `F` commutes with `Sum.then`, `Sum.tensor` (and `Sum.dagger` under the box-level dagger
  law).  Bubbles are not modelled (out of scope).
  Box maps with FORMAL SUMS among their images (`FunctorS`, Model/FunctorSumImg.lean; an arrow of the
  target is a plain diagram or a sum, `DS`): `F_typing_sumimg`, `F_id_sumimg`, `F_box_sumimg`,
  `F_then_sumimg`, `F_tensor_sumimg` — the image of a composite / tensor is the library's `>>` / `@`
  of the images, which on sums is the sum over all pairs of terms, the terms of the left image
  varying slowest (`DS.thenD`, `DS.tensorD` = the order of cat.py:717 / monoidal.py:752);
  `F_sumimg_plain`: on plain images this model IS `Functor.apply`; `F_dagger_box_sumimg`;
  `F_dagger_sumimg_witness`: `F(d†) = F(d)†` is FALSE as `==` for two boxes sent to two-term sums
  (same terms, different order — finding F4c04a), so no dagger law is claimed for sum images.
  `F(d†) = F(d)†` is proved for diagrams whose boxes satisfy the box-level dagger law, taken as a
  hypothesis (`F_dagger_partial`); the law itself is proved box by box for generators
  (`F_dagger_box`, `F_dagger_box_flagged`) and FAILS for `Swap(x, y)` when both images have ≥ 2 wires
  (`F6_swap_witness`: the two images are not `==`; finding F6, witnessed on the real code), which is
  why the unrestricted statement `F_dagger` is left unproved.
  FREE-CATEGORY level (`cat.Functor` on a plain `cat.Arrow`, cat.py:880, the branch monoidal and
  rigid functors never reach; `CFunctor.applyArrow`, Model/CatArrow.lean, plain images): `CF_image`
  (closed form: the boxes of the box images one after the other, from `F(dom)`), `CF_id`, `CF_then`,
  `CF_thenN` (`F(a.then(b₁, …, bₙ)) = F(a).then(F(b₁), …, F(bₙ))`), `CF_typing`.  Formal sums as box
  images at that level are not in `CFunctor`: a plain arrow is the diagram on one-wire types with every
  offset 0, and the correspondence sends such requests to `FunctorS.applyS` (`F_then_sumimg`).
-/
import Proofs.FunctorSum
import Proofs.FunctorSumImg
import Proofs.CatFunctor

namespace DV.C04
open DV

/-- The image of a well-typed diagram is well-typed, from `F(dom)` to `F(cod)`. -/
theorem F_typing (F : Functor) (d r : Diagram) (hd : d.WF) (hok : ∀ b ∈ d.boxes, F.okOn b)
    (h : F.apply d = .ok r) : r.WF ∧ F.ty d.dom = .ok r.dom ∧ F.ty d.cod = .ok r.cod :=
  F.apply_props hd hok h

theorem F_id (F : Functor) (t t' : Ty) (h : F.ty t = .ok t') :
    F.apply (Diagram.id t) = .ok (Diagram.id t') := by
  simp [Functor.apply, Diagram.id, h, Functor.loop]

/-- `F(a >> b) = F(a) >> F(b)`. -/
theorem F_then (F : Functor) (a b ab fa fb : Diagram) (ha : a.WF) (hb : b.WF)
    (hok : ∀ bx ∈ a.boxes, F.okOn bx) (hab : a.then b = .ok ab)
    (hfa : F.apply a = .ok fa) (hfb : F.apply b = .ok fb) :
    ∃ r, fa.then fb = .ok r ∧ F.apply ab = .ok r := F.apply_then ha hb hok hab hfa hfb

/-- Images of types are monoid homomorphisms (lengths of images arbitrary). -/
theorem F_ty_tensor (F : Functor) (a b ta tb : Ty) (ha : F.ty a = .ok ta) (hb : F.ty b = .ok tb) :
    F.ty (a ++ b) = .ok (ta ++ tb) := F.ty_append ha hb

/-- Rigid functors send left/right adjoint types to the adjoints of the images. -/
theorem F_adjoint_l (F : Functor) (t t' : Ty) (h : F.ty t = .ok t') : F.ty (Ty.l t) = .ok (Ty.l t') :=
  F.ty_l h
theorem F_adjoint_r (F : Functor) (t t' : Ty) (h : F.ty t = .ok t') : F.ty (Ty.r t) = .ok (Ty.r t') :=
  F.ty_r h

/-- Cups, caps and swaps go to the (nested) cups, caps and swaps of the image types. -/
theorem F_cup (F : Functor) (b : Box) (h : b.kind = .cup) (l r : Ty)
    (hl : F.ty (b.dom.take 1) = .ok l) (hr : F.ty (b.dom.drop 1) = .ok r) :
    F.box b = Diagram.cups l r := by
  unfold Functor.box; rw [h]; simp only []; rw [hl, hr]
theorem F_cap (F : Functor) (b : Box) (h : b.kind = .cap) (l r : Ty)
    (hl : F.ty (b.cod.take 1) = .ok l) (hr : F.ty (b.cod.drop 1) = .ok r) :
    F.box b = Diagram.caps l r := by
  unfold Functor.box; rw [h]; simp only []; rw [hl, hr]
theorem F_swap (F : Functor) (b : Box) (h : b.kind = .swap) (l r : Ty)
    (hl : F.ty (b.dom.take 1) = .ok l) (hr : F.ty (b.dom.drop 1) = .ok r) :
    F.box b = Diagram.swap l r := by
  unfold Functor.box; rw [h]; simp only []; rw [hl, hr]

/-- Dagger of a generator box. -/
theorem F_dagger_box (F : Functor) (b : Box) (hk : b.kind = .gen) (hd : b.dagger = false)
    (x : Diagram) (hx : F.box b = .ok x) : F.box b.dag = .ok x.dagger := F.box_dagger b hk hd hx

/-- `F(a @ b) = F(a) @ F(b)` as an equality of all five fields. -/
theorem F_tensor (F : Functor) (a b ab fa fb : Diagram) (ha : a.WF) (hb : b.WF)
    (hoka : ∀ bx ∈ a.boxes, F.okOn bx) (hokb : ∀ bx ∈ b.boxes, F.okOn bx)
    (hab : a.tensor b = .ok ab) (hfa : F.apply a = .ok fa) (hfb : F.apply b = .ok fb) :
    ∃ r, fa.tensor fb = .ok r ∧ F.apply ab = .ok r := by
  obtain ⟨faw, _, _⟩ := F.apply_props ha hoka hfa
  obtain ⟨fbw, _, _⟩ := F.apply_props hb hokb hfb
  rw [Diagram.tensor_eq_tensorD ha hb] at hab
  cases hab
  exact ⟨fa.tensorD fb, Diagram.tensor_eq_tensorD faw fbw, F.apply_tensorD ha hb hoka hokb hfa hfb⟩

/-- `F(d†) = F(d)†` for every diagram whose boxes satisfy the box-level dagger law. -/
theorem F_dagger_partial (F : Functor) (d fd : Diagram) (hd : d.WF)
    (hok : ∀ b ∈ d.boxes, F.okOn b)
    (hdag : ∀ b ∈ d.boxes, ∀ x, F.box b = .ok x → F.box b.dag = .ok x.dagger)
    (hfd : F.apply d = .ok fd) : F.apply d.dagger = .ok fd.dagger :=
  F.apply_dagger hd hok hdag hfd

/-- The box-level dagger law holds for generator boxes (flagged or not) … -/
theorem F_dagger_box_flagged (F : Functor) (b : Box) (hk : b.kind = .gen) (hd : b.dagger = true)
    (y : Diagram) (hy : F.arLookup b.dag = .ok y) (hw : y.WF) (x : Diagram) (hx : F.box b = .ok x) :
    F.box b.dag = .ok x.dagger := by
  have hkd : b.dag.kind = .gen := by simp [Box.dag, hk]
  have hdd : b.dag.dagger = false := by simp [Box.dag, hk, hd]
  simp only [Functor.box, hk, hd, if_true, hy] at hx
  cases hx
  simp only [Functor.box, hkd, hdd, Bool.false_eq_true, if_false, hy]
  rw [Diagram.dagger_dagger hw]

/-- … and FAILS for `Swap(x, y)` when both images have two wires (finding F6, witnessed on the
    real code as well): `F(sw)†` and `F(sw†)` are not `==`.  This is why the full statement
    `F_dagger` below is not claimed. -/
theorem F6_swap_witness :
    (match F6.F.box F6.sw, F6.F.box F6.sw.dag with
     | .ok a, .ok b => a.dagger.eqv b
     | _, _ => true) = false := by decide +kernel

/-- Not proved, and not expected to hold: its box-level instance fails in `F6_swap_witness`
    (no `¬ F_dagger` is derived from it here). -/
def F_dagger : Prop :=
  ∀ (F : Functor) (d fd : Diagram), d.WF → (∀ b ∈ d.boxes, F.okOn b) →
    F.apply d = .ok fd → F.apply d.dagger = .ok fd.dagger

/-! ### Slices -/

/-- `F(d[i:j]) = F(d)[i':j']` for all Python slice bounds `i`, `j` (`none` = omitted), where
    `i' = Σ_{k < pyLo n i} |F(box_k).boxes|`, `j' = Σ_{k < pyHi n j} |F(box_k).boxes|` and `pyLo`, `pyHi`
    are CPython's normalisation of the bounds to `[0, n]`.  Both slices always exist; when the
    normalised `i` exceeds the normalised `j` both sides are the identity on the image of the type
    before box `i`. -/
theorem F_slice (F : Functor) (d fd : Diagram) (hd : d.WF) (hok : ∀ b ∈ d.boxes, F.okOn b)
    (hfd : F.apply d = .ok fd) (i j : Option Int) :
    ∃ s fs, d.slice i j = .ok s ∧ F.apply s = .ok fs ∧
      fd.slice (some (F.imgIdx d.boxes (pyLo d.boxes.length i) : Nat))
               (some (F.imgIdx d.boxes (pyHi d.boxes.length j) : Nat)) = .ok fs :=
  F.apply_slice hd hok hfd i j

/-- The plain case `0 ≤ i, j ≤ len(d)`: no normalisation needed. -/
theorem F_slice_nat (F : Functor) (d fd : Diagram) (hd : d.WF) (hok : ∀ b ∈ d.boxes, F.okOn b)
    (hfd : F.apply d = .ok fd) (i j : Nat) (hi : i ≤ d.boxes.length) (hj : j ≤ d.boxes.length) :
    ∃ s fs, d.slice (some (i : Int)) (some (j : Int)) = .ok s ∧ F.apply s = .ok fs ∧
      fd.slice (some (F.imgIdx d.boxes i : Nat)) (some (F.imgIdx d.boxes j : Nat)) = .ok fs := by
  have := F.apply_slice hd hok hfd (some (i : Int)) (some (j : Int))
  simp only [pyLo, pyHi, pyIdx_nat, Nat.min_eq_left hi, Nat.min_eq_left hj] at this
  exact this

/-- The slice the law speaks about is made of the boxes and offsets `d.boxes[i:j]`, `d.offsets[i:j]`. -/
theorem slice_boxes (d s : Diagram) (hd : d.WF) (i j : Option Int) (h : d.slice i j = .ok s) :
    s.boxes = pySlice d.boxes i j ∧ s.offsets = pySlice d.offsets i j :=
  Diagram.slice_boxes hd i j h

theorem imgIdx_mono (F : Functor) (bs : List Box) (a b : Nat) (h : a ≤ b) :
    F.imgIdx bs a ≤ F.imgIdx bs b := F.imgIdx_mono bs h

/-! ### Formal sums (cat.py:833-835) -/

/-- Typing: the image of a well-typed sum is a well-typed sum from `F(dom)` to `F(cod)`. -/
theorem F_sum_typing (F : Functor) (s r : Sum) (hs : s.WF) (hok : F.okOnSum s)
    (h : F.applySum s = .ok r) : r.WF ∧ F.ty s.dom = .ok r.dom ∧ F.ty s.cod = .ok r.cod := by
  obtain ⟨ts, d, c, hm, hd, hc, _, rfl⟩ := F.applySum_inv h
  exact ⟨(F.applySum_props hs hok hm hd hc).2, hd, hc⟩

/-- The terms of the image are the images of the terms, and on a well-typed sum the constructor's
    re-validation never refuses them. -/
theorem F_sum_terms (F : Functor) (s : Sum) (ts : List Diagram) (d c : Ty) (hs : s.WF)
    (hok : F.okOnSum s) (hm : F.Maps s.terms ts) (hd : F.ty s.dom = .ok d) (hc : F.ty s.cod = .ok c) :
    F.applySum s = .ok ⟨ts, d, c⟩ := (F.applySum_props hs hok hm hd hc).1

/-- `F(Sum([], dom, cod)) = Sum([], F(dom), F(cod))`. -/
theorem F_sum_empty (F : Functor) (dom cod d c : Ty) (hd : F.ty dom = .ok d) (hc : F.ty cod = .ok c) :
    F.applySum (Sum.zero dom cod) = .ok (Sum.zero d c) := by
  simp [Functor.applySum, Sum.zero, mapE, hd, hc, Sum.mk?]

/-- `F(Sum([x])) = Sum([F(x)])`. -/
theorem F_sum_single (F : Functor) (x fx : Diagram) (hx : x.WF) (hok : ∀ b ∈ x.boxes, F.okOn b)
    (h : F.apply x = .ok fx) : F.applySum (Sum.single x) = .ok (Sum.single fx) := by
  obtain ⟨_, hd, hc⟩ := F.apply_props hx hok h
  exact F.applySum_eq (s := Sum.single x) (.cons h .nil) hd hc (by simp)

/-- `F(a + b) = F(a) + F(b)` (no hypothesis on the functor or on the terms). -/
theorem F_sum_add (F : Functor) (a b ab fa fb : Sum) (hd : a.dom = b.dom) (hc : a.cod = b.cod)
    (hab : a.add b = .ok ab) (hfa : F.applySum a = .ok fa) (hfb : F.applySum b = .ok fb) :
    ∃ r, fa.add fb = .ok r ∧ F.applySum ab = .ok r := F.applySum_add hd hc hab hfa hfb

/-- `F(a >> b) = F(a) >> F(b)` for sums. -/
theorem F_sum_then (F : Functor) (a b ab fa fb : Sum) (ha : a.WF) (hb : b.WF) (hoka : F.okOnSum a)
    (hokb : F.okOnSum b) (h : a.cod = b.dom) (hab : a.then b = .ok ab)
    (hfa : F.applySum a = .ok fa) (hfb : F.applySum b = .ok fb) :
    ∃ r, fa.then fb = .ok r ∧ F.applySum ab = .ok r :=
  F.applySum_then ha hb hoka hokb h hab hfa hfb

/-- `F(a @ b) = F(a) @ F(b)` for sums. -/
theorem F_sum_tensor (F : Functor) (a b ab fa fb : Sum) (ha : a.WF) (hb : b.WF) (hoka : F.okOnSum a)
    (hokb : F.okOnSum b) (hab : a.tensor b = .ok ab)
    (hfa : F.applySum a = .ok fa) (hfb : F.applySum b = .ok fb) :
    ∃ r, fa.tensor fb = .ok r ∧ F.applySum ab = .ok r :=
  F.applySum_tensor ha hb hoka hokb hab hfa hfb

/-- `F(a†) = F(a)†` for sums whose boxes satisfy the box-level dagger law (cf. `F_dagger_partial`). -/
theorem F_sum_dagger_partial (F : Functor) (a a' fa : Sum) (ha : a.WF) (hok : F.okOnSum a)
    (hdag : ∀ t ∈ a.terms, ∀ b ∈ t.boxes, ∀ x, F.box b = .ok x → F.box b.dag = .ok x.dagger)
    (had : a.dagger = .ok a') (hfa : F.applySum a = .ok fa) :
    ∃ r, fa.dagger = .ok r ∧ F.applySum a' = .ok r := F.applySum_dagger ha hok hdag had hfa

/-! ### Box maps with formal sums among their images (Model/FunctorSumImg.lean) -/

/-- The image of a well-typed diagram is well-typed (each term of it, when it is a formal sum), from
    `F(dom)` to `F(cod)`. -/
theorem F_typing_sumimg (F : FunctorS) (d : Diagram) (r : DS) (hd : d.WF)
    (hok : ∀ b ∈ d.boxes, F.okOn b) (h : F.applyS d = .ok r) :
    r.WF ∧ F.ty d.dom = .ok r.dom ∧ F.ty d.cod = .ok r.cod := F.applyS_props hd hok h

theorem F_id_sumimg (F : FunctorS) (t t' : Ty) (h : F.ty t = .ok t') :
    F.applyS (Diagram.id t) = .ok (.diag (Diagram.id t')) := F.applyS_id h

/-- The image of a one-box diagram is what the box map says (a sum stays that sum, term by term). -/
theorem F_box_sumimg (F : FunctorS) (b : Box) (x : DS) (hb : F.okOn b) (hx : F.box b = .ok x) :
    F.applyS (Diagram.ofBox b) = .ok x := F.applyS_ofBox hb hx

/-- `F(a >> b) = F(a) >> F(b)` when box images may be formal sums: the library's `>>` of the two
    images (`DS.then`: `Diagram.then`, or `Sum.then` after wrapping a plain operand) succeeds and is
    the image of the composite; its value `DS.thenD` lists, for sums, every pair of terms
    `f >> g`, `f` in `F(a)` varying slowest. -/
theorem F_then_sumimg (F : FunctorS) (a b ab : Diagram) (fa fb : DS) (ha : a.WF) (hb : b.WF)
    (hoka : ∀ bx ∈ a.boxes, F.okOn bx) (hokb : ∀ bx ∈ b.boxes, F.okOn bx)
    (hab : a.then b = .ok ab) (hfa : F.applyS a = .ok fa) (hfb : F.applyS b = .ok fb) :
    fa.then fb = .ok (fa.thenD fb) ∧ F.applyS ab = .ok (fa.thenD fb) :=
  F.applyS_then ha hb hoka hokb hab hfa hfb

/-- `F(a @ b) = F(a) @ F(b)` when box images may be formal sums (terms `f @ g`, `f` slowest). -/
theorem F_tensor_sumimg (F : FunctorS) (a b ab : Diagram) (fa fb : DS) (ha : a.WF) (hb : b.WF)
    (hoka : ∀ bx ∈ a.boxes, F.okOn bx) (hokb : ∀ bx ∈ b.boxes, F.okOn bx)
    (hab : a.tensor b = .ok ab) (hfa : F.applyS a = .ok fa) (hfb : F.applyS b = .ok fb) :
    fa.tensor fb = .ok (fa.tensorD fb) ∧ F.applyS ab = .ok (fa.tensorD fb) :=
  F.applyS_tensor ha hb hoka hokb hab hfa hfb

/-- The terms of a composite of two sums, explicitly: all pairs, left factor slowest. -/
theorem thenD_terms_sumimg (sa sb : Sum) :
    (DS.thenD (.sum sa) (.sum sb)) =
      .sum ⟨sa.terms.flatMap fun f => sb.terms.map (Diagram.thenD f), sa.dom, sb.cod⟩ := rfl

/-- With plain images only, the model with sums among the images is `Functor.apply`. -/
theorem F_sumimg_plain (F : Functor) (d : Diagram) : F.toS.applyS d = DS.ofDiag (F.apply d) :=
  F.toS_applyS d

/-- The image of a daggered generator is the dagger of the image (`Sum.dagger` for a sum). -/
theorem F_dagger_box_sumimg (F : FunctorS) (b : Box) (hk : b.kind = .gen) (hd : b.dagger = false)
    (x : DS) (hx : F.box b = .ok x) : F.box b.dag = x.dagger := F.box_dagger b hk hd hx

/-- `F(d†) = F(d)†` FAILS as `==` for `f >> g` with `F(f) = a + b`, `F(g) = c + e`: four terms on
    each side, the same ones, in different orders (finding F4c04a; same root cause as F15). -/
theorem F_dagger_sumimg_witness :
    (match SumImgDagger.lhs, SumImgDagger.rhs with
     | .ok p, .ok q => p.eqv q
     | _, _ => true) = false ∧
    (SumImgDagger.termsOf SumImgDagger.lhs).length = 4 ∧
    (SumImgDagger.termsOf SumImgDagger.lhs).all
      (fun t => (SumImgDagger.termsOf SumImgDagger.rhs).contains t) = true := by decide +kernel

/-- NOT A THEOREM (refuted by `F_dagger_sumimg_witness`). -/
def F_dagger_sumimg : Prop :=
  ∀ (F : FunctorS) (d : Diagram) (fd : DS), d.WF → (∀ b ∈ d.boxes, F.okOn b) →
    F.applyS d = .ok fd → F.applyS d.dagger = fd.dagger

/-! Non-vacuity: a functor with an empty and a two-wire object image, applied to a 2-box diagram. -/
private def x : Ob := ⟨"x", 0⟩
private def y : Ob := ⟨"y", 0⟩
private def p : Ob := ⟨"p", 0⟩
private def q : Ob := ⟨"q", 0⟩
private def f : Box := { name := "f", dom := [x], cod := [y] }
private def g : Box := { name := "g", dom := [y], cod := [x] }
private def k : Box := { name := "k", dom := [p, q], cod := [] }
private def F0 : Functor :=
  { ob := [("x", [p, q]), ("y", [])],
    ar := [(f, Diagram.ofBox k), (g, (Diagram.ofBox k).dagger)] }

example : (match F0.apply (match Diagram.mk? [x, x] [x, y] [f, g, f] [0, 0, 1] with
      | .ok d => d | .error _ => Diagram.id []) with
    | .ok r => r.dom == [p, q, p, q] && r.cod == [p, q] && r.boxes.length == 3
    | .error _ => false) = true := by decide +kernel
example : F0.ty (Ty.l [x, y]) = .ok (Ty.l [p, q]) := by decide +kernel

/-! Slices and sums: a functor whose box images have 2, 0 and 1 boxes (so the bounds really move),
    on `f >> g >> f >> e`; bounds `[1:3]`, `[-3:]`, `[2:1]` (empty, `i > j`), `[:7]`. -/
private def h1 : Box := { name := "h1", dom := [p], cod := [q, q] }
private def h2 : Box := { name := "h2", dom := [q, q], cod := [p] }
private def e : Box := { name := "e", dom := [y], cod := [y] }
private def h3 : Box := { name := "h3", dom := [p], cod := [p] }
private def h1d : Diagram := Diagram.ofBox h1
private def h2d : Diagram := Diagram.ofBox h2
private def F1 : Functor :=
  { ob := [("x", [p]), ("y", [p])],
    ar := [(f, h1d.thenD h2d), (g, Diagram.id [p]), (e, Diagram.ofBox h3)] }
private def d1 : Diagram :=
  match Diagram.mk? [x] [y] [f, g, f, e] [0, 0, 0, 0] with
  | .ok d => d | .error _ => Diagram.id []

private def sliceLaw (F : Functor) (d : Diagram) (i j : Option Int) : Bool :=
  match F.apply d, d.slice i j with
  | .ok fd, .ok s =>
    (match F.apply s, fd.slice (some (F.imgIdx d.boxes (pyLo d.boxes.length i) : Nat))
        (some (F.imgIdx d.boxes (pyHi d.boxes.length j) : Nat)) with
     | .ok a, .ok b => a == b && decide (a.boxes.length = F.imgIdx s.boxes s.boxes.length)
     | _, _ => false)
  | _, _ => false

example : (d1.boxes.length, (match F1.apply d1 with | .ok r => r.boxes.length | .error _ => 0),
    F1.imgIdx d1.boxes 1, F1.imgIdx d1.boxes 2, F1.imgIdx d1.boxes 3) = (4, 5, 2, 2, 4) := by decide +kernel
example : sliceLaw F1 d1 (some 1) (some 3) = true := by decide +kernel
example : sliceLaw F1 d1 (some (-3)) none = true := by decide +kernel
example : sliceLaw F1 d1 (some 2) (some 1) = true := by decide +kernel
example : sliceLaw F1 d1 none (some 7) = true := by decide +kernel

private def s1 : Sum := ⟨[d1, d1], [x], [y]⟩
example : (match F1.applySum s1, F1.apply d1 with
    | .ok r, .ok fd => r == ⟨[fd, fd], [p], [p]⟩ && fd.boxes.length == 5
    | _, _ => false) = true := by decide +kernel
example : F1.applySum (Sum.zero [x, y] [y]) = .ok (Sum.zero [p, p] [p]) := by decide +kernel

/-! Sum images: `f ↦ k + k'` (two terms), `g ↦ Sum([])` / a one-term sum; `F(f >> g)`, `F(f @ f)`. -/
private def k' : Box := { name := "k'", dom := [p, q], cod := [] }
private def m1 : Box := { name := "m1", dom := [], cod := [p, q] }
private def m2 : Box := { name := "m2", dom := [], cod := [p, q] }
private def FS0 : FunctorS :=
  { ob := [("x", [p, q]), ("y", [])],
    ar := [(f, .sum ⟨[Diagram.ofBox k, Diagram.ofBox k'], [p, q], []⟩),
           (g, .sum ⟨[Diagram.ofBox m1, Diagram.ofBox m2], [], [p, q]⟩)] }
private def fg : Diagram := (Diagram.ofBox f).thenD (Diagram.ofBox g)
private def ff : Diagram := (Diagram.ofBox f).tensorD (Diagram.ofBox f)

private def termBoxes : Except Err DS → List (List String × List Int)
  | .ok (.sum s) => s.terms.map fun t => (t.boxes.map (·.name), t.offsets)
  | _ => []

example : termBoxes (FS0.applyS fg) =
    [(["k", "m1"], [0, 0]), (["k", "m2"], [0, 0]), (["k'", "m1"], [0, 0]), (["k'", "m2"], [0, 0])] := by
  decide +kernel
example : termBoxes (FS0.applyS ff) =
    [(["k", "k"], [0, 0]), (["k", "k'"], [0, 0]), (["k'", "k"], [0, 0]), (["k'", "k'"], [0, 0])] := by
  decide +kernel
example : (match FS0.applyS (Diagram.ofBox f), FS0.applyS (Diagram.ofBox g), FS0.applyS fg with
    | .ok a, .ok b, .ok ab => (match a.then b with | .ok r => r == ab | .error _ => false)
    | _, _, _ => false) = true := by decide +kernel
example : FS0.okOn f := by
  intro x hx
  have : x = .sum ⟨[Diagram.ofBox k, Diagram.ofBox k'], [p, q], []⟩ := by
    have h : FS0.box f = .ok (.sum ⟨[Diagram.ofBox k, Diagram.ofBox k'], [p, q], []⟩) := by decide +kernel
    rw [h] at hx; exact (Except.ok.inj hx).symm
  subst this
  refine ⟨?_, by decide +kernel, by decide +kernel⟩
  intro t ht
  simp only [List.mem_cons, List.not_mem_nil, or_false] at ht
  rcases ht with rfl | rfl
  · exact ⟨Diagram.ofBox_wf _, rfl, rfl⟩
  · exact ⟨Diagram.ofBox_wf _, rfl, rfl⟩

/-! ### The free-category level: `cat.Functor` on plain arrows (cat.py:880) -/

/-- The image in closed form: it starts on the image of the domain and its boxes are the boxes of
    the box images, one after the other. -/
theorem CF_image (F : CFunctor) (a r : LArrow) (h : F.applyArrow a = .ok r) :
    ∃ t imgs, F.obj a.dom = .ok t ∧ F.images a.boxes = .ok imgs ∧ AJunctions t imgs ∧
      r = ⟨t, alastCod t imgs, (imgs.map (·.boxes)).flatten⟩ := F.applyArrow_eq h

/-- With box images typed `F(dom) → F(cod)` the image of a well-typed arrow exists, is well-typed,
    and goes from the image of the domain to the image of the codomain. -/
theorem CF_typing (F : CFunctor) (a : LArrow) (t : Ty) (imgs : List LArrow)
    (hF : F.ImagesWF) (ha : a.WF) (hb : ∀ l ∈ a.boxes, F.okOn l)
    (ht : F.obj a.dom = .ok t) (hi : F.images a.boxes = .ok imgs) :
    ∃ r, F.applyArrow a = .ok r ∧ r.WF ∧ F.obj a.dom = .ok r.dom ∧ F.obj a.cod = .ok r.cod :=
  F.applyArrow_typed hF ha hb ht hi

theorem CF_id (F : CFunctor) (t t' : Ty) (h : F.obj t = .ok t') :
    F.applyArrow (LArrow.id t) = .ok (LArrow.id t') := F.applyArrow_id h

/-- `F(a >> b) = F(a) >> F(b)` for functors of the free category. -/
theorem CF_then (F : CFunctor) (a b ab fa fb : LArrow) (ha : a.WF)
    (hok : ∀ l ∈ a.boxes, F.okOn l) (hab : a.then b = .ok ab)
    (hfa : F.applyArrow a = .ok fa) (hfb : F.applyArrow b = .ok fb) :
    ∃ r, fa.then fb = .ok r ∧ F.applyArrow ab = .ok r := F.applyArrow_then ha hok hab hfa hfb

/-- `F(a.then(b₁, …, bₙ)) = F(a).then(F(b₁), …, F(bₙ))`. -/
theorem CF_thenN (F : CFunctor) (a d fa : LArrow) (bs fbs : List LArrow)
    (ha : a.WF) (hbs : ∀ b ∈ bs, b.WF)
    (hok : ∀ l ∈ a.boxes, F.okOn l) (hoks : ∀ b ∈ bs, ∀ l ∈ b.boxes, F.okOn l)
    (h : a.thenN bs = .ok d) (hfa : F.applyArrow a = .ok fa) (hfbs : F.ImagesOf bs fbs) :
    ∃ r, fa.thenN fbs = .ok r ∧ F.applyArrow d = .ok r :=
  F.applyArrow_thenN ha hbs hok hoks h hfa hfbs

private def ox : Ty := [{ name := "x" }]
private def oy : Ty := [{ name := "y" }]
private def oz : Ty := [{ name := "z" }]
private def cf : Layer := ⟨[], { name := "f", dom := ox, cod := oy }, []⟩
private def cg : Layer := ⟨[], { name := "g", dom := oy, cod := oz }, []⟩
private def ca : Layer := ⟨[], { name := "a", dom := oy, cod := oy }, []⟩
private def cb : Layer := ⟨[], { name := "b", dom := oy, cod := ox }, []⟩
/-- x ↦ y, y ↦ y, z ↦ x; f ↦ a >> a, g ↦ b. -/
private def CF0 : CFunctor :=
  { ob := [(ox, oy), (oy, oy), (oz, ox)],
    ar := [(cf, ⟨⟨oy, oy, [ca, ca]⟩, false⟩), (cg, ⟨cb.arrow, true⟩)] }

example : CF0.applyArrow ⟨ox, oz, [cf, cg]⟩ = .ok ⟨oy, ox, [ca, ca, cb]⟩ := by decide +kernel
example : (match CF0.applyArrow cf.arrow, CF0.applyArrow cg.arrow with
    | .ok a, .ok b => a.then b
    | _, _ => .error .value) = CF0.applyArrow ⟨ox, oz, [cf, cg]⟩ := by decide +kernel
example : CF0.okOn cf := by
  intro x hx
  have h : CF0.box cf = .ok ⟨⟨oy, oy, [ca, ca]⟩, false⟩ := by decide +kernel
  rw [h] at hx; cases hx; exact ⟨by decide +kernel, by decide +kernel⟩
example : CF0.ImagesOf [cg.arrow] [cb.arrow] := ⟨by decide +kernel, trivial⟩

end DV.C04
