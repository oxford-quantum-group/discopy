/-
  Props/C14.lean — C14 "substituting parameters commutes with evaluation".
  The property theorems; the lemmas behind them are in Proofs/Param.lean, ParamData.lean,
  ParamSeq.lean, ParamXSyms.lean and (the executable polynomial instance) Proofs/PolyOrder.lean,
  PolySem.lean, PolyRing.lean, PolyDiagram.lean.

  PARTIAL.  What is proved, about Model/Param.lean:
   * `eval_natural` — for box data in ANY commutative ring and ANY ring homomorphism σ commuting
     with conjugation (a substitution of values, symbols or expressions is one), evaluating the
     substituted diagram equals substituting in the evaluation: induction over the layers of the
     reference evaluator (it uses only Σ and ·);
   * the EXECUTABLE instance satisfies its hypotheses: the model's integer polynomials in normal
     form are a commutative ring under the model's own `add/mul/neg/0/1` (`poly_ring_laws`,
     instance `CommRing NPoly`; `poly_normal_forms_closed`: the operations keep the normal form;
     `normal_form_unique`), the model's substitution is a ring homomorphism of it
     (`subst_is_ring_hom`), hence `eval_natural_poly`, for every polynomial diagram (data in normal
     form or not), and `eval_natural_poly_simultaneous`;
   * `subs_preserves_*` — per box class, the attribute record (kind, arity, dagger flag,
     mixedness) rebuilt by the class's own `subs` AS THE CODE WRITES IT equals the original for
     every record the class can construct; for `Scalar` and `ClassicalGate` this is FALSE on the
     code as found (findings F5c, F5d): the exact condition is proved (`…_iff`) and the negation
     is `decide`d on a witness; the repaired transcriptions (`Fixes`) are proved to preserve;
   * `subs_keeps_shape` — the diagram-level `subs` keeps dom, the layer structure, and each
     box's name, dom, cod and dagger flag;
   * `free_symbols_spec`, `subs_all_closed`, `lambdify_eq_subs`;
   * SEQUENCES (Model/ParamSeq.lean: the diagram as monoidal.Diagram stores it, with its three
     redundant copies `boxes` / `offsets` / `layers`, and `subs`, `lambdify`, slicing transcribed
     as walks over the copy the code reads): `subs_result_coherent` — the diagram returned by
     `subs` has agreeing copies whatever the argument's `boxes` were; `subs_then_subs`,
     `subs_then_lambdify` — a second substitution / a lambdification of the result is the one-shot
     substitution by the composite; `subs_then_slice` — slices of the result are the substituted
     slices; `subs_views_agree` — boxes read from `.boxes`, from `.layers`, from slices and both
     evaluators (the functor's walk over boxes/offsets, the walk over layers) agree on the result;
     `subs_then_subs_eval` — the evaluation after two substitutions is the evaluation with both
     applied.  The record `subsKeepingLayers` (substituted boxes, old layers) is shown NOT to have
     these properties on a concrete diagram.
   * NESTED DATA (Model/ParamData.lean: the containers a box may be handed as `data` — list,
     tuple, set, frozenset, dict, numpy array, 0-d array — with `recursive_free_symbols`
     cat.py:509-517 and `rmap` cat.py:30-48 transcribed as recursions over them):
     `free_symbols_nested` — the symbols collected are exactly those of the entries;
     `free_symbols_container_irrelevant` — two ways of handing the same entries to a box report
     the same symbols; `free_symbols_nested_flat_box` — and the same as the flat box of
     Model/Param.lean; `rmap_entries_and_containers` — substitution maps the entries in place and
     keeps every container; `lambdify_eq_subs_nested`; `subs_all_closed_nested`; `box_subs_hits_nested` — the early exit of
     `Box.subs` is taken only if no entry mentions the variable.  For 0-d arrays these are FALSE
     on the code as found (finding F4z: the array, not its item, is asked for free symbols):
     proved for data without 0-d arrays and for the repaired transcription, negation `decide`d on
     a witness (`zero_d_array_hides_its_symbols_witness`).
   * BUBBLES (Model/ParamXSyms.lean: tensor.Bubble carries no data, REPORTS the symbols of the
     diagram inside by overriding the property `free_symbols` — tensor.py:699-701 — and rebuilds
     itself around `inside.subs(...)`; cat.Arrow.free_symbols asks every box through the public
     property): `bubble_free_symbols_spec` — the symbols reported for a diagram with bubbles are
     exactly those of the parameters of its boxes, the boxes inside bubbles included;
     `bubble_subs_acts_on_parameters`, `bubble_subs_keeps_shape` (whiskers, declared types and the
     function of each bubble), `bubble_subs_all_closed`; `bubble_eval_natural` — substitution by
     any ring homomorphism commutes with evaluation through the bubbles (which apply an integer
     polynomial entrywise).  A walk over the CACHED attribute `_free_symbols` of the boxes is
     shown by `decide` to drop the symbols inside bubbles
     (`cached_attribute_walk_drops_bubble_symbols`).  Bubbles are un-nested and single-wire in the
     model (nested bubbles, several wires: oracle only).
  What is NOT proved: that sympy's `subs`/`lambdify` ARE ring homomorphisms on sympy
  expressions (sympy's polynomial arithmetic is compared with the model's on every run by the
  streams `psubseval`/`pevalsubs`).  Tensor.subs / CQMap.subs on the evaluated array (findings
  F5a, F5f), the numpy/sympy dispatch of `Parametrized.modules` (F5b) and zx `lambdify` (F5e)
  are oracle-only.
-/
import Proofs.PolyDiagram
import Proofs.ParamSeq
import Proofs.ParamData
import Proofs.ParamXSyms
import Mathlib.Data.ZMod.Basic

namespace DV.C14
open DV.Param

/-- **Substitution commutes with evaluation.** -/
theorem eval_natural {R S : Type} [CommRing R] [CommRing S] [HasConj R] [HasConj S]
    (σ : R →+* S) (hconj : ∀ x, σ (HasConj.conj x) = HasConj.conj (σ x))
    (d : PDiagram R) (i k : Nat) :
    (d.mapData σ).eval i k = σ (d.eval i k) :=
  evalLayers_natural σ hconj d.layers i k

/-! ### the executable instance: integer polynomials in normal form -/

/-- The model's operations keep the normal form (sorted by `Mono.cmp`, trimmed monomials, no zero
    coefficient); `mul` and `subst` even produce it from arbitrary term lists. -/
theorem poly_normal_forms_closed (p q : Poly) (hp : p.WF) (hq : q.WF) :
    (0 : Poly).WF ∧ (1 : Poly).WF ∧ (p + q).WF ∧ (p * q).WF ∧ (-p).WF
      ∧ (∀ c, (Poly.const c).WF) ∧ (∀ i, (Poly.var i).WF) ∧ (∀ σ, (Poly.subst σ p).WF)
      ∧ (∀ v, (Poly.deriv v p).WF) :=
  ⟨Poly.zero_wf, Poly.one_wf, Poly.add_wf hp hq, Poly.mul_wf p q, Poly.neg_wf hp,
   Poly.const_wf, Poly.var_wf, fun σ => Poly.subst_wf σ p, fun v => Poly.deriv_wf v p⟩

/-- The ring operations of `NPoly` ARE the model's operations on the underlying term lists. -/
theorem npoly_ops_are_model_ops (a b : NPoly) :
    (a + b).1 = a.1 + b.1 ∧ (a * b).1 = a.1 * b.1 ∧ (-a).1 = -a.1
      ∧ (0 : NPoly).1 = 0 ∧ (1 : NPoly).1 = 1 := ⟨rfl, rfl, rfl, rfl, rfl⟩

/-- **The model's polynomials in normal form are a commutative ring** (the instance
    `CommRing NPoly` of Proofs/PolyRing.lean; here its laws, spelled out). -/
theorem poly_ring_laws (a b c : NPoly) :
    a + b + c = a + (b + c) ∧ a + b = b + a ∧ 0 + a = a ∧ -a + a = 0
      ∧ a * b * c = a * (b * c) ∧ a * b = b * a ∧ 1 * a = a ∧ a * (b + c) = a * b + a * c :=
  ⟨add_assoc a b c, add_comm a b, zero_add a, neg_add_cancel a, mul_assoc a b c, mul_comm a b,
   one_mul a, mul_add a b c⟩

/-- Normal forms are canonical: two of them denoting the same polynomial (in Mathlib's
    `MvPolynomial ℕ ℤ`) are the same term list. -/
theorem normal_form_unique (p q : Poly) (hp : p.WF) (hq : q.WF) (h : sem p = sem q) : p = q :=
  sem_inj hp hq h

/-- The model's simultaneous substitution is a ring homomorphism. -/
theorem subst_is_ring_hom (σ : Nat → Poly) :
    ∃ f : NPoly →+* NPoly, ∀ a : NPoly, (f a).1 = Poly.subst σ a.1 :=
  ⟨NPoly.substHom σ, fun _ => rfl⟩

/-- **The executable instance** of `eval_natural` (x_v := q on integer polynomials), for every
    polynomial diagram: `eval_natural` at the ring `NPoly` and the homomorphism `substHom`. -/
theorem eval_natural_poly (d : PolyDiagram) (v : Nat) (q : Poly) (i k : Nat) :
    (d.subs v q).eval i k = Poly.subst1 v q (d.eval i k) :=
  eval_natural_subst _ d.layers i k

theorem eval_natural_poly_simultaneous (σ : Nat → Poly) (d : PolyDiagram) (i k : Nat) :
    (d.mapData (Poly.subst σ)).eval i k = Poly.subst σ (d.eval i k) :=
  eval_natural_subst σ d.layers i k

/-- `subs` on a tensor diagram keeps the domain, the number of layers, and every layer's
    whiskers and box name, dom, cod, dagger flag. -/
theorem subs_keeps_shape {R S : Type} (f : R → S) (d : PDiagram R) :
    (d.mapData f).dom = d.dom ∧ (d.mapData f).layers.length = d.layers.length ∧
    ∀ (n : Nat) (l : PLayer R), d.layers[n]? = some l →
      ∃ l' : PLayer S, (d.mapData f).layers[n]? = some l' ∧ l'.left = l.left ∧ l'.right = l.right ∧
        l'.box.name = l.box.name ∧ l'.box.dom = l.box.dom ∧ l'.box.cod = l.box.cod ∧
        l'.box.dagger = l.box.dagger := by
  refine ⟨rfl, by simp [PDiagram.mapData], ?_⟩
  intro n l hl
  refine ⟨l.mapData f, ?_, rfl, rfl, rfl, rfl, rfl, rfl⟩
  simp [PDiagram.mapData, List.getElem?_map, hl]

/-! ### per class: what `subs` rebuilds

  The Boolean arguments of `csubs` are facts about the box (Model/Param.lean): `hit` = the
  substituted variable is among its free symbols, `hd` = its data is not `None`, `hs` = it has
  free symbols at all.  Only `ClassicalGate.subs` looks at the last two. -/

theorem subs_preserves_tensorBox (fx : Fixes) (hit hd hs : Bool) (a : Attr) :
    csubs fx .tensorBox hit hd hs a = .ok a := by
  unfold csubs; cases hit <;> rfl

theorem subs_preserves_rotation (fx : Fixes) (hit hd hs : Bool) (a : Attr)
    (h : a.reachable .rotation) : csubs fx .rotation hit hd hs a = .ok a := by
  obtain ⟨kind, nin, nout, dagger, mixed⟩ := a
  obtain ⟨rfl, rfl⟩ := h
  rfl

theorem subs_preserves_mixedScalar (fx : Fixes) (hit hd hs : Bool) (a : Attr)
    (h : a.reachable .mixedScalar) : csubs fx .mixedScalar hit hd hs a = .ok a := by
  obtain ⟨kind, nin, nout, dagger, mixed⟩ := a
  obtain ⟨rfl, rfl, rfl, rfl⟩ := h
  rfl

theorem subs_preserves_sqrt (fx : Fixes) (hit hd hs : Bool) (a : Attr)
    (h : a.reachable .sqrt) : csubs fx .sqrt hit hd hs a = .ok a := by
  obtain ⟨kind, nin, nout, dagger, mixed⟩ := a
  obtain ⟨rfl, rfl, rfl, rfl⟩ := h
  rfl

theorem subs_preserves_zxSpider (fx : Fixes) (hit hd hs : Bool) (a : Attr)
    (h : a.reachable .zxSpider) : csubs fx .zxSpider hit hd hs a = .ok a := by
  obtain ⟨kind, nin, nout, dagger, mixed⟩ := a
  obtain ⟨rfl, rfl⟩ := h
  rfl

theorem subs_preserves_zxScalar (fx : Fixes) (hit hd hs : Bool) (a : Attr)
    (h : a.reachable .zxScalar) : csubs fx .zxScalar hit hd hs a = .ok a := by
  obtain ⟨kind, nin, nout, dagger, mixed⟩ := a
  obtain ⟨rfl, rfl, rfl, rfl, rfl⟩ := h
  rfl

/-- `Scalar.subs` keeps the record iff the scalar is pure — or the repair of F5c is in. -/
theorem subs_preserves_scalar_partial (fx : Fixes) (hit hd hs : Bool) (a : Attr)
    (h : a.reachable .scalar) :
    csubs fx .scalar hit hd hs a = .ok a ↔ (fx.scalarKeepsMixed = true ∨ a.mixed = some false) := by
  obtain ⟨kind, nin, nout, dagger, mixed⟩ := a
  obtain ⟨rfl, rfl, rfl, rfl, _⟩ := h
  cases hf : fx.scalarKeepsMixed
  · -- as found: the record comes back with `mixed := some false`
    simp only [csubs, hf, Bool.false_eq_true, ↓reduceIte, eq_comm, Except.ok.injEq, Attr.mk.injEq,
      true_and, false_or]
  · simp only [csubs, hf, ↓reduceIte, true_or]

/-- F5c, decided: on the code as found a mixed scalar comes back pure. -/
theorem scalar_subs_drops_mixedness_witness :
    csubs {} .scalar true true true ⟨"Scalar", 0, 0, false, some true⟩
      = .ok ⟨"Scalar", 0, 0, false, some false⟩ := by decide

/-- `ClassicalGate.subs` on a gate with data and with free symbols (`true true`; without data it
    raises, F5h below) keeps the record iff the gate is not daggered — or the repair of F5d is in. -/
theorem subs_preserves_classicalGate_partial (fx : Fixes) (hit : Bool) (a : Attr)
    (h : a.reachable .classicalGate) :
    csubs fx .classicalGate hit true true a = .ok a
      ↔ (fx.cgateKeepsDagger = true ∨ a.dagger = false) := by
  obtain ⟨kind, nin, nout, dagger, mixed⟩ := a
  obtain ⟨rfl, rfl⟩ := h
  cases hf : fx.cgateKeepsDagger <;> cases dagger <;> simp [csubs, hf]

/-- F5d, decided: on the code as found a daggered classical gate loses its flag. -/
theorem classicalGate_subs_drops_dagger_witness :
    csubs {} .classicalGate true true true ⟨"ClassicalGate", 2, 1, true, some false⟩
      = .ok ⟨"ClassicalGate", 2, 1, false, some false⟩ := by decide

/-- F5h, decided: on the code as found `Bits(1).subs(x, 2)` raises (data is None). -/
theorem classical_state_subs_raises_witness :
    csubs {} .classicalGate false false false ⟨"Bits", 0, 1, false, some false⟩
      = .error .attribute := by decide

/-- With the three repairs every modelled class keeps every reachable record. -/
theorem subs_preserves_all_when_repaired (cls : Cls) (hit hs : Bool) (a : Attr)
    (h : a.reachable cls) :
    csubs ⟨true, true, true⟩ cls hit true hs a = .ok a := by
  cases cls
  · exact subs_preserves_tensorBox _ _ _ _ _
  · exact subs_preserves_rotation _ _ _ _ _ h
  · exact (subs_preserves_scalar_partial _ _ _ _ _ h).mpr (Or.inl rfl)
  · exact subs_preserves_mixedScalar _ _ _ _ _ h
  · exact subs_preserves_sqrt _ _ _ _ _ h
  · cases hs with
    | true => exact (subs_preserves_classicalGate_partial _ _ _ h).mpr (Or.inl rfl)
    | false => simp [csubs]
  · exact subs_preserves_zxSpider _ _ _ _ _ h
  · exact subs_preserves_zxScalar _ _ _ _ _ h

/-! ### free symbols -/

/-- The free symbols of a diagram are exactly the symbols occurring in the data of its boxes. -/
theorem free_symbols_spec {R : Type} (fs : R → List Nat) (d : PDiagram R) (v : Nat) :
    v ∈ d.freeSymbols fs ↔ ∃ l ∈ d.layers, ∃ e ∈ l.box.data, v ∈ fs e :=
  mem_freeSymbolsL fs d.layers v

/-- Substituting numbers for all symbols: σ = ι ∘ ev with `ev` into a ring of numbers `K` and
    `ι` the inclusion of numbers.  The result reports no free symbol and every entry of its
    evaluation is (the inclusion of) a number, namely the evaluation over `K`. -/
theorem subs_all_closed {A K : Type} [CommRing A] [CommRing K] [HasConj A] [HasConj K]
    (fs : A → List Nat) (ev : A →+* K) (ι : K →+* A)
    (hι : ∀ x, ι (HasConj.conj x) = HasConj.conj (ι x))
    (hnum : ∀ k, fs (ι k) = []) (d : PDiagram A) :
    (d.mapData (fun e => ι (ev e))).freeSymbols fs = [] ∧
    ∀ i k, (d.mapData (fun e => ι (ev e))).eval i k = ι ((d.mapData ev).eval i k) := by
  refine ⟨freeSymbols_mapData_closed fs _ (fun e => hnum (ev e)) d.layers, ?_⟩
  intro i k
  exact (congrArg (fun ls => evalLayers ls i k)
    (mapData_mapData (ev : A → K) (ι : K → A) d.layers).symm).trans
    (evalLayers_natural ι hι (d.mapData ev).layers i k)

/-- `lambdify` on the model: the diagram with every datum evaluated at the given values
    (a diagram over the numbers `K`). -/
def lambdify {A K : Type} (ev : A → K) (d : PDiagram A) : PDiagram K := d.mapData ev

/-- Calling the lambdified diagram gives the same diagram as substituting the values, and it
    evaluates to the evaluation with the values substituted. -/
theorem lambdify_eq_subs {A K : Type} [CommRing A] [CommRing K] [HasConj A] [HasConj K]
    (ev : A →+* K) (hev : ∀ x, ev (HasConj.conj x) = HasConj.conj (ev x))
    (ι : K → A) (d : PDiagram A) :
    (lambdify ev d).mapData ι = d.mapData (fun e => ι (ev e)) ∧
    ∀ i k, (lambdify ev d).eval i k = ev (d.eval i k) := by
  constructor
  · exact congrArg (PDiagram.mk d.dom) (mapData_mapData (ev : A → K) ι d.layers)
  · intro i k
    exact evalLayers_natural ev hev d.layers i k


/-! ### nested box data: the container is not data -/

/-- **The free symbols of a box are exactly the symbols occurring in the entries of its data**,
    however deeply and in whatever containers (list, tuple, set, frozenset, dict values, numpy
    array) the entries sit — for data without 0-d arrays, or with the repaired reading of 0-d
    arrays (`z = true`). -/
theorem free_symbols_nested {R : Type} (z : Bool) (fs : R → List Nat) (d : PData R)
    (h : z = true ∨ d.noZeroD = true) (v : Nat) :
    v ∈ d.freeSymbols z fs ↔ ∃ e ∈ d.entries, v ∈ fs e :=
  PData.mem_freeSymbols_entries z fs v d h

/-- The same entries in two different containers report the same free symbols. -/
theorem free_symbols_container_irrelevant {R : Type} (z : Bool) (fs : R → List Nat)
    (d d' : PData R) (hd : z = true ∨ d.noZeroD = true) (hd' : z = true ∨ d'.noZeroD = true)
    (h : d.entries = d'.entries) (v : Nat) :
    v ∈ d.freeSymbols z fs ↔ v ∈ d'.freeSymbols z fs := by
  rw [PData.mem_freeSymbols_entries z fs v d hd, PData.mem_freeSymbols_entries z fs v d' hd', h]

/-- …and the same as the flat box of Model/Param.lean (whose evaluation theorems then apply). -/
theorem free_symbols_nested_flat_box {R : Type} (z : Bool) (fs : R → List Nat) (d : PData R)
    (hd : z = true ∨ d.noZeroD = true) (dom cod : List Nat) (dg : Bool) (v : Nat) :
    v ∈ (({ dom := dom, cod := cod, dagger := dg, data := d.entries } : PBox R).freeSymbols fs)
      ↔ v ∈ d.freeSymbols z fs := by
  rw [mem_box_freeSymbols, PData.mem_freeSymbols_entries z fs v d hd]

/-- `rmap` (hence `rsubs`, `Box.subs`) maps the entries in place and keeps every container. -/
theorem rmap_entries_and_containers {R S : Type} (f : R → S) (d : PData R) :
    (d.rmap f).entries = d.entries.map f
      ∧ (d.rmap f).rmap (fun _ => ()) = d.rmap (fun _ => ()) :=
  ⟨PData.entries_rmap f d, PData.shape_rmap f d⟩

/-- Nested data: lambdifying (evaluating every entry at the values, `ev`) and reading the numbers
    back as data (`ι`) is the substitution `ι ∘ ev`; two substitutions compose. -/
theorem lambdify_eq_subs_nested {A K : Type} (ev : A → K) (ι : K → A) (d : PData A) :
    (d.rmap ev).rmap ι = d.rmap (fun e => ι (ev e)) :=
  PData.rmap_rmap ev ι d

/-- Substituting closed values for every entry leaves no free symbol, whatever the containers. -/
theorem subs_all_closed_nested {R S : Type} (z : Bool) (fs : S → List Nat) (f : R → S)
    (hclosed : ∀ e, fs (f e) = []) (d : PData R) : (d.rmap f).freeSymbols z fs = [] :=
  PData.freeSymbols_rmap_closed z fs f hclosed d

/-- `Box.subs` substitutes (does not take its early exit) whenever an entry mentions a
    substituted variable. -/
theorem box_subs_hits_nested {R : Type} (z : Bool) (fs : R → List Nat) (vars : List Nat)
    (f : R → R) (d : PData R) (hd : z = true ∨ d.noZeroD = true)
    (h : ∃ v ∈ vars, ∃ e ∈ d.entries, v ∈ fs e) : d.boxSubs z fs vars f = d.rmap f := by
  obtain ⟨v, hv, he⟩ := h
  refine if_pos (List.any_eq_true.mpr ⟨v, hv, ?_⟩)
  exact List.contains_iff_mem.mpr ((PData.mem_freeSymbols_entries z fs v d hd).mpr he)

/-- Finding F4z on the model: as the code is (`z = false`) a 0-d array holding `x0 + x1` reports
    no free symbol, so `Box.subs` returns the box unchanged; the same entry in a one-element tuple
    is reported and substituted. -/
theorem zero_d_array_hides_its_symbols_witness :
    (PData.zeroD (Poly.var 0 + Poly.var 1)).freeSymbols false Poly.vars = []
    ∧ (PData.zeroD (Poly.var 0 + Poly.var 1)).boxSubs false Poly.vars [0] (Poly.subst1 0 (Poly.const 2))
        = PData.zeroD (Poly.var 0 + Poly.var 1)
    ∧ (PData.node .tuple (.cons (.leaf (Poly.var 0 + Poly.var 1)) .nil)).freeSymbols false Poly.vars = [0, 1]
    ∧ (PData.zeroD (Poly.var 0 + Poly.var 1)).freeSymbols true Poly.vars = [0, 1] := by
  decide

/-! ### sequences of operations on one diagram -/

/-- **The result of `subs` is one value.**  Whatever `boxes`/`offsets` the argument carried, the
    code's walk over the layers (monoidal.py:476-479) succeeds on composable layers and returns a
    diagram whose three copies agree, with the substituted layers. -/
theorem subs_result_coherent {R S : Type} (f : R → S) (d : RDiagram R)
    (h : Chained d.dom d.layers) :
    ∃ s, d.subs f = .ok s ∧ s.Coherent ∧ s.dom = d.dom
      ∧ s.layers = d.layers.map (PLayer.mapData f) :=
  ⟨_, subs_eq f d h, ofLayers_coherent _ _ ((chained_mapData f d.dom d.layers).mpr h), rfl, rfl⟩

/-- **subs then subs** is the substitution by the composite, in one shot. -/
theorem subs_then_subs {R S T : Type} (f : R → S) (g : S → T) (d : RDiagram R) (h : d.Coherent) :
    (d.subs f >>= RDiagram.subs g) = d.subs (g ∘ f) := by
  rw [subs_of_coherent f d h, subs_of_coherent (g ∘ f) d h]
  show RDiagram.subs g (d.mapData f) = _
  rw [subs_of_coherent g _ (mapData_coherent f d h), RDiagram.mapData_mapData]

/-- **subs then lambdify**: calling the lambdification of a substituted diagram on values `ev` is
    substituting the composite — the same diagram as substituting the values in the result. -/
theorem subs_then_lambdify {R S K : Type} (f : R → S) (ev : S → K) (d : RDiagram R)
    (h : d.Coherent) :
    (d.subs f >>= RDiagram.lambdify ev) = d.subs (ev ∘ f)
      ∧ (d.subs f >>= RDiagram.lambdify ev) = (d.subs f >>= RDiagram.subs ev) :=
  ⟨subs_then_subs f ev d h, rfl⟩

/-- **subs then slice**: the slices of the result are the substituted slices of the argument, and
    their boxes are the slices of the result's boxes. -/
theorem subs_then_slice {R S : Type} (f : R → S) (i j : Nat) (d : RDiagram R) (h : d.Coherent) :
    (d.subs f).map (RDiagram.slice i j) = .ok ((d.slice i j).mapData f)
      ∧ ((d.mapData f).slice i j).boxes = sliceL i j (d.mapData f).boxes := by
  refine ⟨?_, (slice_boxes_of_coherent i j _ (mapData_coherent f d h)).1⟩
  rw [subs_of_coherent f d h]
  show Except.ok ((d.mapData f).slice i j) = _
  rw [slice_mapData]

/-- **All ways of reading the result agree**: `.boxes` against `.layers`, offsets, every slice,
    and the two evaluators (boxes + offsets as the functors walk them, layers). -/
theorem subs_views_agree {R S : Type} [Add S] [Mul S] [Zero S] [One S] [HasConj S]
    (f : R → S) (d : RDiagram R) (h : Chained d.dom d.layers) :
    ∃ s, d.subs f = .ok s ∧ s.boxes = s.layers.map (·.box)
      ∧ s.offsets = s.layers.map (·.left.length)
      ∧ (∀ i j, (s.slice i j).boxes = sliceL i j s.boxes)
      ∧ s.evalBoxes = s.eval := by
  obtain ⟨s, hs, hc, _, _⟩ := subs_result_coherent f d h
  exact ⟨s, hs, hc.boxes, hc.offsets, fun i j => (slice_boxes_of_coherent i j s hc).1,
    evalBoxes_eq_eval s hc⟩

/-- **subs then subs, evaluated**: the evaluation after two substitutions (ring homomorphisms
    commuting with conjugation) is the evaluation with both applied to every entry. -/
theorem subs_then_subs_eval {R S T : Type} [CommRing R] [CommRing S] [CommRing T]
    [HasConj R] [HasConj S] [HasConj T] (σ : R →+* S) (τ : S →+* T)
    (hσ : ∀ x, σ (HasConj.conj x) = HasConj.conj (σ x))
    (hτ : ∀ x, τ (HasConj.conj x) = HasConj.conj (τ x))
    (d : RDiagram R) (h : d.Coherent) (s : RDiagram T)
    (hs : (d.subs σ >>= RDiagram.subs τ) = .ok s) (i k : Nat) :
    s.eval i k = τ (σ (d.eval i k)) := by
  rw [subs_of_coherent (⇑σ) d h] at hs
  change RDiagram.subs (⇑τ) (d.mapData σ) = _ at hs
  rw [subs_of_coherent (⇑τ) _ (mapData_coherent (⇑σ) d h)] at hs
  cases hs
  show evalLayers ((d.layers.map (PLayer.mapData σ)).map (PLayer.mapData τ)) i k = _
  rw [evalLayers_natural τ hτ _ i k,
      evalLayers_natural σ hσ _ i k]
  rfl

/-! ### diagrams with bubbles -/

/-- The free symbols reported for a diagram with bubbles are exactly the symbols occurring in the
    parameters of its boxes — a bubble has no parameter of its own and reports those of the
    diagram inside. -/
theorem bubble_free_symbols_spec {R : Type} (fs : R → List Nat) (ls : List (XLayer R)) (v : Nat) :
    v ∈ xfreeSymbolsL fs ls ↔ ∃ e ∈ xparams ls, v ∈ fs e :=
  mem_xfreeSymbolsL fs ls v

/-- `subs` maps the parameters in place, inside the bubbles too. -/
theorem bubble_subs_acts_on_parameters {R S : Type} (f : R → S) (ls : List (XLayer R)) :
    xparams (ls.map (XLayer.mapData f)) = (xparams ls).map f :=
  xparams_mapData f ls

/-- `subs` keeps the whiskers and the declared type of every box and bubble, and the function of
    every bubble. -/
theorem bubble_subs_keeps_shape {R S : Type} (f : R → S) (l : XLayer R) :
    (l.mapData f).left = l.left ∧ (l.mapData f).right = l.right ∧
    (l.mapData f).box.dom = l.box.dom ∧ (l.mapData f).box.cod = l.box.cod ∧
    ∀ dom cod func inside, l.box = .bubble dom cod func inside →
      (l.mapData f).box = .bubble dom cod func (inside.map (PLayer.mapData f)) :=
  ⟨rfl, rfl, xbox_dom_mapData f l.box, xbox_cod_mapData f l.box,
   fun _ _ _ _ h => by simp [XLayer.mapData, h, XBox.mapData]⟩

/-- Substituting closed values for every parameter: the diagram reports no free symbol. -/
theorem bubble_subs_all_closed {R S : Type} (fs : S → List Nat) (f : R → S)
    (hclosed : ∀ e, fs (f e) = []) (ls : List (XLayer R)) :
    xfreeSymbolsL fs (ls.map (XLayer.mapData f)) = [] :=
  eq_nil_of_closed fs f hclosed (xparams ls) _ fun v => by
    rw [mem_xfreeSymbolsL, xparams_mapData]

/-- **Substitution commutes with evaluation through bubbles**: a bubble applies an integer
    polynomial to every entry of the evaluation of its inside, which commutes with every ring
    homomorphism.  `isInput` = plain boxes and bubbles: the `.chain` boxes of `XBox` are the terms
    that `Bubble.grad` returns, not boxes of a diagram one substitutes in. -/
theorem bubble_eval_natural {R S : Type} [CommRing R] [CommRing S] [HasConj R] [HasConj S]
    (σ : R →+* S) (hconj : ∀ x, σ (HasConj.conj x) = HasConj.conj (σ x))
    (ls : List (XLayer R)) (hls : ∀ l ∈ ls, l.box.isInput) (i k : Nat) :
    xevalLayers (fun n : Int => (n : S)) (ls.map (XLayer.mapData σ)) i k
      = σ (xevalLayers (fun n : Int => (n : R)) ls i k) :=
  (OpHom.of_ringHom σ hconj).map_xevalLayers _ _ (map_intCast σ) ls hls i k

/-- `f >> g.bubble(…)` with `f = [x0, 1, 0, 2]`, `g = [1, x1, x1, 3]`, the bubble squaring. -/
def xb0 : List (XLayer Poly) :=
  [ { left := [], right := [],
      box := .plain { dom := [2], cod := [2], dagger := false, data := [Poly.var 0, 1, 0, Poly.const 2] } },
    { left := [], right := [],
      box := .bubble [2] [2] [0, 0, 1]
        [ { left := [], right := [],
            box := { dom := [2], cod := [2], dagger := false,
                     data := [1, Poly.var 1, Poly.var 1, Poly.const 3] } } ] } ]

/-- A walk that unions the attribute `_free_symbols` cached by `Box.__init__` (instead of asking
    each box through its property, as cat.Arrow.free_symbols does) drops the symbols that occur
    only inside bubbles. -/
theorem cached_attribute_walk_drops_bubble_symbols :
    xfreeSymbolsL Poly.vars xb0 = [0, 1] ∧ xcachedSymbolsL Poly.vars xb0 = [0] := by decide

/-! ### non-vacuity -/

example : (1 : Nat) ∈ xfreeSymbolsL Poly.vars xb0 :=
  (bubble_free_symbols_spec Poly.vars xb0 1).mpr ⟨Poly.var 1, by decide, by decide⟩
example : xfreeSymbolsL Poly.vars (xb0.map (XLayer.mapData (fun _ => Poly.const 1))) = [] :=
  bubble_subs_all_closed Poly.vars _ (fun _ => by decide) xb0
example : ∀ l ∈ xb0, l.box.isInput := by
  intro l hl
  simp only [xb0, List.mem_cons, List.mem_nil_iff, or_false] at hl
  rcases hl with rfl | rfl <;> trivial
example : xevalLayers Poly.const xb0 0 1 = Poly.var 0 * (Poly.var 1 * Poly.var 1) + Poly.const 9 := by
  decide


instance : HasConj (ZMod 5) := ⟨id⟩

/-- A two-layer integer diagram with a daggered box, reduced mod 5. -/
def d0 : PDiagram Int :=
  { dom := [2],
    layers := [ { left := [], right := [],
                  box := { dom := [2], cod := [2], dagger := false, data := [7, 1, 0, 3] } },
                { left := [], right := [],
                  box := { dom := [2], cod := [3], dagger := true, data := [1, 2, 3, 4, 5, 6] } } ] }

example : d0.eval 0 2 = 7 * 5 + 1 * 6 := by decide
example : (d0.mapData (Int.castRingHom (ZMod 5))).eval 0 2 = (Int.castRingHom (ZMod 5)) (d0.eval 0 2) :=
  eval_natural (Int.castRingHom (ZMod 5)) (fun _ => rfl) d0 0 2
example : (⟨"Rx", 1, 1, false, some false⟩ : Attr).reachable .rotation := ⟨rfl, rfl⟩
example : (⟨"Scalar", 0, 0, false, some true⟩ : Attr).reachable .scalar := by
  refine ⟨rfl, rfl, rfl, rfl, ?_⟩; simp
def p0 : PolyDiagram :=
  { dom := [],
    layers := [ { left := [], right := [],
                  box := { dom := [], cod := [2], dagger := false,
                           data := [Poly.var 0 * Poly.var 1, 1] } } ] }
example : (PolyDiagram.subs 0 (Poly.const 2) p0).eval 0 0 = Poly.const 2 * Poly.var 1 := by decide
example : (PolyDiagram.subs 0 (Poly.var 1 + 1) p0).eval 0 0
    = Poly.subst1 0 (Poly.var 1 + 1) (p0.eval 0 0) := eval_natural_poly p0 0 (Poly.var 1 + 1) 0 0
example : Poly.subst1 0 (Poly.var 1 + 1) (p0.eval 0 0) = Poly.var 1 * Poly.var 1 + Poly.var 1 := by
  decide
example : (Poly.var 0 * Poly.var 1).WF := Poly.mul_wf _ _

/-- A coherent two-box integer diagram; doubling its data. -/
def r0 : RDiagram Int :=
  RDiagram.ofLayers [2]
    [ { left := [], right := [],
        box := { dom := [2], cod := [2], dagger := false, data := [7, 1, 0, 3] } },
      { left := [], right := [],
        box := { dom := [2], cod := [2], dagger := false, data := [1, 2, 3, 4] } } ]
example : r0.Coherent := ofLayers_coherent _ _ ⟨rfl, rfl, trivial⟩
example : (r0.subs (· * 2) >>= RDiagram.subs (· + 1)) = r0.subs ((· + 1) ∘ (· * 2)) :=
  subs_then_subs _ _ r0 (ofLayers_coherent _ _ ⟨rfl, rfl, trivial⟩)
example : ((r0.mapData (· * 2)).slice 1 2).eval 0 1 = 4 := by decide
/-- The record with substituted boxes and the OLD layers is not one value: the functor's walk
    (boxes) and the layers' walk (what a later `lambdify`, slice or `grad` sees) differ. -/
example : (r0.subsKeepingLayers (· * 2)).evalBoxes 0 0 = 4 * (r0.subsKeepingLayers (· * 2)).eval 0 0
    ∧ (r0.subsKeepingLayers (· * 2)).eval 0 0 ≠ 0 := by decide
example : (((r0.subsKeepingLayers (· * 2)).slice 1 2).boxes.map (·.data))
    ≠ (sliceL 1 2 (r0.subsKeepingLayers (· * 2)).boxes).map (·.data) := by decide
noncomputable example : CommRing NPoly := inferInstance

/-- Nested data: `[(x0·x1, 1), {'k': {x2}}]` and the flat list `[x0·x1, 1, x2]` hold the same entries. -/
def n0 : PData Poly :=
  .node .list (.cons (.node .tuple (.cons (.leaf (Poly.var 0 * Poly.var 1)) (.cons (.leaf 1) .nil)))
    (.cons (.node .dict (.cons (.node .set (.cons (.leaf (Poly.var 2)) .nil)) .nil)) .nil))
def n1 : PData Poly :=
  .node .list (.cons (.leaf (Poly.var 0 * Poly.var 1)) (.cons (.leaf 1) (.cons (.leaf (Poly.var 2)) .nil)))
example : n0.entries = n1.entries := by decide
example : n0.noZeroD = true ∧ n0.freeSymbols false Poly.vars = [0, 1, 2] := by decide
example (v : Nat) : v ∈ n0.freeSymbols false Poly.vars ↔ v ∈ n1.freeSymbols false Poly.vars :=
  free_symbols_container_irrelevant false Poly.vars n0 n1 (Or.inr rfl) (Or.inr rfl) (by decide) v
example : (n0.boxSubs false Poly.vars [2] (Poly.subst1 2 (Poly.const 3))).freeSymbols false Poly.vars = [0, 1] := by
  decide
example : (n0.rmap (fun _ => Poly.const 1)).freeSymbols false Poly.vars = [] :=
  subs_all_closed_nested false Poly.vars _ (fun _ => by decide) n0

end DV.C14
