/-
  Props/C10.lean — C10 "swaps and permutations realise exactly the requested wire permutation".
  Property theorems; the arguments are in Proofs/Swap.lean, Proofs/PermList.lean and
  Proofs/CQSwap.lean, a proof of a few lines that nothing else needs is given in place.

  Observation used (Model/Wires.lean): `wirePerm d = some w` says that `d` consists of swaps of
  two atomic types only (`d.allSwaps`), every offset lying inside the diagram, and that the wire
  entering at input position `i` leaves at output position `w[i]` — computed from the public
  fields `boxes`/`offsets` alone.  `wirePerm_sound` ties that observation to the types.

  Everything stated here is proved (no `_partial`, no unproved `def … : Prop`):
  * `swap_total`, `swap_wires`     monoidal.py:486-514, induction on `left` along the recursion
  * `permutation_spec`             monoidal.py:516-548, the selection-sort loop invariant
                                   (`permLoop_spec` in Proofs/Swap.lean), for every length
  * `permutation_refuses`, `permutation_only_value_errors`
  * `permutation_accepted_iff`     accepted ⇔ the list is a rearrangement of `range(len(dom))`
                                   (both refusal tests in one condition; `List.Perm`)
  * `permutation_refuses_duplicates`   a list with a repeated entry is refused on EVERY domain
  * `permute_spec`, `permute_refused_when_cod_differs`   monoidal.py:550-564
  * `cq_swap_type`, `cq_swap_blocks`, `cq_swap_spec`   the EVALUATION target of circuit swaps,
                                   `CQMap.swap(left, right)` (cqmap.py:188-193): for classical and
                                   quantum parts of any lengths and dimensions its underlying tensor
                                   over `classical @ quantum @ quantum` is the wire-permutation
                                   tensor of the block exchange in each of the three blocks — the
                                   conjugate copy of the quantum wires is permuted like the first
                                   copy, not by the inverse (Proofs/CQSwap.lean; for every
                                   commutative star-ring of scalars)
  The per-class factories (rigid, tensor, circuit, zx) pass `ar_factory`/`swap_factory` to this
  same code; the model has one box constructor `Box.swap`, so the theorems are about the shared
  algorithm and the classes are tied to it by the correspondence run (harness/props/c10.py).
-/
import Proofs.PermList
import Proofs.CQSwap

namespace DV.C10
open DV

/-- The observation is type-consistent on every well-typed diagram: the wire that `wirePerm`
    sends from `i` to `w[i]` has the same type at both ends. -/
theorem wirePerm_sound (d : Diagram) (w : List Nat) (hw : d.WF) (h : wirePerm d = some w) :
    w.length = d.dom.length ∧ ∀ i, (hi : i < w.length) → d.cod[w[i]]? = d.dom[i]? := by
  obtain ⟨hn, rfl⟩ := wirePerm_eq_some h
  have hs : d.allSwaps = true := by
    simp only [Diagram.swapNetwork, Bool.and_eq_true] at hn
    exact hn.1.1
  refine ⟨by simp, fun i hi => ?_⟩
  simp only [List.getElem_map, List.getElem_range]
  exact Diagram.wire_types hw hs i

/-- `Diagram.swap(left, right)` is never refused; the result is well-typed from `left @ right`
    to `right @ left`, consists of adjacent swaps only and realises the block exchange:
    `wirePerm = [|r|, …, |r|+|l|-1] ++ [0, …, |r|-1]`. -/
theorem swap_total (l r : Ty) :
    ∃ d, Diagram.swap l r = .ok d ∧ d.WF ∧ d.dom = l ++ r ∧ d.cod = r ++ l ∧
      d.allSwaps = true ∧
      wirePerm d = some (List.range' r.length l.length ++ List.range r.length) :=
  Diagram.swap_wirePerm l r

/-- Pointwise reading of `swap_total`: the `i`-th wire of `left` goes to position `|right| + i`
    (to the right of every wire of `right`, order kept), the `k`-th wire of `right` to `k`. -/
theorem swap_wires (l r : Ty) :
    ∃ d w, Diagram.swap l r = .ok d ∧ wirePerm d = some w ∧
      (∀ i, i < l.length → w[i]? = some (r.length + i)) ∧
      (∀ k, k < r.length → w[l.length + k]? = some k) := by
  obtain ⟨d, hd, _, _, _, _, hw⟩ := Diagram.swap_wirePerm l r
  refine ⟨d, _, hd, hw, fun i hi => ?_, fun k hk => ?_⟩
  · rw [List.getElem?_append_left (by simp; exact hi)]
    simp [hi]
  · rw [List.getElem?_append_right (by simp)]
    simp [hk]

/-- For every permutation `p` of `range(n)` and every domain of length `n`:
    `Diagram.permutation(p, dom)` succeeds, is well-typed with domain `dom`, consists of adjacent
    swaps only, sends input wire `i` to output position `p[i]` (`wirePerm = p`), and its codomain
    is the correspondingly permuted domain: `cod[p[i]] = dom[i]`. -/
theorem permutation_spec (p : List Int) (dom : Ty) (hp : isPermList p = true)
    (hl : dom.length = p.length) :
    ∃ d, Diagram.permutation p dom = .ok d ∧ d.WF ∧ d.dom = dom ∧ d.allSwaps = true ∧
      wirePerm d = some (p.map Int.toNat) ∧
      ∀ i, (hi : i < p.length) → d.cod[(p[i]).toNat]? = dom[i]? :=
  Diagram.permutation_wirePerm p dom hp hl

/-- Non-permutations and length mismatches — and nothing else — are refused with `ValueError`. -/
theorem permutation_refuses (p : List Int) (dom : Ty) :
    Diagram.permutation p dom = .error .value ↔ (isPermList p = false ∨ dom.length ≠ p.length) :=
  Diagram.permutation_refuses p dom

/-- Acceptance, stated against the domain: `permutation(p, dom)` returns a diagram exactly when
    `p` is a rearrangement of `[0, …, len(dom)-1]`.  This single condition contains both refusal
    tests — `p` is a permutation of `range(len(p))` AND `len(dom) = len(p)`; comparing only the
    SETS `set(p)` and `set(range(len(dom)))` is weaker (see the `coversRange` examples below). -/
theorem permutation_accepted_iff (p : List Int) (dom : Ty) :
    (∃ d, Diagram.permutation p dom = .ok d) ↔ (intRange dom.length).Perm p :=
  Diagram.permutation_accepted_iff p dom

/-- A list with a repeated entry is refused whatever domain comes with it — in particular a
    domain exactly as long as the number of distinct entries. -/
theorem permutation_refuses_duplicates (p : List Int) (dom : Ty) (hdup : ¬ p.Nodup) :
    Diagram.permutation p dom = .error .value :=
  (Diagram.permutation_refuses p dom).mpr
    (Or.inl (by
      cases h : isPermList p
      · rfl
      · exact absurd (isPermList_nodup h) hdup))

/-- `permutation` never fails in any other way. -/
theorem permutation_only_value_errors (p : List Int) (dom : Ty) :
    (∃ d, Diagram.permutation p dom = .ok d) ∨ Diagram.permutation p dom = .error .value := by
  by_cases hp : isPermList p = true
  · by_cases hl : dom.length = p.length
    · obtain ⟨d, hd, _⟩ := Diagram.permutation_spec p dom hp hl
      exact Or.inl ⟨d, hd⟩
    · exact Or.inr ((Diagram.permutation_refuses p dom).mpr (Or.inr hl))
  · exact Or.inr ((Diagram.permutation_refuses p dom).mpr (Or.inl (by simpa using hp)))

/-- `d.permute(*p)` on a well-typed `d` with `cod = dom`: it is `d >> permutation(p, d.dom)`,
    the appended network has `wirePerm = p`, and the output that was at `i` is now at `p[i]`. -/
theorem permute_spec (d : Diagram) (p : List Int) (hd : d.WF) (hdc : d.cod = d.dom)
    (hp : isPermList p = true) (hl : d.dom.length = p.length) :
    ∃ s d', Diagram.permutation p d.dom = .ok s ∧ d.permute p = .ok d' ∧ d'.WF ∧
      d'.dom = d.dom ∧ d'.boxes = d.boxes ++ s.boxes ∧ d'.offsets = d.offsets ++ s.offsets ∧
      wirePerm s = some (p.map Int.toNat) ∧
      ∀ i, (hi : i < p.length) → d'.cod[(p[i]).toNat]? = d.cod[i]? :=
  Diagram.permute_spec d p hd hdc hp hl

/-- `permute` builds the permutation on `self.dom` (monoidal.py:564, as documented there), so it
    is refused with an axiom error whenever `cod ≠ dom`, even for a valid permutation. -/
theorem permute_refused_when_cod_differs (d : Diagram) (p : List Int) (hd : d.WF)
    (hdc : d.cod ≠ d.dom) (hp : isPermList p = true) (hl : d.dom.length = p.length) :
    d.permute p = .error .axiom := by
  obtain ⟨s, hs, sw, sd, _⟩ := Diagram.permutation_spec p d.dom hp hl
  have := Diagram.then_err hd sw (by rw [sd]; exact hdc)
  simp [Diagram.permute, hs, this]

/-! ### The evaluation target of circuit swaps: `CQMap.swap` (cqmap.py:188-193)

    `CQ.flatIdx ds xs` is the row-major position of the multi-index `xs` (one value per wire) in
    an array of shape `ds`; `CQ.IsIdx ds xs` says every value lies below its wire's dimension. -/

section CQSwap
open DV.CQ
variable {R : Type} [CommRing R] [StarRing R]

/-- `CQMap.swap(l, r) : l @ r -> r @ l`, and its underlying tensor has `Π` of the wire dimensions
    `classical @ quantum @ quantum` of `l @ r` rows and of `r @ l` columns. -/
theorem cq_swap_type (l r : CQTy) :
    (CQMap.swap l r : CQMap R).dom = l.tensor r ∧ (CQMap.swap l r : CQMap R).cod = r.tensor l ∧
    (CQMap.swap l r : CQMap R).toMat.r = prodL (l.tensor r).udim ∧
    (CQMap.swap l r : CQMap R).toMat.c = prodL (r.tensor l).udim := by
  have h : ∀ t : CQTy, t.size = prodL t.udim := fun t => by
    show prodL t.c * prodL t.q * prodL t.q = prodL (t.c ++ t.q ++ t.q)
    rw [prodL_append, prodL_append]
  exact ⟨rfl, rfl, h _, h _⟩

/-- Block by block: with the wires of `l` then `r` on the input of the classical block, of the
    quantum block and of its conjugate copy, the entry is 1 iff each output block carries the
    wires of `r`, in order, followed by the wires of `l`, in order (0 otherwise). -/
theorem cq_swap_blocks (l r : CQTy) {xc yc xq yq xp yp zc zq zp : List Nat}
    (hxc : IsIdx l.c xc) (hyc : IsIdx r.c yc) (hxq : IsIdx l.q xq) (hyq : IsIdx r.q yq)
    (hxp : IsIdx l.q xp) (hyp : IsIdx r.q yp)
    (hzc : IsIdx (r.c ++ l.c) zc) (hzq : IsIdx (r.q ++ l.q) zq) (hzp : IsIdx (r.q ++ l.q) zp) :
    (CQMap.swap l r : CQMap R).f
        (flatIdx (l.c ++ r.c) (xc ++ yc)) (flatIdx (l.q ++ r.q) (xq ++ yq))
        (flatIdx (l.q ++ r.q) (xp ++ yp))
        (flatIdx (r.c ++ l.c) zc) (flatIdx (r.q ++ l.q) zq) (flatIdx (r.q ++ l.q) zp) =
      iv (zc = yc ++ xc ∧ zq = yq ++ xq ∧ zp = yp ++ xp) :=
  CQMap.swap_blocks l r hxc hyc hxq hyq hxp hyp hzc hzq hzp

/-- **cq_swap_spec**.  The underlying tensor of `CQMap.swap(l, r)` (the flattened `array`, read
    at one value per wire of `classical @ quantum @ quantum`) is the permutation tensor on
    (classical l+r, quantum l+r, quantum' l+r): every wire of `l` moves, in order, to the right of
    every wire of `r`, in the classical block and in BOTH copies of the quantum block. -/
theorem cq_swap_spec (l r : CQTy) {xc yc xq yq xp yp z : List Nat}
    (hxc : IsIdx l.c xc) (hyc : IsIdx r.c yc) (hxq : IsIdx l.q xq) (hyq : IsIdx r.q yq)
    (hxp : IsIdx l.q xp) (hyp : IsIdx r.q yp) (hz : IsIdx (r.tensor l).udim z) :
    (CQMap.swap l r : CQMap R).toMat.f
        (flatIdx (l.tensor r).udim ((xc ++ yc) ++ (xq ++ yq) ++ (xp ++ yp)))
        (flatIdx (r.tensor l).udim z) =
      iv (z = (yc ++ xc) ++ (yq ++ xq) ++ (yp ++ xp)) :=
  CQMap.swap_utensor l r hxc hyc hxq hyq hxp hyp hz

/-- Non-vacuity, heterogeneous: `C(Dim(2)) @ Q(Dim(3))` against `C(Dim(3)) @ Q(Dim(2, 2))`. The
    input wires (2,3 | 3,2,2 | 3,2,2) carry (1,2 | 2,1,0 | 1,0,1); the output wires
    (3,2 | 2,2,3 | 2,2,3) carry (2,1 | 1,0,2 | 0,1,1): entry 1. -/
example : (CQMap.swap ⟨[2], [3]⟩ ⟨[3], [2, 2]⟩ : CQMap R).toMat.f
    (flatIdx [2, 3, 3, 2, 2, 3, 2, 2] [1, 2, 2, 1, 0, 1, 0, 1])
    (flatIdx [3, 2, 2, 2, 3, 2, 2, 3] [2, 1, 1, 0, 2, 0, 1, 1]) = 1 := by
  have h := cq_swap_spec (R := R) ⟨[2], [3]⟩ ⟨[3], [2, 2]⟩
    (xc := [1]) (yc := [2]) (xq := [2]) (yq := [1, 0]) (xp := [1]) (yp := [0, 1])
    (z := [2, 1, 1, 0, 2, 0, 1, 1])
    (by simp [IsIdx]) (by simp [IsIdx]) (by simp [IsIdx]) (by simp [IsIdx]) (by simp [IsIdx])
    (by simp [IsIdx]) (by simp [IsIdx, CQTy.udim, CQTy.tensor])
  simpa [CQTy.udim, CQTy.tensor] using h

/-- … and the mirror image on the conjugate copy (the wire of `l` FIRST there: what permuting that
    copy by the inverse swap would give) has entry 0. -/
example : (CQMap.swap ⟨[], [2]⟩ ⟨[], [2, 2]⟩ : CQMap R).toMat.f
    (flatIdx [2, 2, 2, 2, 2, 2] [1, 0, 1, 1, 0, 1])
    (flatIdx [2, 2, 2, 2, 2, 2] [0, 1, 1, 1, 1, 0]) = 0 := by
  have h := cq_swap_spec (R := R) ⟨[], [2]⟩ ⟨[], [2, 2]⟩
    (xc := []) (yc := []) (xq := [1]) (yq := [0, 1]) (xp := [1]) (yp := [0, 1])
    (z := [0, 1, 1, 1, 1, 0])
    (by simp [IsIdx]) (by simp [IsIdx]) (by simp [IsIdx]) (by simp [IsIdx]) (by simp [IsIdx])
    (by simp [IsIdx]) (by simp [IsIdx, CQTy.udim, CQTy.tensor])
  simpa [CQTy.udim, CQTy.tensor] using h

/-- The compiled model computes exactly this at the driver's scalars (`cqexpr swap …`). -/
example : (CQMap.swap ⟨[], [3]⟩ ⟨[], [2]⟩ : CQMap D8).toMat.f
    (flatIdx [3, 2, 3, 2] [2, 1, 1, 0]) (flatIdx [2, 3, 2, 3] [1, 2, 0, 1]) = 1 := by decide

end CQSwap

/-! Non-vacuity: concrete non-trivial instances (pairwise distinct wire types, a non-involutive
    permutation of length 4, widths 2 × 3), the refusals, and a witness that the convention is
    `i ↦ p[i]` and not its inverse. -/

private def x : Ob := ⟨"x", 0⟩
private def y : Ob := ⟨"y", 0⟩
private def z : Ob := ⟨"z", 0⟩
private def u : Ob := ⟨"u", 0⟩
private def v : Ob := ⟨"v", 0⟩
private def f : Box := { name := "f", dom := [x, y], cod := [z, u] }

private def isErr (r : Except Err Diagram) (e : Err) : Bool :=
  match r with | .error e' => e' == e | .ok _ => false
private def okWith (r : Except Err Diagram) (p : Diagram → Bool) : Bool :=
  match r with | .error _ => false | .ok d => p d

example : isPermList [2, 0, 3, 1] = true := by decide
example : okWith (Diagram.swap [x, y] [z, u, v]) (fun d =>
    d.boxes.length == 6 && d.offsets == [1, 2, 3, 0, 1, 2] && d.cod == [z, u, v, x, y] &&
    d.allSwaps && wirePerm d == some [3, 4, 0, 1, 2]) = true := by decide
example : okWith (Diagram.permutation [2, 0, 3, 1] [x, y, z, u]) (fun d =>
    d.cod == [y, u, x, z] && d.allSwaps && d.boxes.length == 3 &&
    wirePerm d == some [2, 0, 3, 1] && wirePerm d != some [1, 3, 0, 2]) = true := by decide
example : isErr (Diagram.permutation [0, 0, 1] [x, y, z]) .value = true := by decide
example : isErr (Diagram.permutation [1, 0, 3] [x, y, z]) .value = true := by decide
example : isErr (Diagram.permutation [1, 0] [x, y, z]) .value = true := by decide
example : isErr (Diagram.permutation [-1, 0] [x, y]) .value = true := by decide
/-- The one-test shortcut `set(p) == set(range(len(dom)))`: every entry lies in `range(n)` and
    every element of `range(n)` occurs.  It is NOT the acceptance condition. -/
private def coversRange (p : List Int) (n : Nat) : Bool :=
  p.all (fun x => decide (0 ≤ x) && decide (x < (n : Int))) &&
  (List.range n).all (fun k => p.contains (k : Int))

-- duplicates together with a domain as long as the number of distinct entries: the shortcut
-- would pass, both real tests fail, the request is refused (also through `permute`)
example : coversRange [0, 1, 1] 2 = true ∧ isPermList [0, 1, 1] = false ∧
    isErr (Diagram.permutation [0, 1, 1] [x, y]) .value = true := by decide
example : coversRange [1, 0, 0] 2 = true ∧
    isErr (Diagram.permutation [1, 0, 0] [x, y]) .value = true := by decide
example : coversRange [0, 0] 1 = true ∧
    isErr (Diagram.permutation [0, 0] [x]) .value = true := by decide
example : isErr ((Diagram.id [x, y]).permute [0, 1, 1]) .value = true := by decide
-- a genuine permutation on a domain that is too short / too long, and on the empty domain
example : isErr (Diagram.permutation [1, 0, 2] [x, y]) .value = true := by decide
example : isErr (Diagram.permutation [1, 0] []) .value = true := by decide
example : isErr (Diagram.permutation [] [x]) .value = true := by decide
-- out of range together with a wrong length
example : isErr (Diagram.permutation [0, 1, 3] [x, y, z, u]) .value = true := by decide
example : ¬ ([0, 1, 1] : List Int).Nodup := by decide
example : (intRange 4).Perm [2, 0, 3, 1] := by decide
example : okWith ((Diagram.id [x, y, z]).permute [1, 2, 0]) (fun d => d.cod == [z, x, y]) = true := by
  decide
example : isErr ((Diagram.ofBox f).permute [1, 0]) .axiom = true := by decide
example : wirePerm (Diagram.ofBox f) = none := by decide

end DV.C10
