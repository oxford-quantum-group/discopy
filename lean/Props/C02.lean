/-
  Props/C02.lean — C02 "diagrams obey the strict dagger-monoidal and sum laws as equalities".
  Property theorems; their proofs are appeals to, or a few lines over, Proofs/Laws.lean and
  Proofs/SumLaws.lean.

  Every diagram law is stated as `=` between full `Diagram` structures (all five fields, the
  hand-maintained `layers` included).  That is stronger than the code's `==`
  (`Diagram.eqv`, monoidal.py:438-442, which ignores `layers`); `eqv_of_eq` is the bridge.
  Operations return `Except Err _`; a law "lhs == rhs" reads "both sides are defined and are
  the same value".

  NOT claimed, because false for the code (and the model): `(a @ b)[::-1] == a[::-1] @ b[::-1]`
  (holds only up to interchange; `dagger_tensor_fails`; the property does not list it).

  PARTIAL — sums, left distributivity.  `Sum.__eq__` compares ORDERED term lists, and
  `a >> (b + c)` lists its terms `f1 g, f1 h, f2 g, …` while `(a >> b) + (a >> c)` lists
  `f1 g, f2 g, …, f1 h, …`.  So `ThenDistribL` / `TensorDistribL` (sum × sum, full strength) are
  kept as unproved `def … : Prop` (stated with `=` on `Sum`); their negations are theorems
  (`not_thenDistribL`, `not_tensorDistribL`, concrete witness `(f1 + f2) >> (g + h)`, finding F15;
  the two sides of the witness differ under the code's `==` as well: `SumWitness.lhs_not_eqv_rhs`).  Proved instead:
  `then_distrib_l_partial` / `tensor_distrib_l_partial` (left operand with at most one term —
  in particular any diagram) and `…_distrib_l_perm` (all sums, equal up to a permutation of
  the terms).  Right distributivity, dagger, units and the empty sum are proved in full.

  SPECIAL BOXES (Model/Special.lean): the box subclasses with their own constructor signature /
  `dagger` override (grammar Word, Swap, Cup, Cap, Discard, MixedState, Measure, Encode, Digits/Bits,
  Ket, Bra, Copy, Match, ClassicalGate, QuantumGate, rotations, Controlled, circuit.Box, Scalar,
  zx Scalar/spiders/Had, tensor Spider), modelled at box level (constructor arguments, dom, cod,
  dagger).  Proved: dagger is identity on objects for ALL of them (`special_dagger_dom/_cod`) and
  involutive: on every box for the code as repaired after findings F42a-c (`SBox.dag`, the model
  switch `f42Fixed` being on; `special_dagger_dagger_patched`), on the `Plain` ones for the code as
  it was found (`dagW false`).  `SpecialDaggerInvolutive` (all boxes, `dagW false`) was FALSE —
  `circuit.Box(_dagger=None)`, `QuantumGate(data=…)`, `Scalar(name=…)` with non-real data — and is
  kept as an unproved `def`, refuted by `not_specialDaggerInvolutive`.
  The diagram-level theorems above are about the generic `Box`; they use a box only through
  `Box.dag` being involutive and identity on objects, which is what is proved here for the
  special classes (diagrams OF special boxes are exercised on the real code by the zoo stream).
-/
import Proofs.SumLaws
import Proofs.Special

namespace DV.C02
open DV

/-- `=` implies the code's `==`. -/
theorem eqv_of_eq (a b : Diagram) (h : a = b) : a.eqv b = true := Diagram.eqv_of_eq h

/-! ### Composition: associative, unital -/

/-- `(a >> b) >> c == a >> (b >> c)`, for arbitrary operands, refusals included: either both
    bracketings are refused or both are defined and equal. -/
theorem then_assoc (a b c : Diagram) :
    (a.then b >>= fun ab => ab.then c) = (b.then c >>= fun bc => a.then bc) :=
  Diagram.then_assoc a b c

theorem then_assoc_ok (a b c ab bc : Diagram) (h1 : a.then b = .ok ab) (h2 : b.then c = .ok bc) :
    ∃ d, ab.then c = .ok d ∧ a.then bc = .ok d := by
  have := Diagram.then_assoc a b c
  rw [h1, h2] at this
  change ab.then c = a.then bc at this
  obtain ⟨_, rfl⟩ := Diagram.then_ok' h1
  obtain ⟨hc2, rfl⟩ := Diagram.then_ok' h2
  have e := Diagram.then_eq_thenD (a := a.thenD b) (b := c) hc2
  exact ⟨_, e, this ▸ e⟩

theorem id_then (a : Diagram) (ha : a.WF) : (Diagram.id a.dom).then a = .ok a :=
  Diagram.id_then ha

theorem then_id (a : Diagram) (ha : a.WF) : a.then (Diagram.id a.cod) = .ok a :=
  Diagram.then_id ha

/-! ### Tensor: associative, unital (unit `Ty()`), the left-to-right whiskered composite -/

theorem tensor_assoc (a b c : Diagram) (ha : a.WF) (hb : b.WF) (hc : c.WF) :
    ∃ ab bc d, a.tensor b = .ok ab ∧ b.tensor c = .ok bc ∧
      ab.tensor c = .ok d ∧ a.tensor bc = .ok d := Diagram.tensor_assoc ha hb hc

theorem tensor_id_nil_left (a : Diagram) (ha : a.WF) : (Diagram.id []).tensor a = .ok a :=
  Diagram.tensor_id_nil_left ha

theorem tensor_id_nil_right (a : Diagram) (ha : a.WF) : a.tensor (Diagram.id []) = .ok a :=
  Diagram.tensor_id_nil_right ha

/-- `a @ b == a @ Id(b.dom) >> Id(a.cod) @ b`. -/
theorem tensor_eq_whisker (a b : Diagram) (ha : a.WF) (hb : b.WF) :
    ∃ l r d, a.tensor (Diagram.id b.dom) = .ok l ∧ (Diagram.id a.cod).tensor b = .ok r ∧
      l.then r = .ok d ∧ a.tensor b = .ok d := Diagram.tensor_eq_whisker ha hb

/-! ### Dagger: involutive, identity on objects, reverses composition -/

theorem dagger_dagger (d : Diagram) (h : d.WF) : d.dagger.dagger = d := Diagram.dagger_dagger h

theorem dagger_id (t : Ty) : (Diagram.id t).dagger = Diagram.id t := Diagram.dagger_id t

theorem dagger_dom_cod (d : Diagram) (h : d.WF) : d.dagger.dom = d.cod ∧ d.dagger.cod = d.dom :=
  ⟨Diagram.dagger_dom h, Diagram.dagger_cod h⟩

/-- `(a >> b)[::-1] == b[::-1] >> a[::-1]`. -/
theorem dagger_then (a b d : Diagram) (h : a.then b = .ok d) :
    b.dagger.then a.dagger = .ok d.dagger := Diagram.dagger_then h

/-- Not a law: dagger does not commute with tensor as `==` (only up to interchange). -/
theorem dagger_tensor_fails :
    ∃ a b ab : Diagram, a.WF ∧ b.WF ∧ a.tensor b = .ok ab ∧
      ∃ r : Diagram, a.dagger.tensor b.dagger = .ok r ∧ ab.dagger.eqv r = false :=
  Diagram.dagger_tensor_fails

/-! ### Slicing -/

/-- `d[:i] >> d[i:] == d` for EVERY integer `i` (Python clamps: negative and out-of-range too). -/
theorem slice_then (d : Diagram) (h : d.WF) (i : Int) :
    ∃ p q, d.slice none (some i) = .ok p ∧ d.slice (some i) none = .ok q ∧ p.then q = .ok d :=
  Diagram.slice_then h i

/-! ### A bare box and the one-box diagram that wraps it -/

/-- `box >> Id(box.cod) == box` and `Id(box.dom) >> box == box` under the code's asymmetric
    `Box.__eq__` (monoidal.py:701-707): the composite is a plain `Diagram`, not a `Box` instance. -/
theorem box_then_id_eq (b : Box) :
    ∃ d, (Diagram.ofBox b).then (Diagram.id b.cod) = .ok d ∧ b.eqvDiagram d = true ∧
      d = Diagram.ofBox b := Box.then_id_eq b

theorem box_id_then_eq (b : Box) :
    ∃ d, (Diagram.id b.dom).then (Diagram.ofBox b) = .ok d ∧ b.eqvDiagram d = true ∧
      d = Diagram.ofBox b :=
  ⟨_, Diagram.id_then (Diagram.ofBox_wf b), b.eqvDiagram_ofBox, rfl⟩

/-! ### Formal sums -/

/-- The empty sum is the unit of `+`. -/
theorem add_unit_l (a : Sum) (ha : a.WF) : (Sum.zero a.dom a.cod).add a = .ok a :=
  Sum.add_unit_l ha
theorem add_unit_r (a : Sum) (ha : a.WF) : a.add (Sum.zero a.dom a.cod) = .ok a :=
  Sum.add_unit_r ha

theorem add_assoc (a b c : Sum) (ha : a.WF) (hb : b.WF) (hc : c.WF)
    (h1 : a.dom = b.dom) (h2 : a.cod = b.cod) (h3 : b.dom = c.dom) (h4 : b.cod = c.cod) :
    ∃ ab bc r, a.add b = .ok ab ∧ b.add c = .ok bc ∧ ab.add c = .ok r ∧ a.add bc = .ok r :=
  Sum.add_assoc ha hb hc h1 h2 h3 h4

/-- Composition / tensor with the empty sum is the empty sum. -/
theorem then_empty_l (d c : Ty) (b : Sum) : (Sum.zero d c).then b = .ok (Sum.zero d b.cod) :=
  Sum.then_empty_l d c b
theorem then_empty_r (a : Sum) (d c : Ty) : a.then (Sum.zero d c) = .ok (Sum.zero a.dom c) :=
  Sum.then_empty_r a d c
theorem tensor_empty_l (d c : Ty) (b : Sum) :
    (Sum.zero d c).tensor b = .ok (Sum.zero (d ++ b.dom) (c ++ b.cod)) := Sum.tensor_empty_l d c b
theorem tensor_empty_r (a : Sum) (d c : Ty) :
    a.tensor (Sum.zero d c) = .ok (Sum.zero (a.dom ++ d) (a.cod ++ c)) := Sum.tensor_empty_r a d c
theorem dagger_empty (d c : Ty) : (Sum.zero d c).dagger = .ok (Sum.zero c d) := Sum.dagger_empty d c

/-- `(a + b) >> c == (a >> c) + (b >> c)`. -/
theorem then_distrib_r (a b c : Sum) (ha : a.WF) (hb : b.WF) (hc : c.WF)
    (hd : a.dom = b.dom) (hcod : a.cod = b.cod) (h : a.cod = c.dom) :
    ∃ ab ac bc r, a.add b = .ok ab ∧ a.then c = .ok ac ∧ b.then c = .ok bc ∧
      ab.then c = .ok r ∧ ac.add bc = .ok r := Sum.then_distrib_r ha hb hc hd hcod h

/-- `(a + b) @ c == (a @ c) + (b @ c)`. -/
theorem tensor_distrib_r (a b c : Sum) (ha : a.WF) (hb : b.WF) (hc : c.WF)
    (hd : a.dom = b.dom) (hcod : a.cod = b.cod) :
    ∃ ab ac bc r, a.add b = .ok ab ∧ a.tensor c = .ok ac ∧ b.tensor c = .ok bc ∧
      ab.tensor c = .ok r ∧ ac.add bc = .ok r := Sum.tensor_distrib_r ha hb hc hd hcod

/-- `(a + b)[::-1] == a[::-1] + b[::-1]`. -/
theorem dagger_distrib (a b : Sum) (ha : a.WF) (hb : b.WF) (hd : a.dom = b.dom)
    (hcod : a.cod = b.cod) :
    ∃ ab a' b' r, a.add b = .ok ab ∧ a.dagger = .ok a' ∧ b.dagger = .ok b' ∧
      ab.dagger = .ok r ∧ a'.add b' = .ok r := Sum.dagger_distrib ha hb hd hcod

theorem sum_dagger_dagger (a : Sum) (ha : a.WF) : ∃ a', a.dagger = .ok a' ∧ a'.dagger = .ok a :=
  Sum.dagger_dagger ha

/-- Full-strength left distributivity (sum × sum) — NOT proved; see the header. -/
def ThenDistribL : Prop := Sum.ThenDistribL
def TensorDistribL : Prop := Sum.TensorDistribL

/-- … it is false: on the witness `(f1 + f2) >> (g + h)` the two sides are different `Sum` values
    (and not `==` either, `SumWitness.lhs_not_eqv_rhs`; finding F15). -/
theorem not_thenDistribL : ¬ ThenDistribL := Sum.not_thenDistribL
theorem not_tensorDistribL : ¬ TensorDistribL := Sum.not_tensorDistribL

/-- `a >> (b + c) == (a >> b) + (a >> c)` when `a` has at most one term (any diagram `a`). -/
theorem then_distrib_l_partial (a b c : Sum) (ha : a.WF) (hb : b.WF) (hc : c.WF)
    (hd : b.dom = c.dom) (hcod : b.cod = c.cod) (h : a.cod = b.dom) (hlen : a.terms.length ≤ 1) :
    ∃ bc ab ac r, b.add c = .ok bc ∧ a.then b = .ok ab ∧ a.then c = .ok ac ∧
      a.then bc = .ok r ∧ ab.add ac = .ok r :=
  Sum.then_distrib_l_partial ha hb hc hd hcod h hlen

theorem tensor_distrib_l_partial (a b c : Sum) (ha : a.WF) (hb : b.WF) (hc : c.WF)
    (hd : b.dom = c.dom) (hcod : b.cod = c.cod) (hlen : a.terms.length ≤ 1) :
    ∃ bc ab ac r, b.add c = .ok bc ∧ a.tensor b = .ok ab ∧ a.tensor c = .ok ac ∧
      a.tensor bc = .ok r ∧ ab.add ac = .ok r := Sum.tensor_distrib_l_partial ha hb hc hd hcod hlen

/-- For all sums both sides have the same types and the same terms up to a permutation. -/
theorem then_distrib_l_perm (a b c : Sum) (ha : a.WF) (hb : b.WF) (hc : c.WF)
    (hd : b.dom = c.dom) (hcod : b.cod = c.cod) (h : a.cod = b.dom) :
    ∃ bc ab ac l r, b.add c = .ok bc ∧ a.then b = .ok ab ∧ a.then c = .ok ac ∧
      a.then bc = .ok l ∧ ab.add ac = .ok r ∧
      l.dom = r.dom ∧ l.cod = r.cod ∧ l.terms.Perm r.terms :=
  Sum.then_distrib_l_perm ha hb hc hd hcod h

theorem tensor_distrib_l_perm (a b c : Sum) (ha : a.WF) (hb : b.WF) (hc : c.WF)
    (hd : b.dom = c.dom) (hcod : b.cod = c.cod) :
    ∃ bc ab ac l r, b.add c = .ok bc ∧ a.tensor b = .ok ab ∧ a.tensor c = .ok ac ∧
      a.tensor bc = .ok l ∧ ab.add ac = .ok r ∧
      l.dom = r.dom ∧ l.cod = r.cod ∧ l.terms.Perm r.terms :=
  Sum.tensor_distrib_l_perm ha hb hc hd hcod

/-- A diagram met by a sum operation is wrapped as a one-term sum, and the operations agree
    with those on diagrams: `Sum([f]) >> Sum([g]) == Sum([f >> g])` etc. -/
theorem single_then (f g : Diagram) (hf : f.WF) (hg : g.WF) (h : f.cod = g.dom) :
    ∃ fg, f.then g = .ok fg ∧ (Sum.single f).then (Sum.single g) = .ok (Sum.single fg) :=
  ⟨_, Diagram.then_spec hf hg h, Sum.single_then hf hg h⟩
theorem single_tensor (f g : Diagram) (hf : f.WF) (hg : g.WF) :
    ∃ fg, f.tensor g = .ok fg ∧ (Sum.single f).tensor (Sum.single g) = .ok (Sum.single fg) :=
  ⟨_, Diagram.tensor_eq_tensorD hf hg, by
    rw [Sum.tensor_spec (Sum.single_wf hf) (Sum.single_wf hg)]
    simp [Sum.tensorD, Sum.single, Diagram.tensorD]⟩
theorem single_dagger (f : Diagram) (hf : f.WF) :
    (Sum.single f).dagger = .ok (Sum.single f.dagger) := by
  rw [Sum.dagger_spec (Sum.single_wf hf)]
  simp [Sum.daggerD, Sum.single, Diagram.dagger_dom hf, Diagram.dagger_cod hf]

/-! ### Special box subclasses: dagger at box level (Model/Special.lean) -/

open DV.Special in
/-- `box[::-1].dom == box.cod` for every special box, all flags, all sizes. -/
theorem special_dagger_dom (b : SBox) : b.dag.dom = b.cod := SBox.dagW_dom _ b

open DV.Special in
theorem special_dagger_cod (b : SBox) : b.dag.cod = b.dom := SBox.dagW_cod _ b

open DV.Special in
/-- `box[::-1][::-1] == box` (as `=` on all constructor arguments): on ALL boxes now that the model
    switch `f42Fixed` is on (the repair of F42a-c), on the `Plain` boxes whichever way it stands. -/
theorem special_dagger_dagger_partial (b : SBox) (h : SBox.f42Fixed = true ∨ b.Plain) : b.dag.dag = b := by
  unfold SBox.dag
  cases hf : SBox.f42Fixed
  · exact SBox.dagW_false_involutive b (h.resolve_left (by rw [hf]; exact Bool.false_ne_true))
  · exact SBox.dagW_true_involutive b

open DV.Special in
theorem special_dagger_plain (b : SBox) (h : b.Plain) : b.dag.Plain := SBox.dagW_plain _ b h

open DV.Special in
/-- Full strength (no `Plain`) for the dagger as it was found (`dagW false`): FALSE, see
    `not_specialDaggerInvolutive`. -/
def SpecialDaggerInvolutive : Prop := ∀ b : SBox, (b.dagW false).dagW false = b

open DV.Special in
theorem not_specialDaggerInvolutive : ¬ SpecialDaggerInvolutive :=
  fun h => SBox.not_dag_dag_cbox_none (h _)

open DV.Special in
/-- F42c: `QuantumGate('W', 1, …, data=0.5)[::-1][::-1]` has lost its data. -/
theorem not_specialDaggerInvolutive_quantumGate_data :
    ((SBox.quantumGate "'W'" 1 "0.5" (some false)).dagW false).dagW false
      ≠ .quantumGate "'W'" 1 "0.5" (some false) := by decide +kernel

open DV.Special in
/-- F42a: `Scalar(1j, name='foo')[::-1][::-1]` is called 'scalar'. -/
theorem not_specialDaggerInvolutive_scalar_named :
    ((SBox.scalar "'foo'" 0 1 false).dagW false).dagW false ≠ .scalar "'foo'" 0 1 false := by
  decide +kernel

open DV.Special in
/-- With the repair of notes/finding_F42.diff (`dagW true`, what `SBox.dag` is) the involution
    holds for every special box. -/
theorem special_dagger_dagger_patched (b : SBox) : (b.dagW true).dagW true = b :=
  SBox.dagW_true_involutive b

section
open DV.Special DV.Special.SBox
-- the uniform distribution on a bit and its dagger (the classical cap of circuits)
example : (mixedState [bit]).dag = SBox.discard [bit] ∧ (mixedState [bit]).dag.dom = [bit] := by decide +kernel
-- a word with a domain: dagger swaps dom and cod although the constructor lists cod first
example : (word "'w'" [⟨"'n'", 0⟩, ⟨"'n'", 0⟩] [⟨"'s'", 0⟩] "-" false).dag.dom
    = [⟨"'n'", 0⟩, ⟨"'n'", 0⟩] := by decide +kernel
-- non-destructive measurement overriding bits: qubit @ bit -> qubit @ bit, dagger an Encode
example : (measure 1 false true).dom = [qubit, bit] ∧ (measure 1 false true).cod = [qubit, bit]
    ∧ (measure 1 false true).dag = encode 1 false true := by decide +kernel
example : (measure 2 true false).Plain ∧ (scalar "'scalar'" 1 2 false).Plain
    ∧ (cbox "'m'" [bit] [qubit] "-" (some true)).Plain := by decide +kernel
end

/-! ### Non-vacuity: concrete non-trivial instances (a scalar box, an effect, a daggered box,
    empty domains) on which the laws' hypotheses hold and the operations are defined. -/

private def x : Ob := ⟨"'x'", 0⟩
private def y : Ob := ⟨"'y'", 0⟩
private def f : Box := { name := "'f'", dom := [x], cod := [y, y] }
private def s : Box := { name := "'s'", dom := [], cod := [] }
private def e : Box := { name := "'e'", dom := [y], cod := [], dagger := true }

private def okWith {α} (r : Except Err α) (p : α → Bool) : Bool :=
  match r with | .error _ => false | .ok d => p d
private def d3 : Except Err Diagram := Diagram.mk? [x] [y] [f, s, e] [0, 1, 0]

example : okWith d3 (fun d => d.boxes.length == 3) = true := by decide +kernel
-- slicing at every point from -5 to 5 recomposes to the same three-box diagram
example : ([-5, -4, -3, -2, -1, 0, 1, 2, 3, 4, 5] : List Int).all (fun i =>
    okWith d3 fun d => okWith (d.slice none (some i)) fun p => okWith (d.slice (some i) none) fun q =>
      okWith (p.then q) fun r => r == d) = true := by decide +kernel
-- `f @ e†` is defined: boxes in order, the second offset past `f`'s two outputs
example : okWith ((Diagram.ofBox f).tensor (Diagram.ofBox e)) (fun d =>
    d.boxes == [f, e] && d.offsets == [0, 2]) = true := by decide +kernel
-- a two-term sum composed with a one-term sum
example : okWith ((Sum.mk [Diagram.ofBox f, Diagram.ofBox f] [x] [y, y]).then
    (Sum.single (Diagram.id [y, y]))) (fun r => r.terms.length == 2) = true := by decide +kernel

end DV.C02
