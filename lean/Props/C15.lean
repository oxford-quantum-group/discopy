/-
  Props/C15.lean — C15 "diagrammatic gradients evaluate to the gradient of the evaluation".
  The property theorems; the lemmas behind them are in Proofs/Param.lean, ParamGates.lean,
  ParamBubble.lean, ParamSum.lean, ParamJac.lean and (the executable polynomial instance)
  Proofs/PolyRing.lean, PolyDiagram.lean;
  a concrete non-trivial instance of the per-gate hypotheses in Proofs/ParamJet.lean.

  PARTIAL.  Proved, for ANY derivation D (additive + Leibniz) on ANY commutative ring:
   * `then_leibniz`, `tensor_leibniz` — product rules for `>>` and `@`;
   * `grad_product_rule` — the recursion of tensor.Diagram.grad (tensor.py:485-492, including its
     "no free symbol → empty sum" exits): if every box gradient evaluates to D of the box, the
     gradient of the diagram evaluates to D of its evaluation; `grad_tensor_boxes` closes the
     hypothesis for tensor.Box.grad; `grad_of_constant`; `jacobian_order`;
   * bubbles (tensor.py:713-735, as repaired): `bubble_chain_rule` D(p ∘ f) = (p' ∘ f) · D f for a
     polynomial function given by its integer coefficients; `spiders_entrywise_product`
     Spider(1,2) >> A @ B >> Spider(2,1) is the entrywise product; `bubble_grad_rule` the terms
     built by Bubble.grad sum to D of the array of the bubble; `grad_with_bubbles` the recursion of
     Diagram.grad over plain boxes and single-wire polynomial bubbles;
   * per-gate rules, symbolic in ν = e^{iπ p(x)} with D ν = iπ p' ν: pure rotation rule (general
     and for the arrays of Rx, Ry, Rz as gates.py writes them), CU1 / CRz / CRx pure rules, the
     mixed parameter-shift rule on the doubled map conj(U) ⊗ U, Scalar.grad, Spider.grad.
  The EXECUTABLE instance satisfies the hypotheses: the model's formal derivative `Poly.deriv` is a
  derivation of the ring of the model's polynomials in normal form (`deriv_is_derivation`), hence
  `grad_poly` / `grad_poly_repaired`, for every polynomial diagram, and
  `grad_poly_bubbles` for polynomial diagrams with bubbles (what the driver's `xgrad` computes).
  SEQUENCES: `subs_then_grad`, `grad_then_subs`, `subs_grad_commute` — the gradient of a substituted
  diagram, and the substituted gradient, evaluate to the derivative of the substituted evaluation
  resp. the substituted derivative (any ring homomorphism, any derivation), and agree when the
  substitution commutes with the derivation.
  FORMAL SUMS (Model/ParamSum.lean: circuit.Sum.grad, circuit.py:673-674, = the gradients of the
  terms concatenated, one per occurrence): `grad_sum` — for terms of any kind with an evaluation
  into a commutative ring, if every term's gradient evaluates to the derivative of the term, the
  gradient of the sum evaluates to the derivative of the evaluation of the sum (a LIST: a term
  occurring n times contributes n times, `grad_sum_multiplicity`); `grad_sum_tensor` for lists of
  layer lists under the hypotheses of the product rule; `grad_twice` — the gradient of the sum that
  `grad` returned evaluates to D'(D(eval)) (second and, iterating, higher order, mixed partials);
  the executable instance `grad_poly_sum`, `grad_poly_twice` (driver commands `psumgrad`, `pgrad2`).
  JACOBIAN KEYWORDS (Model/ParamJac.lean: Circuit.jacobian, circuit.py:503-534, with its `**params`
  and its three branches — no variable, exactly one, several): `jacobian_no_variable`,
  `jacobian_one_variable` — with one variable the jacobian IS `grad(x, **params)`, keywords
  included; `jacobian_stacks_gradients_with_same_keywords` — for any number of variables, block k
  of the evaluation of the jacobian is the evaluation of the gradient w.r.t. the k-th variable
  taken with the SAME keywords; a one-variable branch that drops the keywords is refuted on a
  witness (`jacobian_dropping_keywords_is_wrong`).
  tensor.Sum has NO grad of its own in discopy 0.3.5: the inherited Diagram.grad sees a box without
  free symbols and returns the empty sum (finding F4s) — `tensor_sum_grad_as_found`, and the
  theorems above are about the repaired transcription (`sumHasGrad = true`).  A rule that
  differentiates each DISTINCT term once is refuted on a witness (`distinct_terms_rule_is_wrong`).
  `decide`d witnesses of finding F9 (mixed meaning of `Scalar.grad`) on integer polynomials.
  NOT proved: that sympy's `diff` is such a derivation and that sympy's exp/sin/cos satisfy
  `PhaseHyp` (oracle; sympy's polynomial arithmetic is compared with the model's by the streams
  `pgrad`/`pjac`/`xgrad` on every run); `bubble' @ term` is read as the Kronecker product of the
  two evaluations and box-gradient terms are whiskered as single boxes (a term that is itself a
  diagram is represented by its evaluation — functoriality is C09's); bubbles are single-wire,
  polynomial and not nested.
-/
import Proofs.ParamJet
import Proofs.ParamBubble
import Proofs.ParamSum
import Proofs.ParamJac

namespace DV.C15
open DV.Param

/-- Product rule for `>>`. -/
theorem then_leibniz {R : Type} [CommRing R] (d : Deriv R) (n : Nat) (a b : Mat R) (i k : Nat) :
    d.D (matMul n a b i k)
      = matMul n (fun i j => d.D (a i j)) b i k + matMul n a (fun i j => d.D (b i j)) i k :=
  DV.Param.then_leibniz d n a b i k

/-- Product rule for `@`. -/
theorem tensor_leibniz {R : Type} [CommRing R] (d : Deriv R) (p q : Nat) (a b : Mat R) (i j : Nat) :
    d.D (kron p q a b i j)
      = kron p q (fun i j => d.D (a i j)) b i j + kron p q a (fun i j => d.D (b i j)) i j :=
  DV.Param.tensor_leibniz d p q a b i j

/-- **Product rule over the layers.** -/
theorem grad_product_rule {R : Type} [CommRing R] [HasConj R] (d : Deriv R)
    (dep : PBox R → Bool) (G : PBox R → List (PBox R))
    (hdims : ∀ b, ∀ b' ∈ G b, b'.dom = b.dom ∧ b'.cod = b.cod)
    (hG : ∀ b i j, ((G b).map (fun b' => b'.arr i j)).sum = d.D (b.arr i j))
    (hdep : ∀ b, dep b = false → ∀ i j, d.D (b.arr i j) = 0)
    (ls : List (PLayer R)) (i k : Nat) :
    evalSum (gradLayers dep G ls) i k = d.D (evalLayers ls i k) :=
  DV.Param.grad_product_rule d dep G hdims hG hdep ls i k

/-- Tensor diagrams of plain boxes, with tensor.Box.grad as the code has it (`checksFS = false`)
    or repaired (`true`): the gradient evaluates to the derivative of the evaluation. -/
theorem grad_tensor_boxes {R : Type} [CommRing R] [HasConj R] (d : Deriv R) (checksFS : Bool)
    (dep : PBox R → Bool)
    (hconj : ∀ x, d.D (HasConj.conj x) = HasConj.conj (d.D x))
    (hdep : ∀ b, dep b = false → ∀ i j, d.D (b.arr i j) = 0)
    (ls : List (PLayer R)) (i k : Nat) :
    evalSum (gradLayers dep (boxGrad checksFS dep d.D) ls) i k = d.D (evalLayers ls i k) :=
  DV.Param.grad_product_rule d dep _ (boxGrad_dims checksFS dep d.D)
    (boxGrad_spec d checksFS dep hconj hdep) hdep ls i k

/-! ### the executable instance -/

/-- The model's formal partial derivative is a derivation (additive + Leibniz) of the ring of the
    model's polynomials in normal form. -/
theorem deriv_is_derivation (v : Nat) :
    ∃ D : Deriv NPoly, ∀ a : NPoly, (D.D a).1 = Poly.deriv v a.1 :=
  ⟨NPoly.derivN v, fun _ => rfl⟩

/-- **The executable instance** (tensor.Box.grad as found): the derivation `Poly.deriv` in the
    product rule, for every polynomial diagram (data in normal form or not). -/
theorem grad_poly (d : PolyDiagram) (v : Nat) (i k : Nat) :
    evalSum (d.grad false v) i k = Poly.deriv v (d.eval i k) :=
  grad_poly_layers false v d.layers i k

/-- …and with the repaired tensor.Box.grad (empty sum for a box without the symbol). -/
theorem grad_poly_repaired (d : PolyDiagram) (v : Nat) (i k : Nat) :
    evalSum (d.grad true v) i k = Poly.deriv v (d.eval i k) :=
  grad_poly_layers true v d.layers i k

/-- `grad_product_rule` instantiated literally at the executable ring: data in normal form,
    `D = Poly.deriv v`. -/
theorem grad_npoly (checksFS : Bool) (v : Nat) (ls : List (PLayer NPoly)) (i k : Nat) :
    evalSum (gradLayers (npolyDep v) (boxGrad checksFS (npolyDep v) (NPoly.derivN v).D) ls) i k
      = (NPoly.derivN v).D (evalLayers ls i k) :=
  DV.Param.grad_product_rule (NPoly.derivN v) (npolyDep v) _
    (boxGrad_dims checksFS (npolyDep v) (NPoly.derivN v).D)
    (boxGrad_spec (NPoly.derivN v) checksFS (npolyDep v) (NPoly.derivN_conj v) (npolyDep_spec v))
    (npolyDep_spec v) ls i k

/-- The executable jacobian (driver command `pjac`): block `k` of the columns is the formal
    derivative with respect to the `k`-th listed variable. -/
theorem jacobian_poly (checksFS : Bool) (d : PolyDiagram) (vs : List Nat) (c : Nat)
    (i k j : Nat) (hj : j < c) (v : Nat) (hk : vs[k]? = some v) :
    jacobianMat c (vs.map (fun v => evalSum (d.grad checksFS v))) i (k * c + j)
      = Poly.deriv v (d.eval i j) :=
  (jacobianMat_entry c _ i k j hj (evalSum (d.grad checksFS v))
    (by rw [List.getElem?_map, hk]; rfl)).trans (grad_poly_layers checksFS v d.layers i j)

/-! ### bubbles: the chain rule of tensor.Bubble.grad -/

/-- **Chain rule** at one entry: `D (p(x)) = p'(x) · D x`, `p` given by integer coefficients and
    `p'` by the coefficient list `polyDeriv` (sympy: `func(tmp).diff(tmp).subs(tmp, x)`). -/
theorem bubble_chain_rule {R : Type} [CommRing R] (d : Deriv R) (ι : ℤ →+* R) (cs : List Int)
    (x : R) : d.D (polyApply ι cs x) = polyApply ι (polyDeriv cs) x * d.D x :=
  chain_rule d ι cs x

/-- `Spider(1, 2, a) >> A @ B >> Spider(2, 1, b)` is the entrywise product of `A, B : a → b`. -/
theorem spiders_entrywise_product {R : Type} [CommRing R] (a b : Nat) (A B : Mat R) (i j : Nat) :
    spiderSandwich a b A B i j = if i < a ∧ j < b then A i j * B i j else 0 :=
  spiderSandwich_eq a b A B i j

/-- **Bubble.grad**: the diagrams `Spider(1,2) >> inside.bubble(p') @ t >> Spider(2,1)`, `t` over the
    terms of `inside.grad(var)`, sum entry by entry to `D` of the array of the bubble — i.e. to
    `(p' ∘ f) · D f`. -/
theorem bubble_grad_rule {R : Type} [CommRing R] [HasConj R] (d : Deriv R) (ι : ℤ →+* R)
    (checksFS : Bool) (depP : PBox R → Bool)
    (hconj : ∀ x, d.D (HasConj.conj x) = HasConj.conj (d.D x))
    (hdepP : ∀ b, depP b = false → ∀ i j, d.D (b.arr i j) = 0)
    (dom cod : List Nat) (func : List Int) (inside : List (PLayer R)) (i j : Nat) :
    ((xboxGrad checksFS depP d.D (.bubble dom cod func inside)).map
        (fun b' => b'.arr (ι : Int → R) i j)).sum
      = d.D (bubbleArr (ι : Int → R) (prod dom) (prod cod) func inside i j) :=
  OpHom.of_id.xboxGrad_spec ι ι (fun _ => rfl) d d.D (fun _ => rfl) d.zero hconj checksFS depP hdepP
    (.bubble dom cod func inside) trivial i j

/-- tensor.Diagram.grad over plain boxes and bubbles evaluates to the derivative of the
    evaluation. -/
theorem grad_with_bubbles {R : Type} [CommRing R] [HasConj R] (d : Deriv R) (ι : ℤ →+* R)
    (checksFS : Bool) (depP : PBox R → Bool)
    (hconj : ∀ x, d.D (HasConj.conj x) = HasConj.conj (d.D x))
    (hdepP : ∀ b, depP b = false → ∀ i j, d.D (b.arr i j) = 0)
    (ls : List (XLayer R)) (hin : ∀ l ∈ ls, l.box.isInput) (i k : Nat) :
    xevalSum (ι : Int → R) (xgradLayers (XBox.dep depP) (xboxGrad checksFS depP d.D) ls) i k
      = d.D (xevalLayers (ι : Int → R) ls i k) :=
  OpHom.of_id.xgrad_rule ι ι (fun _ => rfl) d d.D (fun _ => rfl) d.zero hconj checksFS depP hdepP
    ls hin i k

/-- **The executable instance with bubbles**: on polynomial diagrams of plain boxes and bubbles the
    model's gradient (driver command `xgrad`) evaluates to the formal derivative of the model's
    evaluation (`xeval`). -/
theorem grad_poly_bubbles (checksFS : Bool) (v : Nat) (ls : List (XLayer Poly))
    (hin : ∀ l ∈ ls, l.box.isInput) (i k : Nat) :
    xevalSum Poly.const (polyXGrad checksFS v ls) i k
      = Poly.deriv v (xevalLayers Poly.const ls i k) := by
  apply eq_of_norm_eq (xevalSum_eq_sumL Poly.const _ ▸ Poly.sumL_wf _ _ _ i k) (Poly.deriv_wf v _)
  rw [norm_deriv]
  exact norm_opHom.xgrad_rule Poly.const constHom norm_const (NPoly.derivN v) (Poly.deriv v)
    (norm_deriv v) (Poly.deriv_zero v) (fun _ => rfl) checksFS (polyDep v)
    (fun b hb i j => by rw [← norm_deriv, deriv_arr_of_not_dep v b hb, norm_zero]) ls hin i k

/-- A diagram not depending on the symbol has the empty sum as gradient. -/
theorem grad_of_constant {R : Type} (dep : PBox R → Bool) (G : PBox R → List (PBox R))
    (ls : List (PLayer R)) (h : ∀ l ∈ ls, dep l.box = false) : gradLayers dep G ls = [] :=
  DV.Param.grad_of_constant dep G ls h

/-- The jacobian stacks the gradients in the order of the variables: the block of columns
    `k*c … k*c + c − 1` is the gradient with respect to the k-th variable. -/
theorem jacobian_order {R : Type} [Zero R] (c : Nat) (grads : List (Mat R)) (i k j : Nat)
    (hj : j < c) (g : Mat R) (hk : grads[k]? = some g) :
    jacobianMat c grads i (k * c + j) = g i j :=
  jacobianMat_entry c grads i k j hj g hk

/-! ### Circuit.jacobian and its keyword arguments -/

/-- No variable: the empty sum, whatever the keywords. -/
theorem jacobian_no_variable {V K T : Type} (grad : V → K → List T) (kw : K) :
    circuitJacobian grad [] kw = [] := rfl

/-- Exactly one variable: the jacobian is the gradient taken WITH THE SAME KEYWORDS (no digit
    wire is added). -/
theorem jacobian_one_variable {V K T : Type} (grad : V → K → List T) (x : V) (kw : K) :
    circuitJacobian grad [x] kw = (grad x kw).map JTerm.bare := rfl

/-- For any number of variables, block `k` of the evaluation of the jacobian is the evaluation of
    the gradient with respect to the k-th variable taken with the same keywords (`val` = any fixed
    entry of the evaluation of a term, additive over formal sums). -/
theorem jacobian_stacks_gradients_with_same_keywords {V K T R : Type} [AddCommMonoid R]
    (grad : V → K → List T) (kw : K) (val : T → R) (vars : List V) (k : Nat) (x : V)
    (h : vars[k]? = some x) :
    ((circuitJacobian grad vars kw).map (JTerm.blockVal val k)).sum = ((grad x kw).map val).sum :=
  circuitJacobian_block grad kw val vars k x h

/-- A gradient with two modes (`true` = parameter shift: two terms; `false` = pure: one term). -/
def jacWitnessGrad (x : Nat) (mixed : Bool) : List Nat := if mixed then [x, x + 1] else [x]

/-- A one-variable branch that does not forward the keywords returns the default gradient where the
    pure one was asked; with zero or two variables it cannot be told from the code. -/
theorem jacobian_dropping_keywords_is_wrong :
    circuitJacobianDroppingKeywords jacWitnessGrad true [7] false ≠ circuitJacobian jacWitnessGrad [7] false
    ∧ circuitJacobianDroppingKeywords jacWitnessGrad true [] false = circuitJacobian jacWitnessGrad [] false
    ∧ circuitJacobianDroppingKeywords jacWitnessGrad true [7, 8] false
        = circuitJacobian jacWitnessGrad [7, 8] false
    ∧ circuitJacobianDroppingKeywords jacWitnessGrad true [7] true = circuitJacobian jacWitnessGrad [7] true := by
  decide

example : circuitJacobian jacWitnessGrad [7, 8] false = [JTerm.row 0 2 7, JTerm.row 1 2 8] := by decide
example : ((circuitJacobian jacWitnessGrad [7, 8] true).map (JTerm.blockVal (fun t : Nat => Int.ofNat t) 1)).sum = 17 :=
  by decide

/-! ### per-gate rules -/

section
variable {K : Type} [CommRing K] {d : Deriv K} {I pi p' ν ν' : K}

/-- `Rotation.grad(mixed=False) = scalar(π p') @ R(φ + 1/2)` for any array linear in ν, ν'. -/
theorem rotation_pure_rule (H : PhaseHyp d I pi p' ν ν') (A B : Mat K)
    (hA : ∀ i j, d.D (A i j) = 0) (hB : ∀ i j, d.D (B i j) = 0) (i j : Nat) :
    d.D (Ulin A B ν ν' i j) = pi * p' * Ulin A B (I * ν) (-I * ν') i j :=
  DV.Param.rotation_pure_rule H A B hA hB i j

theorem Rx_pure_rule (H : PhaseHyp d I pi p' ν ν') (h : K) (hh : 2 * h = 1) (i j : Nat) :
    d.D (RxArr I h ν ν' i j) = pi * p' * RxArr I h (I * ν) (-I * ν') i j := by
  have hs : d.D (-I * sinν I h ν ν') = pi * p' * (-I * sinν I h (I * ν) (-I * ν')) := by
    have c : d.D (-I) = 0 := by rw [d.neg, H.cI, neg_zero]
    rw [d.const_mul _ _ c, D_sin h H hh, mul_left_comm]
  exact mat2_rule (D_cos h H hh) hs hs (D_cos h H hh) i j

theorem Ry_pure_rule (H : PhaseHyp d I pi p' ν ν') (h : K) (hh : 2 * h = 1) (i j : Nat) :
    d.D (RyArr I h ν ν' i j) = pi * p' * RyArr I h (I * ν) (-I * ν') i j :=
  mat2_rule (D_cos h H hh) (by rw [d.neg, D_sin h H hh, mul_neg]) (D_sin h H hh) (D_cos h H hh) i j

theorem Rz_pure_rule (H : PhaseHyp d I pi p' ν ν') (i j : Nat) :
    d.D (RzArr ν ν' i j) = pi * p' * RzArr (I * ν) (-I * ν') i j :=
  have z : d.D (0 : K) = pi * p' * 0 := by rw [d.zero, mul_zero]
  mat2_rule (by rw [H.D_nu']; ring) z z (by rw [H.D_nu]; ring) i j

theorem CU1_pure_rule (H : PhaseHyp d I pi p' ν ν') (k : Nat) :
    d.D (CU1Diag ν k) = CU1GradDiag I pi p' ν k := by
  unfold CU1Diag CU1GradDiag
  split
  · rw [d.mul, H.D_nu]; ring
  · exact d.one

theorem CRz_pure_rule (H : PhaseHyp d I pi p' ν ν') (h : K) (hh : 2 * h = 1) (k : Nat) (hk : k < 4) :
    d.D (CRzDiag ν ν' k)
      = CRzDiag ν ν' k * (ZZ k * (I * h * pi * p') + IZ k * (-(I * h * pi * p'))) := by
  have hk' : k = 0 ∨ k = 1 ∨ k = 2 ∨ k = 3 := by omega
  -- on |00⟩, |01⟩ the two terms cancel; on |10⟩, |11⟩ they add up to ∓2c = ∓iπp'
  rcases hk' with rfl | rfl | rfl | rfl <;>
    simp only [CRzDiag, ZZ, IZ, Nat.reduceEqDiff, ↓reduceIte, or_true, or_false, or_self]
  · rw [d.one]; ring
  · rw [d.one]; ring
  · rw [H.D_nu']; linear_combination (I * pi * p' * ν') * hh
  · rw [H.D_nu]; linear_combination (-(I * pi * p' * ν)) * hh

/-- CRx (gates.py:482-490) = 1 ⊕ Rx; pure gradient `CRx >> (Z⊗X·c + 1⊗X·(−c))`, c = iπp'/2
    (498-502).  On the upper-left block the two terms cancel (`CRx_pure_rule_upper`); on the
    lower-right block, stated here, they add up to `Rx · (−iπp' X)`. -/
theorem CRx_pure_rule (H : PhaseHyp d I pi p' ν ν') (h : K) (hh : 2 * h = 1) (i j : Nat)
    (hi : i < 2) (hj : j < 2) :
    d.D (RxArr I h ν ν' i j)
      = matMul 2 (RxArr I h ν ν')
          (fun a b => (-1) * (mat2 0 1 1 0 a b * (I * h * pi * p'))
                      + 1 * (mat2 0 1 1 0 a b * (-(I * h * pi * p')))) i j := by
  rw [Rx_pure_rule H h hh, matMul_two]
  have hi' : i = 0 ∨ i = 1 := by omega
  have hj' : j = 0 ∨ j = 1 := by omega
  -- multiplying by X swaps the columns of Rx, and the quarter turn swaps cos and sin
  rcases hi' with rfl | rfl <;> rcases hj' with rfl | rfl
  · simp only [RxArr, mat2_00, mat2_01, mat2_10, cos_shift h H]
    linear_combination (-2 * h * pi * p' * sinν I h ν ν') * H.I_sq + (pi * p' * sinν I h ν ν') * hh
  · simp only [RxArr, mat2_00, mat2_01, mat2_11, sin_shift h H]
    linear_combination (I * pi * p' * cosν h ν ν') * hh
  · simp only [RxArr, mat2_00, mat2_10, mat2_11, sin_shift h H]
    linear_combination (I * pi * p' * cosν h ν ν') * hh
  · simp only [RxArr, mat2_01, mat2_10, mat2_11, cos_shift h H]
    linear_combination (-2 * h * pi * p' * sinν I h ν ν') * H.I_sq + (pi * p' * sinν I h ν ν') * hh

/-- The default (mixed) rule on the doubled map of a single-qubit rotation:
    `D 𝒰(φ) = π p' (𝒰(φ + 1/4) − 𝒰(φ − 1/4))`. -/
theorem rotation_mixed_rule (H : PhaseHyp d I pi p' ν ν') (ζ ζ' : K)
    (hζ : ζ * ζ = I) (hζ' : ζ' * ζ' = -I) (n : Nat) (A B A' B' : Mat K)
    (hA : ∀ i j, d.D (A i j) = 0) (hB : ∀ i j, d.D (B i j) = 0)
    (hA' : ∀ i j, d.D (A' i j) = 0) (hB' : ∀ i j, d.D (B' i j) = 0) (r c : Nat) :
    d.D (kron n n (Ulin A' B' ν ν') (Ulin A B ν ν') r c)
      = pi * p' * (kron n n (Ulin A' B' (ζ * ν) (ζ' * ν')) (Ulin A B (ζ * ν) (ζ' * ν')) r c
                 - kron n n (Ulin A' B' (ζ' * ν) (ζ * ν')) (Ulin A B (ζ' * ν) (ζ * ν')) r c) :=
  DV.Param.rotation_mixed_rule H ζ ζ' hζ hζ' n A B A' B' hA hB hA' hB' r c

/-- `Spider.grad` (zx.py:289-295) under the symmetric phase convention. -/
theorem spider_rule (H : PhaseHyp d I pi p' ν ν') :
    d.D ν' = pi * p' * (-I * ν') ∧ d.D ν = pi * p' * (I * ν) ∧ d.D (0 : K) = pi * p' * 0 :=
  DV.Param.spider_rule H

/-- …and not under the standard convention diag(1, e^{2πiφ}) unless the phase is constant. -/
theorem spider_rule_std_convention_fails (μ : K)
    (rule : d.D (1 : K) = pi * p' * 1 ∧ d.D μ = pi * p' * (-μ)) : pi * p' = 0 := by
  have h1 := rule.1
  rw [d.one] at h1
  linear_combination -h1

/-- `Scalar.grad` for amplitudes, and what a gradient of the CQ meaning `conj(s)·s` of a pure
    scalar has to be. -/
theorem scalar_rule (s s' : K) : d.D (s' * s) = d.D s' * s + s' * d.D s :=
  d.mul _ _

end

/-! ### finding F9, decided on integer polynomials -/

/-- Pure scalar `s = x0` in a default (mixed) gradient: its CQ meaning is `x0²` with derivative
    `2·x0`; `Scalar.grad` returns the pure scalar `1`, whose CQ meaning is `1`. -/
theorem scalar_grad_mixed_meaning_witness_pure :
    Poly.deriv 0 (Poly.var 0 * Poly.var 0) ≠ Poly.deriv 0 (Poly.var 0) * Poly.deriv 0 (Poly.var 0) := by
  decide

/-- Mixed scalar `s = x0²`: CQ meaning `x0²`, derivative `2·x0`; `Scalar.grad` returns a PURE
    scalar `2·x0`, whose CQ meaning is `4·x0²`. -/
theorem scalar_grad_mixed_meaning_witness_mixed :
    Poly.deriv 0 (Poly.var 0 * Poly.var 0)
      ≠ Poly.deriv 0 (Poly.var 0 * Poly.var 0) * Poly.deriv 0 (Poly.var 0 * Poly.var 0) := by
  decide

/-! ### grad composed with substitution (sequences of parameter operations) -/

/-- **subs then grad**: the gradient of the SUBSTITUTED diagram (σ any ring homomorphism commuting
    with conjugation, e.g. y := an expression that may mention x) evaluates to the derivative of the
    substituted evaluation. -/
theorem subs_then_grad {R S : Type} [CommRing R] [CommRing S] [HasConj R] [HasConj S]
    (σ : R →+* S) (hσ : ∀ x, σ (HasConj.conj x) = HasConj.conj (σ x))
    (d : Deriv S) (checksFS : Bool) (dep : PBox S → Bool)
    (hconj : ∀ x, d.D (HasConj.conj x) = HasConj.conj (d.D x))
    (hdep : ∀ b, dep b = false → ∀ i j, d.D (b.arr i j) = 0)
    (ls : List (PLayer R)) (i k : Nat) :
    evalSum (gradLayers dep (boxGrad checksFS dep d.D) (ls.map (PLayer.mapData σ))) i k
      = d.D (σ (evalLayers ls i k)) := by
  rw [grad_tensor_boxes d checksFS dep hconj hdep,
      evalLayers_natural σ hσ ls i k]

/-- **grad then subs**: substituting in every term of the gradient (cat.Sum.subs, cat.py:721-723)
    and evaluating gives the substituted derivative of the evaluation. -/
theorem grad_then_subs {R S : Type} [CommRing R] [CommRing S] [HasConj R] [HasConj S]
    (σ : R →+* S) (hσ : ∀ x, σ (HasConj.conj x) = HasConj.conj (σ x))
    (d : Deriv R) (checksFS : Bool) (dep : PBox R → Bool)
    (hconj : ∀ x, d.D (HasConj.conj x) = HasConj.conj (d.D x))
    (hdep : ∀ b, dep b = false → ∀ i j, d.D (b.arr i j) = 0)
    (ls : List (PLayer R)) (i k : Nat) :
    evalSum ((gradLayers dep (boxGrad checksFS dep d.D) ls).map (·.map (PLayer.mapData σ))) i k
      = σ (d.D (evalLayers ls i k)) := by
  rw [← grad_tensor_boxes d checksFS dep hconj hdep ls i k]
  unfold evalSum
  rw [(OpHom.of_ringHom σ hσ).map_sum, List.map_map, List.map_map]
  apply congrArg
  apply List.map_congr_left
  intro t _
  exact evalLayers_natural σ hσ t i k

/-- The two orders agree whenever the substitution commutes with the derivations (y := a value or
    an expression free of x). -/
theorem subs_grad_commute {R S : Type} [CommRing R] [CommRing S] [HasConj R] [HasConj S]
    (σ : R →+* S) (hσ : ∀ x, σ (HasConj.conj x) = HasConj.conj (σ x))
    (d : Deriv R) (d' : Deriv S) (hcomm : ∀ x, d'.D (σ x) = σ (d.D x))
    (checksFS : Bool) (dep : PBox R → Bool) (dep' : PBox S → Bool)
    (hconj : ∀ x, d.D (HasConj.conj x) = HasConj.conj (d.D x))
    (hconj' : ∀ x, d'.D (HasConj.conj x) = HasConj.conj (d'.D x))
    (hdep : ∀ b, dep b = false → ∀ i j, d.D (b.arr i j) = 0)
    (hdep' : ∀ b, dep' b = false → ∀ i j, d'.D (b.arr i j) = 0)
    (ls : List (PLayer R)) (i k : Nat) :
    evalSum (gradLayers dep' (boxGrad checksFS dep' d'.D) (ls.map (PLayer.mapData σ))) i k
      = evalSum ((gradLayers dep (boxGrad checksFS dep d.D) ls).map (·.map (PLayer.mapData σ))) i k := by
  rw [subs_then_grad σ hσ d' checksFS dep' hconj' hdep', grad_then_subs σ hσ d checksFS dep hconj hdep,
      hcomm]

/-- The hypotheses of `subs_then_grad` / `grad_then_subs` are met by the executable ring: the
    substitution x1 := x0², which mentions the variable x0 differentiated afterwards. -/
example (ls : List (PLayer NPoly)) (i k : Nat) :
    evalSum (gradLayers (npolyDep 0) (boxGrad true (npolyDep 0) (NPoly.derivN 0).D)
        (ls.map (PLayer.mapData
          (NPoly.substHom (fun n => if n = 1 then Poly.var 0 * Poly.var 0 else Poly.var n))))) i k
      = (NPoly.derivN 0).D
          (NPoly.substHom (fun n => if n = 1 then Poly.var 0 * Poly.var 0 else Poly.var n)
            (evalLayers ls i k)) :=
  subs_then_grad _ (fun _ => rfl) (NPoly.derivN 0) true (npolyDep 0) (NPoly.derivN_conj 0)
    (npolyDep_spec 0) ls i k

example (ls : List (PLayer NPoly)) (i k : Nat) :
    evalSum ((gradLayers (npolyDep 0) (boxGrad true (npolyDep 0) (NPoly.derivN 0).D) ls).map
        (·.map (PLayer.mapData (NPoly.substHom (fun n => if n = 1 then Poly.const 2 else Poly.var n))))) i k
      = NPoly.substHom (fun n => if n = 1 then Poly.const 2 else Poly.var n)
          ((NPoly.derivN 0).D (evalLayers ls i k)) :=
  grad_then_subs _ (fun _ => rfl) (NPoly.derivN 0) true (npolyDep 0) (NPoly.derivN_conj 0)
    (npolyDep_spec 0) ls i k

example (ls : List (PLayer NPoly)) (i k : Nat) :=
  subs_grad_commute (RingHom.id NPoly) (fun _ => rfl) (NPoly.derivN 0) (NPoly.derivN 0) (fun _ => rfl)
    true (npolyDep 0) (npolyDep 0) (NPoly.derivN_conj 0) (NPoly.derivN_conj 0) (npolyDep_spec 0)
    (npolyDep_spec 0) ls i k

/-! ### formal sums and higher-order gradients -/

/-- **Gradient of a formal sum** (circuit.Sum.grad; terms of any kind): one gradient per
    occurrence of a term, and the whole evaluates to the derivative of the evaluation of the sum. -/
theorem grad_sum {R T : Type} [CommRing R] (d : Deriv R) (ev : T → R) (g : T → List T)
    (hg : ∀ t, ((g t).map ev).sum = d.D (ev t)) (ts : List T) :
    ((gradSum g ts).map ev).sum = d.D ((ts.map ev).sum) :=
  DV.Param.grad_sum d ev g hg ts

/-- Multiplicity: the gradient of `t + ts` is the gradient of `t` followed by that of `ts`; a term
    occurring `n` times contributes its gradient `n` times. -/
theorem grad_sum_multiplicity {T : Type} (g : T → List T) (t : T) (ts : List T) (n : Nat) :
    gradSum g (t :: ts) = g t ++ gradSum g ts
      ∧ (gradSum g (List.replicate n t)).length = n * (g t).length :=
  ⟨gradSum_cons g t ts, gradSum_replicate_length g t n⟩

/-- Formal sums of tensor diagrams under the hypotheses of the product rule. -/
theorem grad_sum_tensor {R : Type} [CommRing R] [HasConj R] (d : Deriv R)
    (dep : PBox R → Bool) (G : PBox R → List (PBox R))
    (hdims : ∀ b, ∀ b' ∈ G b, b'.dom = b.dom ∧ b'.cod = b.cod)
    (hG : ∀ b i j, ((G b).map (fun b' => b'.arr i j)).sum = d.D (b.arr i j))
    (hdep : ∀ b, dep b = false → ∀ i j, d.D (b.arr i j) = 0)
    (ts : List (List (PLayer R))) (i k : Nat) :
    evalSum (gradSum (gradLayers dep G) ts) i k = d.D (evalSum ts i k) :=
  grad_sum_layers d dep G hdims hG hdep ts i k

/-- **Second-order gradients** `d.grad(x).grad(y)`: the gradient of the sum returned by `grad`
    evaluates to `D_y (D_x (eval d))`. -/
theorem grad_twice {R : Type} [CommRing R] [HasConj R] (d d' : Deriv R)
    (dep dep' : PBox R → Bool) (G G' : PBox R → List (PBox R))
    (hdims : ∀ b, ∀ b' ∈ G b, b'.dom = b.dom ∧ b'.cod = b.cod)
    (hG : ∀ b i j, ((G b).map (fun b' => b'.arr i j)).sum = d.D (b.arr i j))
    (hdep : ∀ b, dep b = false → ∀ i j, d.D (b.arr i j) = 0)
    (hdims' : ∀ b, ∀ b' ∈ G' b, b'.dom = b.dom ∧ b'.cod = b.cod)
    (hG' : ∀ b i j, ((G' b).map (fun b' => b'.arr i j)).sum = d'.D (b.arr i j))
    (hdep' : ∀ b, dep' b = false → ∀ i j, d'.D (b.arr i j) = 0)
    (ls : List (PLayer R)) (i k : Nat) :
    evalSum (gradSum (gradLayers dep' G') (gradLayers dep G ls)) i k
      = d'.D (d.D (evalLayers ls i k)) := by
  rw [grad_sum_layers d' dep' G' hdims' hG' hdep', DV.Param.grad_product_rule d dep G hdims hG hdep]

/-- The executable instance (driver command `psumgrad`, repaired sums). -/
theorem grad_poly_sum (checksFS : Bool) (v : Nat) (ts : List (List (PLayer Poly))) (i k : Nat) :
    evalSum (polySumGrad true checksFS v ts) i k = Poly.deriv v (evalSum ts i k) :=
  grad_poly_sum_proof checksFS v ts i k

/-- The executable instance (driver command `pgrad2`, repaired sums). -/
theorem grad_poly_twice (checksFS : Bool) (v w : Nat) (d : PolyDiagram) (i k : Nat) :
    evalSum (polyGradTwice true checksFS v w d.layers) i k
      = Poly.deriv w (Poly.deriv v (d.eval i k)) := by
  unfold polyGradTwice
  rw [grad_poly_sum_proof]
  exact congrArg (Poly.deriv w) (grad_poly_layers checksFS v d.layers i k)

/-- Finding F4s on the model: as the code is, the gradient of ANY formal sum of tensor diagrams is
    the empty sum (tensor.Sum inherits Diagram.grad, which sees a box without free symbols). -/
theorem tensor_sum_grad_as_found (checksFS : Bool) (v : Nat) (ts : List (List (PLayer Poly))) :
    polySumGrad false checksFS v ts = [] :=
  rfl

/-! ### non-vacuity: first-order jets over ℤ/17 (Proofs/ParamJet.lean) -/

open DV.Param.Jet in
example : jetD.D (RxArr Jet.I Jet.h Jet.ν Jet.ν' 0 1)
    = 1 * eps * RxArr Jet.I Jet.h (Jet.I * Jet.ν) (-Jet.I * Jet.ν') 0 1 :=
  Rx_pure_rule phaseHyp Jet.h two_h 0 1

open DV.Param.Jet in
example (r c : Nat) :
    jetD.D (kron 2 2 (Ulin (mat2 1 0 0 0) (mat2 0 0 0 1) Jet.ν Jet.ν')
                     (Ulin (mat2 0 0 0 1) (mat2 1 0 0 0) Jet.ν Jet.ν') r c)
      = 1 * eps * (kron 2 2 (Ulin (mat2 1 0 0 0) (mat2 0 0 0 1) (Jet.ζ * Jet.ν) (Jet.ζ' * Jet.ν'))
                            (Ulin (mat2 0 0 0 1) (mat2 1 0 0 0) (Jet.ζ * Jet.ν) (Jet.ζ' * Jet.ν')) r c
                 - kron 2 2 (Ulin (mat2 1 0 0 0) (mat2 0 0 0 1) (Jet.ζ' * Jet.ν) (Jet.ζ * Jet.ν'))
                            (Ulin (mat2 0 0 0 1) (mat2 1 0 0 0) (Jet.ζ' * Jet.ν) (Jet.ζ * Jet.ν')) r c) :=
  rotation_mixed_rule phaseHyp Jet.ζ Jet.ζ' ζ_sq ζ'_sq 2 _ _ _ _
    (mat2_const (d := jetD) _ _ _ _ jetD.zero jetD.zero jetD.zero jetD.one)
    (mat2_const (d := jetD) _ _ _ _ jetD.one jetD.zero jetD.zero jetD.zero)
    (mat2_const (d := jetD) _ _ _ _ jetD.one jetD.zero jetD.zero jetD.zero)
    (mat2_const (d := jetD) _ _ _ _ jetD.zero jetD.zero jetD.zero jetD.one) r c

open DV.Param.Jet in
example : jetD.D Jet.ν ≠ 0 := D_ν_ne_zero

/-- A two-layer polynomial diagram; its model gradient has two terms and evaluates to the
    derivative of the evaluation (the executable instance of `grad_tensor_boxes`). -/
def g0 : PolyDiagram :=
  { dom := [2],
    layers := [ { left := [], right := [],
                  box := { dom := [2], cod := [2], dagger := false,
                           data := [Poly.var 0, 1, Poly.var 1, Poly.var 0 * Poly.var 1] } },
                { left := [], right := [],
                  box := { dom := [2], cod := [2], dagger := true,
                           data := [Poly.const 2 * Poly.var 0, 0, 0, Poly.var 0 + 1] } } ] }

example : (g0.grad false 0).length = 2 := by decide
example : evalSum (g0.grad false 0) 1 1 = Poly.deriv 0 (g0.eval 1 1) := by decide
example : g0.grad false 2 = [] := by decide
example : evalSum (g0.grad true 0) 0 1 = Poly.deriv 0 (g0.eval 0 1) := grad_poly_repaired g0 0 0 1

/-- The formal sum `g0 + g0`: its gradient has 2 · 2 terms and evaluates to the derivative of the
    sum; the second-order gradient of `g0` has 4 terms. -/
example : (polySumGrad true false 0 [g0.layers, g0.layers]).length = 4 := by decide
example : evalSum (polySumGrad true false 0 [g0.layers, g0.layers]) 1 1
    = Poly.deriv 0 (evalSum [g0.layers, g0.layers] 1 1) := grad_poly_sum false 0 _ 1 1
example : Poly.deriv 0 (evalSum [g0.layers, g0.layers] 1 1) ≠ 0 := by decide
example : (polyGradTwice true false 0 1 g0.layers).length = 2 := by decide
example : evalSum (polyGradTwice true false 0 1 g0.layers) 1 1
    = Poly.deriv 1 (Poly.deriv 0 (g0.eval 1 1)) := grad_poly_twice false 0 1 g0 1 1
example : Poly.deriv 1 (Poly.deriv 0 (g0.eval 1 1)) ≠ 0 := by decide

/-- "Differentiate each distinct term only once" is NOT the gradient of a sum: on `g0 + g0` it
    gives half the derivative. -/
theorem distinct_terms_rule_is_wrong :
    evalSum (gradSumDistinct (polyGradLayers false 0) [g0.layers, g0.layers]) 1 1
      ≠ Poly.deriv 0 (evalSum [g0.layers, g0.layers] 1 1) := by
  decide

/-- `h >> f.bubble(p)` with `p(t) = 1 + 2t + t³`, `h : 1 → 2`, `f : 2 → 2`. -/
def b0 : List (XLayer Poly) :=
  [ { left := [], right := [],
      box := .plain { dom := [], cod := [2], dagger := false,
                      data := [Poly.var 0 * Poly.var 0, Poly.var 1] } },
    { left := [], right := [],
      box := .bubble [2] [2] [1, 2, 0, 1]
        [ { left := [], right := [],
            box := { dom := [2], cod := [2], dagger := false,
                     data := [Poly.var 0, 1, Poly.var 1, Poly.var 0 * Poly.var 1] } } ] } ]

example : polyDeriv [1, 2, 0, 1] = [2, 0, 3] := by decide
example : (polyXGrad true 0 b0).length = 2 := by decide
example : xevalSum Poly.const (polyXGrad true 0 b0) 0 1
    = Poly.deriv 0 (xevalLayers Poly.const b0 0 1) := by decide
example : xevalLayers Poly.const b0 0 1 ≠ 0 ∧ Poly.deriv 0 (xevalLayers Poly.const b0 0 1) ≠ 0 := by
  decide
example : polyXGrad true 2 b0 = [] := by decide
example (i k : Nat) : xevalSum Poly.const (polyXGrad true 0 b0) i k
    = Poly.deriv 0 (xevalLayers Poly.const b0 i k) :=
  grad_poly_bubbles true 0 b0 (by intro l hl; simp [b0] at hl; rcases hl with rfl | rfl <;> trivial) i k

end DV.C15
