/-
  Props/C12.lean — C12 "Mixed evaluation agrees with pure evaluation and the Born rule".

  All theorems are about the executable model `Model/CQ.lean` (classical-quantum maps of
  cqmap.py, the two functors of circuit.py), for EVERY commutative star-ring `R` (conjugation :=
  `star`; e.g. ℂ) and every dimension.  `A ≈ B` is observable equality: same type, same entries
  (what `CQMap.__eq__`/the array shows); `=` is used where the maps agree as functions.

  PARTIAL.  Proved, in general dimension:
    * doubling is a monoidal functor: `pure_then`, `pure_tensor` (the latter is the mixed-product
      property through the block permutation of `CQMap.tensor`, made explicit by
      `cq_tensor_blocks`), `cq_interchange`, and clause (a) for whole
      circuits, `pure_circuit_doubled` / `eval_pure_vs_mixed`: the mixed evaluation of a circuit
      of kets, bras, gates, swaps and scalars is `ū ⊗ u` for its pure evaluation `u`;
    * the Born rule `measure_pure` (+ the non-destructive variant, + multi-wire measurements are
      the measurement of the flattened index), `discard_pure`, `discard_unitary`,
      `discard_marginal`;
    * classical weights: a wire-less non-mixed box is classical (`wireless_box_is_classical`),
      read by its value (`classical_weight_entry`), and weighting is linear (`weight_tensor`);
    * adjoints: `encode_is_measure_dagger`, `mixedstate_is_discard_dagger` for every variant (these
      are how the code defines them), `dagger_involutive`, `dagger_then`, `dagger_tensor`,
      `dagger_pure`;
    * `trace_preserving`: a well-typed circuit whose boxes are state preparations / unitaries
      (pure isometries, also flagged daggers of unitaries), measurements (destructive or not,
      overriding bits or not), discards, stochastic classical gates and swaps evaluates — without
      error — to a trace-preserving map; `tp_then`, `tp_tensor`; `distribution_normalised`.
      Global phases (pure scalar boxes of modulus one, `phase_box_listed`, `phase_box_tp`) are in
      the list: unitaries on no qubit.
    * square-root scalars: `sqrt(z)` is the pure scalar box of a root `r` of `z`; it doubles to
      `conj r · r` (`sqrt_box_doubled`), a square root of `|z|²` (`sqrt_box_doubled_sq`) — `1` for
      `sqrt(-1)`, not `-1` (`sqrt_minus_one`); covered by `pure_circuit_doubled` and
      `eval_mixed_flag` through `scalar_box_pure` / `LBox.NonMixed.scalar`.
    * mixed scalars (`MixedScalar(z)`, `scalar(z, is_mixed=True)`): the weight `z` itself, not `|z|²`
      (`mixed_scalar_entry`); the scalar box of the conjugate value with the SAME `is_mixed` flag —
      what `Scalar.dagger` returns — is the adjoint, pure or mixed (`scalar_dagger_adjoint`,
      `scalar_dagger_dagger`); with the flag forgotten it is not (example over ℤ[i]).
    * the `mixed=True` flag on circuits WITHOUT mixed boxes, whatever `is_mixed` says
      (`eval_mixed_flag`): the mixed evaluation of a well-typed circuit of classical gates on bits
      (Bits, ClassicalGate, Copy, Match, weights, flagged daggers), quantum boxes on qubits, pure
      scalars and swaps — bits and qubits interleaved in any way, or never on the same layer, as
      in `(Bits(1) >> flip >> marginal) @ (Ket(0) >> H)` for which `is_mixed` is False — is
      `a ⊗ ū ⊗ u` (`CQMap.hybrid`): `a` the plain evaluation of the classical part over the bit
      wires, read as it is (a diagonal classical-quantum map, `double_is_classical_tensor_pure`),
      `u` the plain evaluation of the quantum part over the qubit wires, doubled.  It is NOT a
      function of the plain evaluation `a·u` of the whole circuit (`flag_is_not_a_wrapper`).
      `double_then`, `double_tensor`: such maps are closed under `≫` and `⊗`;
      `eval_flag_false_not_mixed`: without the flag a circuit that is not mixed is contracted
      as a plain tensor;
    * the glue of `get_counts()`/`measure()` (circuit.py:309-346; model `Circuit.getCounts`,
      `Circuit.measure`), in part: `init_and_discard_distribution` — for a well-typed circuit of
      listed boxes on bits and qubits, `init_and_discard()` evaluates to a normalised distribution
      (any commutative star-ring); `C12_counts_glue_partial`, `counts_keys_increasing` — at the
      driver's ring, once that circuit evaluates to `m`, `measure(mixed=True)` is the list of real
      parts of `m`, `get_counts()` lists exactly its non-zero entries (real parts), keys increasing.
  NOT proved (kept below as a `Prop` that no theorem claims; checked by the oracle and the
  correspondence on every run):
    * `C12_counts_glue` in full: that the prepared-and-discarded circuit evaluates for every
      well-typed circuit of typed boxes at the driver's ring (the distribution theorem asks for
      listed boxes and a commutative star-ring), and that the entries are real, so that the real
      part is the entry (non-negativity would need an order on top).
  Taken at their specification (validated by the correspondence streams): the swap network of
  `CQMap.tensor` (cqmap.py:163-186) = the block permutation; `Tensor.then/tensor/dagger/swap` =
  matrix product / Kronecker product / conjugate transpose / block swap (C08); `tensor.Functor` =
  ordered product of `1 ⊗ box ⊗ 1` (C09).  The driver's exact ring ℤ[ζ₈][1/2] is not proved to be
  a commutative star-ring (the theorems are not about it in particular).
-/
import Proofs.CQ
import Proofs.CQSplit
import Proofs.CQCounts
import Proofs.CQInitDiscard
import Mathlib.NumberTheory.Zsqrtd.GaussianInt

namespace DV.C12
open DV DV.CQ

variable {R : Type} [CommRing R] [StarRing R]

/-! ## doubling -/

/-- `pure (u ≫ v) = pure u ≫ pure v`. -/
theorem pure_then (d m e : List Nat) (u v : Mat R) (h : u.c = prodL m) :
    CQMap.pure d e (u.comp v) = (CQMap.pure d m u).comp (CQMap.pure m e v) :=
  CQMap.pure_comp d m e u v h

/-- `pure (u ⊗ v) = pure u ⊗ pure v`, where the right-hand `⊗` is `CQMap.tensor` (Kronecker
    product between the block permutations `[q₀ q₀' q₁ q₁'] ↔ [q₀ q₁ q₀' q₁']`). -/
theorem pure_tensor (d e d' e' : List Nat) (u v : Mat R) (hr : v.r = prodL d') (hc : v.c = prodL e') :
    CQMap.pure (d ++ d') (e ++ e') (u.kron v) = (CQMap.pure d e u).tensor (CQMap.pure d' e' v) :=
  CQMap.pure_tensor d e d' e' u v hr hc

/-- `CQMap.tensor` (cqmap.py:163-186) is the Kronecker product of the underlying tensors between
    the block permutations `[c₀ c₁ q₀ q₁ q₀' q₁'] ↔ [c₀ q₀ q₀' c₁ q₁ q₁']` of domain and codomain. -/
theorem cq_tensor_blocks (A B : CQMap R) {c0 q0 p0 c1 q1 p1 c0' q0' p0' c1' q1' p1' : Nat}
    (hq0 : q0 < A.dom.Q) (hp0 : p0 < A.dom.Q) (hc1 : c1 < B.dom.C) (hq1 : q1 < B.dom.Q)
    (hp1 : p1 < B.dom.Q) (hq0' : q0' < A.cod.Q) (hp0' : p0' < A.cod.Q) (hc1' : c1' < B.cod.C)
    (hq1' : q1' < B.cod.Q) (hp1' : p1' < B.cod.Q) :
    (A.tensor B).f (c0 * B.dom.C + c1) (q0 * B.dom.Q + q1) (p0 * B.dom.Q + p1)
        (c0' * B.cod.C + c1') (q0' * B.cod.Q + q1') (p0' * B.cod.Q + p1') =
      (A.toMat.kron B.toMat).f
        (CQMap.flat A.dom.Q c0 q0 p0 * B.dom.size + CQMap.flat B.dom.Q c1 q1 p1)
        (CQMap.flat A.cod.Q c0' q0' p0' * B.cod.size + CQMap.flat B.cod.Q c1' q1' p1') := by
  have hB : CQMap.flat B.dom.Q c1 q1 p1 < B.dom.size := flat_lt hc1 hq1 hp1
  have hB' : CQMap.flat B.cod.Q c1' q1' p1' < B.cod.size := flat_lt hc1' hq1' hp1'
  rw [CQMap.tensor_f]
  show _ = A.toMat.f (_ / B.dom.size) (_ / B.cod.size) * B.toMat.f (_ % B.dom.size) (_ % B.cod.size)
  rw [pair_div hB, pair_div hB', pair_mod hB, pair_mod hB', A.toMat_f hq0 hp0 hq0' hp0',
    B.toMat_f hq1 hp1 hq1' hp1', pair_div hc1, pair_div hq1, pair_div hp1, pair_div hc1',
    pair_div hq1', pair_div hp1', pair_mod hc1, pair_mod hq1, pair_mod hp1, pair_mod hc1',
    pair_mod hq1', pair_mod hp1']

/-- The interchange law of classical-quantum maps (mixed-product property of `CQMap.tensor`). -/
theorem cq_interchange (A A' B B' : CQMap R) (h : B.cod = B'.dom) :
    (A.tensor B).comp (A'.tensor B') = (A.comp A').tensor (B.comp B') :=
  CQMap.interchange A A' B B' h

/-- Clause (a): a well-typed circuit on qudits whose boxes are pure (`LBox.Pure`: quantum boxes,
    flagged daggers, pure scalars, swaps — see the three lemmas below) evaluates, as a
    classical-quantum map, to the doubled map of its pure evaluation. -/
theorem pure_circuit_doubled (c : Circuit R) (hdom : allQ c.dom) (hWT : WT c.dom c.boxes)
    (hb : ∀ ob ∈ c.boxes, ob.2.Pure) :
    ∃ m, c.evalMixed = .ok m ∧ m ≈ CQMap.pure (dims c.dom) (dims c.cod) c.evalPure := by
  refine eval_doubled_go c.boxes _ _ c.dom c.dom hdom ?_ rfl rfl hWT hb
  rw [F_allQ hdom]
  exact (CQMap.pure_id _).symm

theorem quantum_box_pure (dag : Bool) (d c : WTy) (u : Mat R) (hd : allQ d) (hc : allQ c)
    (hr : u.r = prodL (dims d)) (hcc : u.c = prodL (dims c)) : LBox.Pure ⟨dag, .quantum d c u⟩ :=
  LBox.Pure.quantum dag d c u hd hc hr hcc

theorem scalar_box_pure (dag : Bool) (z : R) : LBox.Pure ⟨dag, .scalar false z⟩ :=
  LBox.Pure.scalar dag z

theorem swap_box_pure (l r : WTy) (hl : allQ l) (hr : allQ r) : LBox.Pure (R := R) ⟨false, .swap l r⟩ := by
  refine ⟨allQ_append.mpr ⟨hl, hr⟩, allQ_append.mpr ⟨hr, hl⟩, ?_, ?_, ?_⟩
  · show prodL (dims l) * prodL (dims r) = prodL (dims (l ++ r))
    rw [dims_append, prodL_append]
  · show prodL (dims r) * prodL (dims l) = prodL (dims (r ++ l))
    rw [dims_append, prodL_append]
  · show CQMap.swap (F l) (F r) ≈ CQMap.pure (dims (l ++ r)) (dims (r ++ l)) (Mat.swap _ _)
    rw [F_allQ hl, F_allQ hr, dims_append, dims_append]
    exact CQMap.swap_pure _ _

/-- The same at the level of `Circuit.eval` (circuit.py:251-253): a circuit that is not mixed is
    evaluated by the tensor functor, and `eval(mixed=True)` gives its doubled map. -/
theorem eval_pure_vs_mixed (c : Circuit R) (hdom : allQ c.dom) (hWT : WT c.dom c.boxes)
    (hb : ∀ ob ∈ c.boxes, ob.2.Pure) (hm : c.isMixed = false) :
    (∃ v, c.eval false = .ok v ∧ v = Value.tensor (dims c.dom) (dims c.cod) c.evalPure) ∧
    ∃ m, c.eval true = .ok (.cq m) ∧ m ≈ CQMap.pure (dims c.dom) (dims c.cod) c.evalPure := by
  obtain ⟨m, hm1, hm2⟩ := pure_circuit_doubled c hdom hWT hb
  refine ⟨⟨_, ?_, rfl⟩, m, ?_, hm2⟩
  · simp [Circuit.eval, hm]
  · simp [Circuit.eval, hm1]

/-! ## the `mixed=True` flag on circuits without mixed boxes -/

/-- The classical-quantum map `a ⊗ ū ⊗ u` ("double" with a classical part): its entries. -/
theorem double_entry (d e : CQTy) (a u : Mat R) (c q p c' q' p' : Nat) :
    (CQMap.hybrid d e a u).f c q p c' q' p' = a.f c c' * (star (u.f q q') * u.f p p') := rfl

/-- It is the tensor of classical-quantum maps (cqmap.py:163-186) of the classical map `a`
    (`CQMap.classical`: the classical part read as it is) and the doubled `u` (`CQMap.pure`). -/
theorem double_is_classical_tensor_pure (dc ec dq eq : List Nat) (a u : Mat R) :
    CQMap.hybrid ⟨dc, dq⟩ ⟨ec, eq⟩ a u ≈ (CQMap.classical dc ec a).tensor (CQMap.pure dq eq u) := by
  refine ⟨by simp [CQMap.classical, CQTy.tensor, CQTy.ofC, CQTy.ofQ],
    by simp [CQMap.classical, CQTy.tensor, CQTy.ofC, CQTy.ofQ],
    fun c q p c' q' p' _ (hq : q < prodL dq) (hp : p < prodL dq) _ (hq' : q' < prodL eq)
      (hp' : p' < prodL eq) => ?_⟩
  rw [CQMap.tensor_f]
  show a.f c c' * (star (u.f q q') * u.f p p') =
    a.f (CQMap.flat 1 (c / 1) (q / prodL dq) (p / prodL dq))
        (CQMap.flat 1 (c' / 1) (q' / prodL eq) (p' / prodL eq)) *
      (star (u.f (q % prodL dq) (q' % prodL eq)) * u.f (p % prodL dq) (p' % prodL eq))
  rw [Nat.div_eq_of_lt hq, Nat.div_eq_of_lt hp, Nat.div_eq_of_lt hq', Nat.div_eq_of_lt hp',
    Nat.mod_eq_of_lt hq, Nat.mod_eq_of_lt hp, Nat.mod_eq_of_lt hq', Nat.mod_eq_of_lt hp',
    Nat.div_one, Nat.div_one, CQMap.flat_one, CQMap.flat_one]

/-- Such maps compose part by part … -/
theorem double_then (d m e : CQTy) (a u a' u' : Mat R) (ha : a.c = m.C) (hu : u.c = m.Q) :
    (CQMap.hybrid d m a u).comp (CQMap.hybrid m e a' u') =
      CQMap.hybrid d e (a.comp a') (u.comp u') :=
  CQMap.hybrid_comp d m e a u a' u' ha hu

/-- … and their tensor (through the block permutation of `CQMap.tensor`, which sorts the
    classical wires of both factors before the quantum ones) is taken part by part. -/
theorem double_tensor (d e d' e' : CQTy) (a u a' u' : Mat R)
    (har : a'.r = d'.C) (hac : a'.c = e'.C) (hur : u'.r = d'.Q) (huc : u'.c = e'.Q) :
    (CQMap.hybrid d e a u).tensor (CQMap.hybrid d' e' a' u') =
      CQMap.hybrid (d.tensor d') (e.tensor e') (a.kron a') (u.kron u') :=
  CQMap.hybrid_tensor d e d' e' a u a' u' har hac hur huc

/-- One layer `id ⊗ box ⊗ id` around a box that is not mixed, between ANY types. -/
theorem layer_classical_times_doubled (l r : WTy) (b : LBox R) (hb : b.NonMixed) :
    layerMap l b r ≈
      CQMap.hybrid (F (l ++ b.dom ++ r)) (F (l ++ b.cod ++ r)) (layerC l b r) (layerQ l b r) :=
  layer_split l r b hb.split

/-- **eval_mixed_flag**: `eval(mixed=True)` (circuit.py:251-253) of a well-typed circuit whose
    boxes are not mixed (`LBox.NonMixed`: classical gates on bits, quantum boxes on qubits, pure
    scalars, swaps) is the classical part `a = evalClassical` read as it is next to the doubled
    quantum part `u = evalQuantum` — there is no hypothesis on `is_mixed`: the flag alone selects
    the classical-quantum functor, also when bits and qubits never share a layer. -/
theorem eval_mixed_flag (c : Circuit R) (hWT : WT c.dom c.boxes)
    (hb : ∀ ob ∈ c.boxes, ob.2.NonMixed) :
    ∃ m, c.eval true = .ok (.cq m) ∧
      m ≈ CQMap.hybrid (F c.dom) (F c.cod) c.evalClassical c.evalQuantum := by
  obtain ⟨m, hm1, hm2⟩ := eval_split_go c.boxes _ _ _ c.dom c.dom
    (by rw [CQMap.hybrid_id]; exact CQMap.Eqv.rfl' _) rfl rfl rfl rfl hWT
    (fun ob hob => (hb ob hob).split)
  exact ⟨m, by simp [Circuit.eval, Circuit.evalMixed, hm1], hm2⟩

/-- Without the flag, a circuit that is not mixed is contracted as a plain tensor. -/
theorem eval_flag_false_not_mixed (c : Circuit R) (hm : c.isMixed = false) :
    c.eval false = .ok (.tensor (dims c.dom) (dims c.cod) c.evalPure) := by
  simp [Circuit.eval, hm]

/-! ## Born rule, discarding -/

/-- Measuring after a pure map gives `ūₖ uₖ`; for a state `ψ` (`d = []`, `q = p = 0`) the outcome
    `k` has weight `|ψₖ|² = star ψₖ * ψₖ`.  `e` is any list of wire dimensions. -/
theorem measure_pure (d e : List Nat) (u : Mat R) {k : Nat} (hk : k < prodL e) (c q p q' p' : Nat) :
    ((CQMap.pure d e u).comp (CQMap.measure e true)).f c q p k q' p' = star (u.f q k) * u.f p k := by
  rw [CQMap.comp_f]
  show sum3 1 (prodL e)
    (fun x y z => (star (u.f q y) * u.f p z) * (CQMap.measure e true).f x y z k q' p') = _
  rw [sum3_congr (g := fun x y z => (star (u.f q y) * u.f p z) * iv (y = z ∧ z = k))
    (fun x y z _ hy hz => by rw [CQMap.measure_flat_destructive e x q' p' hy hz hk])]
  rw [sum3_mul_iv Nat.one_pos hk hk _ _ fun x y z hx _ _ h =>
      ⟨Nat.lt_one_iff.mp hx, h.1.trans h.2, h.2⟩, iv_pos ⟨rfl, rfl⟩, mul_one]

/-- Non-destructive measurement: the outcome `k` and the collapsed copy `(l, m)`. -/
theorem measure_pure_nondestructive (d e : List Nat) (u : Mat R) {k l m : Nat} (hk : k < prodL e)
    (hl : l < prodL e) (hm : m < prodL e) (c q p : Nat) :
    ((CQMap.pure d e u).comp (CQMap.measure e false)).f c q p k l m =
      iv (k = l ∧ l = m) * (star (u.f q k) * u.f p k) := by
  rw [CQMap.comp_f]
  show sum3 1 (prodL e)
    (fun x y z => (star (u.f q y) * u.f p z) * (CQMap.measure e false).f x y z k l m) = _
  rw [sum3_congr (g := fun x y z => (star (u.f q y) * u.f p z) * iv (y = z ∧ z = k ∧ k = l ∧ l = m))
    (fun x y z _ hy hz => by rw [CQMap.measure_flat_nondestructive e x hy hz hk hl hm])]
  rw [sum3_mul_iv Nat.one_pos hk hk _ _ fun x y z hx _ _ h =>
      ⟨Nat.lt_one_iff.mp hx, h.1.trans h.2.1, h.2.1⟩, mul_comm]
  exact congrArg (· * _) (iv_congr ⟨fun h => h.2.2, fun h => ⟨rfl, rfl, h⟩⟩)

/-- The recursion `measure(dim[:1]) @ measure(dim[1:])` of cqmap.py:216 through the block
    permutation is the measurement of the flattened index. -/
theorem measure_multiwire (ds : List Nat) {q p k : Nat} (c q' p' : Nat)
    (hq : q < prodL ds) (hp : p < prodL ds) (hk : k < prodL ds) :
    (CQMap.measure ds true : CQMap R).f c q p k q' p' = iv (q = p ∧ p = k) :=
  CQMap.measure_flat_destructive ds c q' p' hq hp hk

/-- Discarding after a pure map: `Σₖ ūₖ uₖ` (for a state, `Σ |ψₖ|²`). -/
theorem discard_pure (d e : List Nat) (u : Mat R) (c q p c' q' p' : Nat) :
    ((CQMap.pure d e u).comp (CQMap.discard (.ofQ e))).f c q p c' q' p' =
      sumN (prodL e) fun k => star (u.f q k) * u.f p k :=
  CQMap.discard_pure d e u c q p c' q' p'

/-- `U Uᴴ = 1` (in the `array[input, output]` convention of tensor.py: the operator is an
    isometry) implies `pure U ≫ discard = discard`. -/
theorem discard_unitary (d e : List Nat) (u : Mat R) (hr : u.r = prodL d) (hc : u.c = prodL e)
    (hu : u.comp u.dagger ≈ₘ Mat.id u.r) :
    (CQMap.pure d e u).comp (CQMap.discard (.ofQ e)) ≈ CQMap.discard (.ofQ d) :=
  CQMap.discard_isometry d e u hr hc hu

/-- Discarding the factor `B` of a map into `A ⊗ B` gives the marginal: the classical index of
    `B` is summed, its quantum index traced. -/
theorem discard_marginal (ρ : CQMap R) (A B : CQTy) (h : ρ.cod = A.tensor B) {ca qa pa : Nat}
    (hc : ca < A.C) (hq : qa < A.Q) (hp : pa < A.Q) (c q p : Nat) :
    (ρ.comp ((CQMap.id A).tensor (CQMap.discard B))).f c q p ca qa pa =
      sum3 B.C B.Q fun x y z =>
        ρ.f c q p (ca * B.C + x) (qa * B.Q + y) (pa * B.Q + z) * iv (y = z) :=
  CQMap.discard_marginal ρ A B h hc hq hp c q p

/-! ## classical weights -/

/-- A box that is not mixed and has no wire at all is classified as classical (the all-Digit
    test of `Box.__init__` comes first): `ClassicalGate(name, 0, 0, [w])` is a weight. -/
theorem wireless_box_is_classical (u : Mat R) :
    CBox.ofNonMixed [] [] u = .ok (.classical [] [] u) := rfl

/-- … and it is interpreted by its value, not by the squared magnitude. -/
theorem classical_weight_entry (u : Mat R) :
    (CBox.classical [] [] u : CBox R).ar.f 0 0 0 0 0 0 = u.f 0 0 := rfl

/-- Weighting is linear: `w ⊗ A` has the entries of `A` multiplied by `w`. -/
theorem weight_tensor (w : R) (A : CQMap R) {c q p c' q' p' : Nat} (hc : c < A.dom.C)
    (hq : q < A.dom.Q) (hp : p < A.dom.Q) (hc' : c' < A.cod.C) (hq' : q' < A.cod.Q)
    (hp' : p' < A.cod.Q) :
    ((CQMap.scalar w).tensor A).f c q p c' q' p' = w * A.f c q p c' q' p' := by
  rw [CQMap.tensor_f]
  show w * _ = _
  rw [Nat.mod_eq_of_lt hc, Nat.mod_eq_of_lt hq, Nat.mod_eq_of_lt hp, Nat.mod_eq_of_lt hc',
    Nat.mod_eq_of_lt hq', Nat.mod_eq_of_lt hp']

/-! ## adjoints -/

/-- `Encode(n, constructive, reset_bits)` is interpreted as the adjoint of
    `Measure(n, destructive := constructive, override_bits := reset_bits)`: every variant. -/
theorem encode_is_measure_dagger (n : Nat) (a b : Bool) :
    (CBox.encode n a b : CBox R).ar = (CBox.measure n a b : CBox R).ar.dagger := rfl

theorem cq_encode_is_measure_dagger (ds : List Nat) (a : Bool) :
    (CQMap.encode ds a : CQMap R) = (CQMap.measure ds a).dagger := rfl

/-- `MixedState(t)` is interpreted as the adjoint of `Discard(t)`. -/
theorem mixedstate_is_discard_dagger (t : WTy) :
    (CBox.mixedState t : CBox R).ar = (CBox.discard t : CBox R).ar.dagger := rfl

/-- The adjoint is the conjugate transpose, and an involution: so `Measure`/`Discard` are in turn
    the adjoints of `Encode`/`MixedState`. -/
theorem dagger_entry (A : CQMap R) (c q p c' q' p' : Nat) :
    A.dagger.f c q p c' q' p' = star (A.f c' q' p' c q p) := rfl

theorem dagger_involutive (A : CQMap R) : A.dagger.dagger = A := CQMap.dagger_dagger A

theorem dagger_then (A B : CQMap R) (h : A.cod = B.dom) :
    (A.comp B).dagger = B.dagger.comp A.dagger := by
  refine CQMap.ext rfl rfl fun c q p c' q' p' => ?_
  show star (sum3 _ _ _) = sum3 B.dom.C B.dom.Q _
  rw [star_sum3, h]
  refine sum3_congr fun _ _ _ _ _ _ => ?_
  show star (_ * _) = star _ * star _
  rw [star_mul', mul_comm]

theorem dagger_tensor (A B : CQMap R) : (A.tensor B).dagger = A.dagger.tensor B.dagger :=
  CQMap.dagger_tensor A B

theorem dagger_pure (d e : List Nat) (u : Mat R) :
    (CQMap.pure d e u).dagger = CQMap.pure e d u.dagger := CQMap.dagger_pure d e u

/-! ## trace preservation -/

theorem tp_then {A B : CQMap R} (h : A.cod = B.dom) (hA : A.TP) (hB : B.TP) : (A.comp B).TP :=
  CQMap.TP_comp h hA hB

theorem tp_tensor {A B : CQMap R} (hA : A.TP) (hB : B.TP) : (A.tensor B).TP :=
  CQMap.TP_tensor hA hB

/-- Every listed box occurrence is trace preserving: preparations and unitaries (pure isometries,
    flagged daggers of unitaries), `Measure` in its four variants, `Discard`, stochastic classical
    gates, swaps. -/
theorem listed_box_tp {b : LBox R} (h : b.Listed) : b.eval.TP := h.tp

/-- **trace_preserving**: a well-typed circuit of listed boxes evaluates without error to a
    trace-preserving map of the expected type. -/
theorem trace_preserving (c : Circuit R) (hWT : WT c.dom c.boxes)
    (hb : ∀ ob ∈ c.boxes, ob.2.Listed) :
    ∃ m, c.evalMixed = .ok m ∧ m.TP ∧ m.dom = F c.dom ∧ m.cod = F c.cod :=
  Circuit.evalMixed_TP c hWT fun ob hob => ⟨(hb ob hob).typed, (hb ob hob).tp⟩

/-- The same for any list of trace-preserving maps placed in a circuit (composed and tensored
    with identities), whatever their kind. -/
theorem trace_preserving_of_tp_boxes (c : Circuit R) (hWT : WT c.dom c.boxes)
    (hb : ∀ ob ∈ c.boxes, ob.2.box.Typed ∧ ob.2.eval.TP) :
    ∃ m, c.evalMixed = .ok m ∧ m.TP ∧ m.dom = F c.dom ∧ m.cod = F c.cod :=
  Circuit.evalMixed_TP c hWT hb

/-- A trace-preserving map without inputs and with classical outputs is a normalised
    distribution: its entries sum to one. -/
theorem distribution_normalised (m : CQMap R) (h : m.TP) (hd : m.dom = .unit) (hc : m.cod.Q = 1) :
    sumN m.cod.C (fun x => m.f 0 0 0 x 0 0) = 1 :=
  CQMap.TP_normalised h hd hc

/-- NOT PROVED in full (oracle + correspondence; the proved part is `init_and_discard_distribution`
    and `C12_counts_glue_partial` below): the glue of `get_counts()` and `measure()`.  For a
    listed circuit, `get_counts()` lists exactly the non-zero entries of the distribution read
    off `init_and_discard().eval()`, `measure()` returns that distribution, and the entries are
    non-negative reals (stated here for the exact ring of the driver). -/
def C12_counts_glue : Prop :=
  ∀ (c : Circuit D8), WT c.dom c.boxes → (∀ ob ∈ c.boxes, ob.2.box.Typed) →
    ∃ m, c.initAndDiscard.evalMixed = .ok m ∧
      c.measure true = .ok (m.toList.map D8.re) ∧
      ∀ counts, c.getCounts = .ok counts →
        ∀ k x, (k, x) ∈ counts ↔ (m.toList[k]? = some x ∧ x ≠ 0)

/-- **`init_and_discard()` of a well-typed circuit of listed boxes is a normalised distribution**
    (circuit.py:175-188, any commutative star ring): the layer of `Bits(0)`/`Ket(0)` states and the
    layer of `Discard`s keep the circuit well typed (each box finds its domain at its offset), the
    added boxes are listed, so the mixed evaluation succeeds and is trace preserving, with no input
    and only the circuit's output bits as output — and its entries sum to one.  This is the
    distribution `get_counts()` and `measure()` read (`C12_counts_glue_partial` below). -/
theorem init_and_discard_distribution (c : Circuit R) (hWT : WT c.dom c.boxes)
    (hb : ∀ ob ∈ c.boxes, ob.2.Listed) (hd : Dim2 c.dom) (hc : Dim2 c.cod) :
    ∃ m, c.initAndDiscard.evalMixed = .ok m ∧ m.TP ∧ m.dom = .unit ∧
      m.cod = F (bitsOf c.cod) ∧ sumN m.cod.C (fun x => m.f 0 0 0 x 0 0) = 1 :=
  Circuit.initAndDiscard_distribution c hWT hb hd hc

/-- Non-vacuity: `H`-free but non-trivial — a qubit measured next to a bit that is kept
    (`Measure() @ Id(bit)`): well typed, listed, on bits and qubits. -/
example : let c : Circuit R := ⟨[.qubit 2, .bit 2], [(0, ⟨false, .measure 1 true false⟩)]⟩
    WT c.dom c.boxes ∧ (∀ ob ∈ c.boxes, ob.2.Listed) ∧ Dim2 c.dom ∧ Dim2 c.cod := by
  refine ⟨⟨rfl, trivial⟩, fun ob h => ?_, ?_, ?_⟩
  · obtain rfl := List.mem_singleton.mp h
    exact .plain _ (.measure 1 true false)
  · show ∀ w ∈ [Wire.qubit 2, .bit 2], _
    decide
  · show ∀ w ∈ [Wire.bit 2, .bit 2], _
    decide

omit [CommRing R] [StarRing R] in
/-- **counts glue, the part that is proved** (`C12_counts_glue_partial`): whenever the
    prepared-and-discarded circuit evaluates to a CQ map `m`, `measure(mixed=True)` is the list of
    the real parts of `m`'s entries, `get_counts()` answers, and an outcome `k` is listed with
    value `x` iff entry `k` of `m` is not zero and `x` is its real part.  Missing for the full
    statement above: that the evaluation succeeds for every well-typed circuit of typed boxes
    (typing of the `inits`/`discards` layers), and that the entries are real (so that the real part
    is the entry). -/
theorem C12_counts_glue_partial (c : Circuit D8) (m : CQMap D8)
    (h : c.initAndDiscard.evalMixed = .ok m) :
    c.measure true = .ok (m.toList.map D8.re) ∧
    ∃ counts, c.getCounts = .ok counts ∧
      ∀ k x, (k, x) ∈ counts ↔ ∃ y, m.toList[k]? = some y ∧ y ≠ 0 ∧ x = y.re := by
  refine ⟨by simp only [Circuit.measure, Bool.true_or, if_true, h], _, getCounts_of_eval c m h,
    fun k x => ?_⟩
  simp only [List.mem_map, List.mem_filter, Prod.mk.injEq, Prod.exists, bne_iff_ne, ne_eq,
    mem_enumFrom, Nat.zero_le, Nat.sub_zero, true_and]
  constructor
  · rintro ⟨a, y, ⟨h1, h2⟩, rfl, rfl⟩
    exact ⟨y, h1, h2, rfl⟩
  · rintro ⟨y, h1, h2, rfl⟩
    exact ⟨k, y, ⟨h1, h2⟩, rfl, rfl⟩

omit [CommRing R] [StarRing R] in
/-- The listed outcomes are distinct and come in increasing order of their flat index (a Python
    dict built from them has one key per listed outcome). -/
theorem counts_keys_increasing (c : Circuit D8) (m : CQMap D8) (counts : List (Nat × D8))
    (h : c.initAndDiscard.evalMixed = .ok m) (hc : c.getCounts = .ok counts) :
    (counts.map Prod.fst).Pairwise (· < ·) := by
  rw [getCounts_of_eval c m h] at hc
  cases hc
  -- the keys are a sublist of the indices `0, 1, …`
  rw [List.map_map, enumFrom_eq_zipIdx]
  refine List.Pairwise.sublist (List.filter_sublist.map _) ?_
  rw [List.map_map]
  show ((m.toList.zipIdx 0).map Prod.snd).Pairwise _
  rw [List.zipIdx_map_snd]
  exact List.pairwise_lt_range'

/-! ## square-root scalars and global phases -/

/-- **sqrt_box_doubled**.  `sqrt(z)` (gates.Sqrt, gates.py:575-583) is a pure scalar box whose value
    is a square root `r` of its datum `z` (`array = [data ** .5]`); `cqmap.Functor._ar`
    (cqmap.py:293-295) doubles a pure scalar box to `conj r · r`.  This theorem only reads that
    entry off the model (the hypothesis `r * r = z` records what `r` is and is not used); how the
    doubled value relates to `z` is `sqrt_box_doubled_sq`, and `sqrt_minus_one` is the instance
    `sqrt(-1) ↦ 1`, not `-1`. -/
theorem sqrt_box_doubled (r z : R) (_ : r * r = z) (c q p c' q' p' : Nat) :
    (CBox.ar (.scalar false r) : CQMap R).f c q p c' q' p' = star r * r := rfl

/-- the square of the doubled value is `conj z · z = |z|²`: the doubled value of `sqrt(z)` is a
    square root of `|z|²`, not of `z²` unless `z` is self-conjugate. -/
theorem sqrt_box_doubled_sq (r z : R) (h : r * r = z) : (star r * r) * (star r * r) = star z * z := by
  rw [← h, star_mul]; ring

/-- A global phase (a pure scalar box of modulus one: `scalar(-1)`, `scalar(1j)`, `sqrt(-1)`,
    `sqrt(1j)`) is a listed box of the trace-preservation clause: a unitary on no qubit. -/
theorem phase_box_listed (z : R) (h : star z * z = 1) : LBox.Listed ⟨false, .scalar false z⟩ :=
  .plain _ (.phase z h)

theorem phase_box_tp (z : R) (h : star z * z = 1) :
    (LBox.eval ⟨false, .scalar false z⟩ : CQMap R).TP := (phase_box_listed z h).tp

/-! ## mixed scalars and the adjoints of scalar boxes -/

/-- A scalar box on which the Born rule has already been applied (`MixedScalar(z)`,
    `scalar(z, is_mixed=True)`, `Scalar(z, is_mixed=True)`; cqmap.py:293-295) is the weight `z`
    ITSELF in the mixed evaluation — whatever its sign or phase — not `|z|²`. -/
theorem mixed_scalar_entry (z : R) (c q p c' q' p' : Nat) :
    (CBox.ar (.scalar true z) : CQMap R).f c q p c' q' p' = z := rfl

/-- `gates.Scalar.dagger` (gates.py:557-566) returns the scalar box of the conjugate value WITH THE
    SAME `is_mixed` flag; that box is interpreted as the adjoint of the interpretation of the
    box, for pure scalars (`|conj z|² = conj |z|²`) and for mixed ones (the weight `conj z`). -/
theorem scalar_dagger_adjoint (m : Bool) (z : R) :
    (CBox.ar (.scalar m (star z)) : CQMap R) = (CBox.ar (.scalar m z) : CQMap R).dagger := by
  cases m
  · show CQMap.scalar (star (star z) * star z) = (CQMap.scalar (star z * z)).dagger
    unfold CQMap.scalar CQMap.dagger
    simp only [conj_eq_star, star_mul', star_star]
  · rfl

/-- and in particular the double dagger of a scalar box is interpreted as the box itself. -/
theorem scalar_dagger_dagger (m : Bool) (z : R) :
    (CBox.ar (.scalar m (star (star z))) : CQMap R) = CBox.ar (.scalar m z) := by
  rw [star_star]

/-! ## non-vacuity: concrete, non-trivial instances over the Gaussian integers -/

section Examples
open GaussianInt

abbrev G := GaussianInt

/-- Forgetting `is_mixed` in the dagger of a mixed scalar is NOT the adjoint: for the weight `i`
    the pure scalar `conj i` doubles to `1`, the adjoint of the weight is `-i`. -/
example : (CBox.ar (.scalar false (star (⟨0, 1⟩ : G))) : CQMap G).f 0 0 0 0 0 0 = 1
    ∧ ((CBox.ar (.scalar true (⟨0, 1⟩ : G)) : CQMap G).dagger).f 0 0 0 0 0 0 = ⟨0, -1⟩
    ∧ (CBox.ar (.scalar true (star (⟨0, 1⟩ : G))) : CQMap G).f 0 0 0 0 0 0 = ⟨0, -1⟩ := by
  decide

/-- Pauli Y over ℤ[i] (`array[input, output]`). -/
def Y : Mat G := ⟨2, 2, fun i j => if i = 0 ∧ j = 1 then ⟨0, -1⟩ else if i = 1 ∧ j = 0 then ⟨0, 1⟩ else 0⟩
/-- CX. -/
def CX : Mat G := ⟨4, 4, fun i j => iv ((i < 2 ∧ j = i) ∨ (i = 2 ∧ j = 3) ∨ (i = 3 ∧ j = 2))⟩
/-- |1⟩. -/
def ket1 : Mat G := ⟨1, 2, fun _ j => iv (j = 1)⟩
/-- the unnormalised state (1 + i)|0⟩ + 2|1⟩. -/
def psi : Mat G := ⟨1, 2, fun _ j => if j = 0 then ⟨1, 1⟩ else ⟨2, 0⟩⟩

theorem sumN_two (f : Nat → G) : sumN 2 f = f 0 + f 1 := by rw [sumN_succ, sumN_one]
theorem sumN_four (f : Nat → G) : sumN 4 f = f 0 + f 1 + f 2 + f 3 := by
  rw [sumN_succ, sumN_succ, sumN_succ, sumN_one]

/-- Y is unitary: the hypothesis of `discard_unitary` is met by a gate with complex entries. -/
theorem Y_isometry : Y.comp Y.dagger ≈ₘ Mat.id Y.r := by
  refine ⟨rfl, rfl, fun i j (hi : i < 2) (hj : j < 2) => ?_⟩
  rcases (by omega : i = 0 ∨ i = 1) with rfl | rfl <;> rcases (by omega : j = 0 ∨ j = 1) with rfl | rfl <;>
    decide

/-- |1⟩ is a state preparation (an isometry 1 → 2). -/
theorem ket1_isometry : ket1.comp ket1.dagger ≈ₘ Mat.id ket1.r := by
  refine ⟨rfl, rfl, fun i j hi hj => ?_⟩
  obtain rfl : i = 0 := Nat.lt_one_iff.mp hi
  obtain rfl : j = 0 := Nat.lt_one_iff.mp hj
  decide

/-- Born rule on a state with a complex amplitude: outcome 0 of measuring `psi` has weight
    `|1 + i|² = 2`, outcome 1 has weight 4. -/
example : ((CQMap.pure [] [2] psi).comp (CQMap.measure [2] true)).f 0 0 0 0 0 0 = 2 := by
  rw [measure_pure [] [2] psi (by decide)]
  decide
example : ((CQMap.pure [] [2] psi).comp (CQMap.measure [2] true)).f 0 0 0 1 0 0 = 4 := by
  rw [measure_pure [] [2] psi (by decide)]
  decide

/-- and discarding it gives the squared norm 6. -/
example : ((CQMap.pure [] [2] psi).comp (CQMap.discard (.ofQ [2]))).f 0 0 0 0 0 0 = 6 := by
  rw [discard_pure, show prodL [2] = 2 from rfl, sumN_two]
  decide

/-- `Bits(1)`: the same array as `ket1`, used as a classical gate on a bit. -/
def bitsOne : Mat G := ⟨1, 2, fun _ j => iv (j = 1)⟩

theorem bitsOne_stochastic : ∀ i, i < (F ([] : WTy)).C → sumN (F [Wire.bit 2]).C (fun j => bitsOne.f i j) = 1 := by
  intro i _
  show sumN 2 _ = 1
  rw [sumN_two]
  exact (by decide : bitsOne.f 0 0 + bitsOne.f 0 1 = 1)

/-- `Ket(1) >> Y >> Measure(destructive=False) >> Id ⊗ Id ⊗ Bits(1) >> Swap(qubit, bit) ⊗ Id >>
    Id(bit) ⊗ Discard(qubit) ⊗ Id(bit)` : a circuit mixing bits and qubits that meets the
    hypotheses of `trace_preserving` (`exCircuit_WT`, `exCircuit_listed`). -/
def exCircuit : Circuit G :=
  ⟨[], [(0, ⟨false, .quantum [] [.qubit 2] ket1⟩),
        (0, ⟨false, .quantum [.qubit 2] [.qubit 2] Y⟩),
        (0, ⟨false, .measure 1 false false⟩),
        (2, ⟨false, .classical [] [.bit 2] bitsOne⟩),
        (0, ⟨false, .swap [.qubit 2] [.bit 2]⟩),
        (1, ⟨false, .discard [.qubit 2]⟩)]⟩

theorem exCircuit_WT : WT exCircuit.dom exCircuit.boxes := by
  refine ⟨rfl, rfl, rfl, rfl, rfl, rfl, trivial⟩

theorem exCircuit_listed : ∀ ob ∈ exCircuit.boxes, ob.2.Listed := by
  intro ob hob
  simp only [exCircuit, List.mem_cons, List.not_mem_nil, or_false] at hob
  rcases hob with rfl | rfl | rfl | rfl | rfl | rfl
  · exact .plain _ (.isometry _ _ _ rfl rfl rfl rfl ket1_isometry)
  · exact .plain _ (.isometry _ _ _ rfl rfl rfl rfl Y_isometry)
  · exact .plain _ (.measure _ _ _)
  · exact .plain _ (.stochastic _ _ _ rfl rfl bitsOne_stochastic)
  · exact .plain _ (.swap _ _)
  · exact .plain _ (.discard _)

/-- `trace_preserving` applies to it: it evaluates to a trace-preserving map `CQ() → C(2, 2)`. -/
example : ∃ m, exCircuit.evalMixed = .ok m ∧ m.TP ∧ m.dom = .unit ∧ m.cod = .ofC [2, 2] :=
  trace_preserving exCircuit exCircuit_WT exCircuit_listed

/-- A pure circuit `Ket(1) >> Y >> scalar(1 + i)` (then the flagged dagger of `Y`): the
    hypotheses of `pure_circuit_doubled` are met. -/
def exPure : Circuit G :=
  ⟨[], [(0, ⟨false, .quantum [] [.qubit 2] ket1⟩),
        (0, ⟨false, .quantum [.qubit 2] [.qubit 2] Y⟩),
        (1, ⟨false, .scalar false ⟨1, 1⟩⟩),
        (0, ⟨true, .quantum [.qubit 2] [.qubit 2] Y⟩)]⟩

theorem allQ_nil : allQ ([] : WTy) := fun _ h => by cases h
theorem allQ_qubit : allQ [Wire.qubit 2] := fun w h => ⟨2, by simpa using h⟩

example : ∃ m, exPure.evalMixed = .ok m ∧ m ≈ CQMap.pure [] [2] exPure.evalPure := by
  refine pure_circuit_doubled exPure allQ_nil ⟨rfl, rfl, rfl, rfl, trivial⟩ ?_
  intro ob hob
  simp only [exPure, List.mem_cons, List.not_mem_nil, or_false] at hob
  rcases hob with rfl | rfl | rfl | rfl
  · exact quantum_box_pure _ _ _ _ allQ_nil allQ_qubit rfl rfl
  · exact quantum_box_pure _ _ _ _ allQ_qubit allQ_qubit rfl rfl
  · exact scalar_box_pure _ _
  · exact quantum_box_pure _ _ _ _ allQ_qubit allQ_qubit rfl rfl

/-- **sqrt(-1)**: the box `sqrt(-1)` has the value `i` (`i · i = -1`); its doubled value is
    `conj i · i = 1` — not the datum `-1` ("abs(sqrt(x)) ** 2 == x" holds for `x ≥ 0` only). -/
def sqrtMinusOne : G := ⟨0, 1⟩

theorem sqrt_minus_one : sqrtMinusOne * sqrtMinusOne = -1 ∧
    (CBox.ar (.scalar false sqrtMinusOne) : CQMap G).f 0 0 0 0 0 0 = 1 ∧
    (CBox.ar (.scalar false sqrtMinusOne) : CQMap G).f 0 0 0 0 0 0 ≠ -1 := by
  refine ⟨by decide, by decide, by decide⟩

/-- `sqrt(-1) @ Ket(1) >> Y`: a pure circuit with a square-root scalar of a negative datum; the
    hypotheses of `pure_circuit_doubled` are met (a `sqrt` box is a pure scalar box). -/
def exSqrt : Circuit G :=
  ⟨[], [(0, ⟨false, .scalar false sqrtMinusOne⟩),
        (0, ⟨false, .quantum [] [.qubit 2] ket1⟩),
        (0, ⟨false, .quantum [.qubit 2] [.qubit 2] Y⟩)]⟩

example : ∃ m, exSqrt.evalMixed = .ok m ∧ m ≈ CQMap.pure [] [2] exSqrt.evalPure := by
  refine pure_circuit_doubled exSqrt allQ_nil ⟨rfl, rfl, rfl, trivial⟩ ?_
  intro ob hob
  simp only [exSqrt, List.mem_cons, List.not_mem_nil, or_false] at hob
  rcases hob with rfl | rfl | rfl
  · exact scalar_box_pure _ _
  · exact quantum_box_pure _ _ _ _ allQ_nil allQ_qubit rfl rfl
  · exact quantum_box_pure _ _ _ _ allQ_qubit allQ_qubit rfl rfl

/-- Born rule with the phase in place: the amplitude of outcome 0 of `sqrt(-1) @ Ket(1) >> Y` is
    `i · i = -1`, its weight in the doubled map is `|-1|² = 1` (non-negative). -/
example : exSqrt.evalPure.f 0 0 = -1 ∧ (CQMap.pure [] [2] exSqrt.evalPure).f 0 0 0 0 0 0 = 1 := by
  refine ⟨by decide, by decide⟩

def exSqrtMeasured : Circuit G := ⟨[], exSqrt.boxes ++ [(0, ⟨false, .measure 1 true false⟩)]⟩

/-- … and the circuit followed by a measurement is trace preserving (`sqrt(-1)` is a phase). -/
example : ∃ m, exSqrtMeasured.evalMixed = .ok m ∧ m.TP ∧ m.dom = .unit ∧ m.cod = .ofC [2] := by
  refine trace_preserving exSqrtMeasured ⟨rfl, rfl, rfl, rfl, trivial⟩ ?_
  intro ob hob
  simp only [exSqrtMeasured, exSqrt, List.cons_append, List.nil_append, List.mem_cons,
    List.not_mem_nil, or_false] at hob
  rcases hob with rfl | rfl | rfl | rfl
  · exact phase_box_listed _ (by decide)
  · exact .plain _ (.isometry _ _ _ rfl rfl rfl rfl ket1_isometry)
  · exact .plain _ (.isometry _ _ _ rfl rfl rfl rfl Y_isometry)
  · exact .plain _ (.measure _ _ _)

/-- an (unnormalised: times 4) stochastic gate, and the marginal. -/
def flip : Mat G := ⟨2, 2, fun i j => if i = j then 3 else 1⟩
def marginal : Mat G := ⟨2, 1, fun _ _ => 1⟩

theorem allB_nil : allB ([] : WTy) := fun _ h => by cases h
theorem allB_bit : allB [Wire.bit 2] := fun w h => ⟨2, by simpa using h⟩

/-- `(Bits(1) >> flip >> marginal) @ (psi >> Y)`: a closed classical circuit next to a pure
    quantum one; bits and qubits never share a layer, `is_mixed` is False. -/
def exJuxt : Circuit G :=
  ⟨[], [(0, ⟨false, .classical [] [.bit 2] bitsOne⟩),
        (0, ⟨false, .classical [.bit 2] [.bit 2] flip⟩),
        (0, ⟨false, .classical [.bit 2] [] marginal⟩),
        (0, ⟨false, .quantum [] [.qubit 2] psi⟩),
        (0, ⟨false, .quantum [.qubit 2] [.qubit 2] Y⟩)]⟩

theorem exJuxt_not_mixed : exJuxt.isMixed = false := by decide

theorem exJuxt_nonMixed : ∀ ob ∈ exJuxt.boxes, ob.2.NonMixed := by
  intro ob hob
  simp only [exJuxt, List.mem_cons, List.not_mem_nil, or_false] at hob
  rcases hob with rfl | rfl | rfl | rfl | rfl
  · exact .classical _ _ _ _ allB_nil allB_bit rfl rfl
  · exact .classical _ _ _ _ allB_bit allB_bit rfl rfl
  · exact .classical _ _ _ _ allB_bit allB_nil rfl rfl
  · exact .quantum _ _ _ _ allQ_nil allQ_qubit rfl rfl
  · exact .quantum _ _ _ _ allQ_qubit allQ_qubit rfl rfl

/-- `eval_mixed_flag` applies to it although it is not mixed. -/
example : ∃ m, exJuxt.eval true = .ok (.cq m) ∧
    m ≈ CQMap.hybrid .unit (.ofQ [2]) exJuxt.evalClassical exJuxt.evalQuantum :=
  eval_mixed_flag exJuxt ⟨rfl, rfl, rfl, rfl, rfl, trivial⟩ exJuxt_nonMixed

/-- **flag_is_not_a_wrapper**.  On `exJuxt` the classical part is the weight 4, the quantum part
    has the amplitude `2i` at outcome 0, so the mixed evaluation has the entry `4 · |2i|² = 16`
    there; the plain evaluation of the whole circuit has `4 · 2i = 8i`: neither itself (wrapped
    as a classical map) nor its doubled map (`|8i|² = 64`) is the mixed evaluation — the result
    of `eval(mixed=True)` cannot be obtained from `eval()` of a circuit that is not mixed. -/
theorem flag_is_not_a_wrapper :
    exJuxt.evalClassical.f 0 0 = 4 ∧ exJuxt.evalQuantum.f 0 0 = ⟨0, 2⟩ ∧
    (CQMap.hybrid .unit (.ofQ [2]) exJuxt.evalClassical exJuxt.evalQuantum).f 0 0 0 0 0 0 = 16 ∧
    exJuxt.evalPure.f 0 0 = ⟨0, 8⟩ ∧
    (CQMap.pure [] [2] exJuxt.evalPure).f 0 0 0 0 0 0 = 64 := by
  refine ⟨by decide, by decide, by decide, by decide, by decide⟩

/-- `discard_marginal` on a classical-quantum type with both parts non-trivial. -/
example : ((CQMap.id (CQTy.tensor ⟨[2], [2]⟩ ⟨[3], [2]⟩) : CQMap G).comp
      ((CQMap.id ⟨[2], [2]⟩).tensor (CQMap.discard ⟨[3], [2]⟩))).f 4 3 3 1 1 1 =
    sum3 3 2 fun x y z =>
      (CQMap.id (CQTy.tensor ⟨[2], [2]⟩ ⟨[3], [2]⟩) : CQMap G).f 4 3 3 (1 * 3 + x) (1 * 2 + y) (1 * 2 + z) *
        iv (y = z) :=
  discard_marginal _ ⟨[2], [2]⟩ ⟨[3], [2]⟩ rfl (by decide) (by decide) (by decide) 4 3 3

end Examples

end DV.C12
