/-
  Props/C11.lean — C11 "Pure circuits evaluate to the unitary they describe".
  Property theorems only; proofs in Proofs/GatesTable.lean (finite tables, `decide` in exact
  ℤ[ζ₈][1/2] arithmetic), Proofs/Gates.lean (rotations symbolic in the phase, arbitrary commutative
  star ring) and Proofs/GatesComplex.lean (instantiation at ℂ: every real phase).

  Conventions: matrices are discopy's own — rows = INPUT index, columns = OUTPUT index, leftmost
  qubit most significant; `f >> g` is `mul f g`.  The standard (textbook / tket) matrix `U[out][in]` of
  an operation is therefore the TRANSPOSE of its array (`tketIO`).

  PROVED
    * the whole `GATES` table: unitary; equal to the identically named tket matrices — for the
      repaired table, and for the table as it is except `Y` (finding F17, witnessed);
    * rotations Rx, Ry, Rz, CU1, CRz, CRx at EVERY real phase: unitary, `U(−φ) = U(φ)ᴴ`, equal to the
      tket matrices (repaired `Ry`; `Ry` as it is is the transpose = `Ry(−φ)`, F17);
    * controlled gates: `Controlled(U) = |0⟩⟨0|⊗1 + |1⟩⟨1|⊗U` for every one-qubit `U`;
    * every dagger mechanism: flag (any stored array), negated phase (all φ), Ket ↔ Bra (EVERY bitstring:
      `ket_dagger_eval`, `bra_dagger_eval` of Proofs/KetBra.lean; `ket_bra_basis` below states it for the
      bitstrings of length ≤ 3 only because its statement ranges over the list `bitstringsUpTo3`), scalar (all values), SWAP/CX, rebuilt controlled gate — the last one AS IT IS is
      correct iff the target's stored array is Hermitian and FAILS for S, T (finding F2, witnessed);
      with the proposed repair it holds for every table gate;
    * square-root scalars `sqrt(z)` (value `z ** .5` given with the box): the dagger is `Scalar(conj(z ** .5))`
      and evaluates to the conjugate for every non-real `z` and every `z ≥ 0` (`sqrt_dagger`); AS IT IS it
      FAILS for negative real `z` (finding F4k, witnessed: `sqrt(-4)` is its own dagger), holds with the repair;
    * calling conventions of `Circuit.eval` / `Sum.eval` on the numpy route: every circuit of a batch
      `first.eval(c₁, …, cₖ)` is evaluated in the mode of its own `is_mixed` (a pure circuit by the tensor
      functor whatever it is batched with), all in CQ mode under `mixed=True`, all terms of a sum in one mode;
    * kets and bras are the basis vectors, `⟨bs|bs⟩ = 1` (proved for EVERY bitstring: `basisVec_eq`,
      `ket_mul_bra`; tabulated in `ket_bra_basis` for length ≤ 3);
    * `rewire(op, a, b)` = "op on qubits a and b", refused iff a = b — all `a, b < 4`, generic op.
    * WHOLE CIRCUITS (Proofs/MatAlg.lean, CircuitAlg.lean, CircuitCyc8.lean, RotCyc8.lean, KetBra.lean,
      CircuitTables.lean):
        - over EVERY commutative star ring (ℂ included: every real phase), for every well-typed list of
          layers `1 ⊗ U ⊗ 1` (`LTyped`; box matrices `2^a × 2^b` lists of rows): the value is a `2^n × 2^m`
          matrix; if every box satisfies `U·U† = 1` (`U†·U = 1`) so does the circuit
          (`circuit_unitary_generic`); the reversed list of daggered layers evaluates to the conjugate
          transpose (`circuit_dagger_generic`) — by induction over the layers from associativity of the list
          product, the mixed-product law, `(AB)† = B†A†`, `(A⊗B)† = A†⊗B†` and the identity laws;
        - for the executable model (`evalCirc` over ℤ[ζ₈][1/2], which is exactly that ordered product:
          `circuit_eval_is_layers`): `circuit_unitary`, `circuit_dagger` for every well-typed circuit
          (`Circ.codFrom n c = some m`) over the gate set `unitaryGates` = GATES, rotations, Controlled(·),
          and all their daggers; rotations at EVERY integer phase index `n/8` (`n` even, any `n` for CU1);
          kets/bras of ≤ 4 bits (the per-gate facts `ket_ok`, `bra_ok` hold for EVERY bitstring; the bound
          comes from the lists `ketGates`, `braGates` inside the definition `Gate.inDaggerSet`), normalised scalars, `sqrt(z)` boxes (`z` non-real or ≥ 0) and user-defined
          0-qubit `QuantumGate`s (global phases, either dagger flag, `phase0_dagOK`) for the dagger; with
          kets the circuit is an isometry.
          Transport: `Cyc8.val : Cyc8 → ℚ(ζ₈)` is a homomorphism for the model's normalising
          operations and injective on normalised values (Proofs/Cyc8Ring.lean).
        - the typing hypothesis is necessary (`circuit_unitary_needs_typing`).
  NOT PROVED (kept below as `Prop`s, decided on every run by exact correspondence + numpy oracle)
    * `circuit_dagger` for circuits containing `Controlled(S)`, `Controlled(T)` while F2 is open (it is FALSE
      there, `F2_witness`); `QuantumGate`s with arbitrary arrays inside whole circuits (the per-gate
      hypotheses `Gate.isoOK`/`dagOK` are decidable: `circuit_unitary_of`).  Kets/bras longer than 4 bits are
      outside `Gate.inDaggerSet` and so outside the STATEMENTS `circuit_dagger`, `circuit_isometry_with_kets`;
      their per-gate hypotheses are proved (`ket_ok`, `bra_ok`), so `circuit_unitary_of` applies to them.
    * `rewire_spec` for a symbolic `op` and for more than 4 qubits.
    * `sqrt_dagger_every_z` (negative real `z` included) — refuted for the code as it is (F4k).
-/
import Proofs.GatesTable
import Proofs.Rewire
import Proofs.GatesComplex
import Proofs.CircuitProps

namespace DV.C11
open DV DV.Gates

/-! ### named gates -/

/-- Every gate of `GATES = [SWAP, CZ, CX, H, S, T, X, Y, Z]` is unitary. -/
theorem gate_unitary :
    ∀ p ∈ named, mul p.2.eval (dagger p.2.eval) = idQ p.2.dom ∧
                 mul (dagger p.2.eval) p.2.eval = idQ p.2.dom := by
  have square : ∀ p ∈ named, p.2.cod = p.2.dom := by decide
  intro p hp
  have h := tableGates_ok p.2 (List.mem_append_left _ (List.mem_map_of_mem hp))
  simp only [Gate.isoOK, Gate.coisoOK, Bool.and_eq_true, beq_iff_eq] at h
  exact ⟨h.1.2, square p hp ▸ h.2.1.2⟩

/-- The (repaired) table equals the standard matrices of the identically named tket operations. -/
theorem gate_table_eq_tket : ∀ p ∈ namedRepaired, some p.2.eval = tketIO p.1 := namedRepaired_eq_tket

/-- The table the model currently transcribes (switch `f17Fixed`): all but `Y` while F17 is open. -/
theorem gate_table_eq_tket_partial :
    ∀ p ∈ named, (f17Fixed = true ∨ p.1 ≠ "Y") → some p.2.eval = tketIO p.1 := named_eq_tket

/-- F17 witness: `Y` as gates.py:561 stores it is tket's matrix un-transposed, i.e. the map `−Y`. -/
theorem F17_Y_is_transpose :
    some arrYAsIs = tketU "Y" ∧ some arrYAsIs ≠ tketIO "Y" ∧ arrYAsIs = msmul (-1) arrYFixed :=
  arrYAsIs_is_transpose

/-- `S.dagger()`, `T.dagger()`, `Controlled(S)`, `Controlled(Y)`, `Controlled(Z)` are tket's
    `Sdg`, `Tdg`, `CS`, `CY`, `CZ`. -/
theorem dagger_and_controlled_eq_tket :
    some (Gate.q gS).dagger.eval = tketIO "Sdg" ∧ some (Gate.q gT).dagger.eval = tketIO "Tdg" ∧
    some (Gate.ctrl (.q gS)).eval = tketIO "CS" ∧
    some (Gate.ctrl (.q ⟨"Y", 1, arrYFixed, some false⟩)).eval = tketIO "CY" ∧
    some (Gate.ctrl (.q gZ)).eval = tketIO "CZ" := dagger_names_eq_tket

/-! ### rotations, every real phase -/

/-- Rx, Ry (as it is and repaired), Rz, CU1, CRz, CRx are unitary at every real phase `φ`. -/
theorem rot_unitary (φ : ℝ) :
    mul (RxC φ) (dagger (RxC φ)) = identity 2 ∧ mul (RyAsIsC φ) (dagger (RyAsIsC φ)) = identity 2 ∧
    mul (RyFixedC φ) (dagger (RyFixedC φ)) = identity 2 ∧ mul (RzC φ) (dagger (RzC φ)) = identity 2 ∧
    mul (CU1C φ) (dagger (CU1C φ)) = identity 4 ∧ mul (CRzC φ) (dagger (CRzC φ)) = identity 4 ∧
    mul (CRxC φ) (dagger (CRxC φ)) = identity 4 := rot_unitary_complex φ

/-- Dagger by negated phase: `U(−φ) = U(φ)ᴴ` at every real phase. -/
theorem rot_dagger (φ : ℝ) :
    RxC (-φ) = dagger (RxC φ) ∧ RyAsIsC (-φ) = dagger (RyAsIsC φ) ∧ RyFixedC (-φ) = dagger (RyFixedC φ) ∧
    RzC (-φ) = dagger (RzC φ) ∧ CU1C (-φ) = dagger (CU1C φ) ∧ CRzC (-φ) = dagger (CRzC φ) ∧
    CRxC (-φ) = dagger (CRxC φ) := rot_dagger_complex φ

/-- The rotation arrays are the standard tket matrices (angle `2φ` half turns) in `[input, output]`
    order — over any commutative ring, hence at every phase; `Ry` in its repaired form. -/
theorem rot_matches_tket {R : Type} [CommRing R] (i c s ν ν' μ : R) :
    rx i c s = transpose (tketRx i c s) ∧ ryFixed c s = transpose (tketRy c s) ∧
    rz ν ν' = transpose (tketRz ν ν') ∧ cu1 μ = transpose (tketCU1 μ) ∧
    crz ν ν' = transpose (tketCRz ν ν') ∧ crx i c s = transpose (tketCRx i c s) :=
  Gates.rot_matches_tket i c s ν ν' μ

/-- F17 for `Ry`: the array as gates.py:402 has it is tket's matrix un-transposed = `Ry(−φ)`. -/
theorem F17_Ry_is_transpose {R : Type} [CommRing R] (c s : R) :
    ryAsIs c s = tketRy c s ∧ ryAsIs c s = transpose (tketRy c (-s)) ∧ ryAsIs c s = ryFixed c (-s) :=
  ryAsIs_is_transpose c s

/-- The executable model at every exactly representable phase (`n/8`; even `n` except CU1): the
    dagger evaluates to the adjoint and the rotation is unitary — ties the `Cyc8` instance the
    driver runs to the symbolic theorems.  An instance of `rotArr_neg` and `rotArr_unitary` (Proofs/RotCyc8.lean),
    which hold for every `n : ℤ` (even unless CU1); of the two list hypotheses only the parity of `n` is used. -/
theorem rot_table_exact :
    ∀ k ∈ rotKinds, ∀ n ∈ (if k = .CU1 then allPhases else evenPhases),
      (Gate.rot k n).dagger.eval = dagger (Gate.rot k n).eval ∧
      mul (Gate.rot k n).eval (dagger (Gate.rot k n).eval) = idQ k.nq := fun k _ n hn =>
  ⟨rotArr_neg k n (phases_exact hn), rotArr_unitary k n⟩

/-! ### controlled gates -/

/-- `Controlled(U) = |0⟩⟨0| ⊗ 1 + |1⟩⟨1| ⊗ U` for every one-qubit `U` over every commutative ring. -/
theorem controlled_spec {R : Type} [CommRing R] (a b c d : R) :
    ctrlArr [[a, b], [c, d]] = ctrlSpec [[a, b], [c, d]] := ctrl_spec a b c d

/-- CRz, CRx, CU1 are the controlled Rz, Rx, `diag(1, e^{2πiφ})`. -/
theorem controlled_rotations {R : Type} [CommRing R] (i c s ν ν' μ : R) :
    crz ν ν' = ctrlArr (rz ν ν') ∧ crx i c s = ctrlArr (rx i c s) ∧ cu1 μ = ctrlArr [[1, 0], [0, μ]] :=
  ⟨rfl, rfl, rfl⟩

/-- On the table and at the representable phases, in the executable model. -/
theorem controlled_spec_exact :
    (∀ g ∈ oneQubitNamed, (Gate.ctrl (.q g)).eval = ctrlSpec (Gate.q g).eval) ∧
    (∀ n ∈ evenPhases,
      (Gate.rot .CRz n).eval = ctrlSpec (Gate.rot .Rz n).eval ∧
      (Gate.rot .CRx n).eval = ctrlSpec (Gate.rot .Rx n).eval ∧
      (Gate.ctrl (.rot .Rz n)).eval = (Gate.rot .CRz n).eval ∧
      (Gate.ctrl (.rot .Rx n)).eval = (Gate.rot .CRx n).eval ∧
      (Gate.ctrl (.rot .Ry n)).dagger.eval = dagger (Gate.ctrl (.rot .Ry n)).eval) :=
  ⟨controlled_spec_table, controlled_rot_table⟩

/-! ### dagger mechanisms -/

/-- Flag (gates.py:43 + tensor.py:358), rebuilt `CX`, `SWAP`: on the whole table. -/
theorem dagger_flag_eval :
    ∀ p ∈ named, p.2.dagger.eval = dagger p.2.eval ∧ p.2.dagger.dagger.eval = p.2.eval :=
  named_dagger_eval

/-- Flag mechanism for ANY stored array: un-flagged gate. -/
theorem dagger_flag_unflagged (g : QGate) (h : g.dg = some false) (f : Bool) :
    (Gate.q g).dagger.evalW f = dagger ((Gate.q g).evalW f) := flag_dagger_of_unflagged g h f

/-- Flag mechanism for any one-qubit array: flagged gate (dagger of a dagger). -/
theorem dagger_flag_flagged (name : String) (a b c d : Cyc8) (f : Bool) :
    (Gate.q ⟨name, 1, [[a, b], [c, d]], some true⟩).dagger.evalW f =
      dagger ((Gate.q ⟨name, 1, [[a, b], [c, d]], some true⟩).evalW f) :=
  flag_dagger_of_flagged name a b c d f

/-- A gate declared self-adjoint (`_dagger=None`) is handled correctly iff its array is Hermitian. -/
theorem dagger_flag_selfadjoint (g : QGate) (h : g.dg = none) (f : Bool) :
    ((Gate.q g).dagger.evalW f = dagger ((Gate.q g).evalW f)) ↔ g.arr = dagger g.arr :=
  flag_dagger_of_selfadjoint g h f

/-- Scalars: conjugation, every value. -/
theorem dagger_scalar (z : Cyc8) (f : Bool) :
    (Gate.scalar z).dagger.evalW f = dagger ((Gate.scalar z).evalW f) := scalar_dagger z f

/-! ### square-root scalars (`sqrt(z)`, gates.py:567-575, 633-635) -/

/-- **`sqrt_dagger`** — `eval (sqrt z).dagger = conj (eval (sqrt z))` for `z` given with its root `r = z ** .5`:
    for every `z` that is not its own conjugate (every NON-REAL `z`) and for every `z` whose root is real
    (`z ≥ 0`).  The dagger is `Scalar(conj(z ** .5))` — the conjugate of the root, not of the data.
    (A partial statement of `sqrt_dagger_every_z`: negative real `z` is excluded, because there it is false for
    the code as it is, see `F4k_witness`.) -/
theorem sqrt_dagger (z r : Cyc8) (f : Bool) (h : z.conj ≠ z ∨ r.conj = r) :
    (Gate.sqrt z r).dagger.evalW f = dagger ((Gate.sqrt z r).evalW f) :=
  h.elim (sqrt_dagger_nonreal z r f) (sqrt_dagger_real_root z r f)

/-- The exact criterion for the code the switch `f4kFixed` selects: the dagger of `sqrt(z)` evaluates to
    the conjugate iff the box is not taken for self-adjoint or its value is real. -/
theorem sqrt_dagger_criterion (z r : Cyc8) (f : Bool) :
    ((Gate.sqrt z r).dagger.evalW f = dagger ((Gate.sqrt z r).evalW f)) ↔
      (sqrtSelfAdjoint z r = false ∨ r.conj = r) := sqrt_dagger_iff z r f

/-- F4k witness: `sqrt(-4)` — value `2i`, an exact root — is taken for self-adjoint by gates.py:524 (the test
    is made on the data `-4`), so AS IT IS its dagger evaluates to `2i ≠ conj(2i)`; with the proposed repair
    (test made on the value) it evaluates to `-2i`. -/
theorem F4k_witness :
    Gate.sqrtExact (.sqrt (Cyc8.ofInt (-4)) ⟨0, 0, 2, 0, 0⟩) = true ∧
    sqrtSelfAdjointW false (Cyc8.ofInt (-4)) ⟨0, 0, 2, 0, 0⟩ = true ∧
    (sqrtDaggerW false (Cyc8.ofInt (-4)) ⟨0, 0, 2, 0, 0⟩).evalW true ≠
      dagger ((Gate.sqrt (Cyc8.ofInt (-4)) ⟨0, 0, 2, 0, 0⟩).evalW true) ∧
    (sqrtDaggerW true (Cyc8.ofInt (-4)) ⟨0, 0, 2, 0, 0⟩).evalW true =
      dagger ((Gate.sqrt (Cyc8.ofInt (-4)) ⟨0, 0, 2, 0, 0⟩).evalW true) := F4k_sqrt_negative

/-- With the proposed repair of F4k the statement holds for EVERY `z` and root. -/
theorem sqrt_dagger_repaired (z r : Cyc8) (f : Bool) :
    (sqrtDaggerW true z r).evalW f = dagger ((Gate.sqrt z r).evalW f) := sqrt_dagger_fixed z r f

/-! ### calling conventions of `Circuit.eval` on the numpy route (circuit.py:244-253, 657-664) -/

/-- **A pure circuit is evaluated by the tensor functor — to the Tensor of `evalCirc` — whatever it is batched
    with**: in `first.eval(c₁, …, cₖ)` (no `mixed=True`) the `i`-th circuit of `(first, c₁, …, cₖ)` is evaluated
    in the mode given by ITS OWN `is_mixed`; the batch returns one result per circuit. -/
theorem eval_batch_own_mode (selfMixed : Bool) (others : List Bool) (i : Nat) (m : Bool)
    (h : (selfMixed :: others)[i]? = some m) :
    (evalModes false selfMixed others)[i]? = some m ∧
    (evalModes false selfMixed others).length = others.length + 1 :=
  ⟨evalModes_own selfMixed others i m h, evalModes_length false selfMixed others⟩

/-- With `mixed=True` every circuit of the call is evaluated as a CQ map. -/
theorem eval_batch_mixed_flag (selfMixed : Bool) (others : List Bool) :
    ∀ m ∈ evalModes true selfMixed others, m = true := evalModes_flag selfMixed others

/-- `Sum.eval`: all terms are evaluated in ONE mode (so that they can be added) — the pure one iff the flag is
    off and no term is mixed: a sum of pure circuits adds up their Tensors. -/
theorem sum_eval_modes (flag : Bool) (terms ms : List Bool) (h : sumModes flag terms = some ms) :
    ms.length = terms.length ∧ ∀ m ∈ ms, m = (flag || terms.any id) := sumModes_uniform flag terms ms h

/-- Rebuilt controlled gate (gates.py:286) AS IT IS: correct iff the target's stored array is
    Hermitian — `_partial`: it is NOT correct for every gate (F2). -/
theorem dagger_controlled_partial :
    ∀ g ∈ oneQubitNamed,
      ((Gate.ctrl (.q g)).dagger.evalAsIs = dagger (Gate.ctrl (.q g)).evalAsIs ↔ g.arr = dagger g.arr) :=
  controlled_dagger_table

/-- The same criterion for every one-qubit array over every commutative star ring. -/
theorem dagger_controlled_asis_iff {R : Type} [CommRing R] [StarRing R] (a b c d : R) :
    ctrlArr [[a, b], [c, d]] = dagger (ctrlArr [[a, b], [c, d]]) ↔
      [[a, b], [c, d]] = dagger [[a, b], [c, d]] := ctrl_asis_dagger_iff a b c d

/-- F2 witnesses: `Controlled(S).dagger()` and `Controlled(T).dagger()` evaluate to the UN-daggered
    matrix. -/
theorem F2_witness :
    ((Gate.ctrl (.q gS)).dagger.evalAsIs ≠ dagger (Gate.ctrl (.q gS)).evalAsIs ∧
     (Gate.ctrl (.q gS)).dagger.evalAsIs = (Gate.ctrl (.q gS)).evalAsIs) ∧
    ((Gate.ctrl (.q gT)).dagger.evalAsIs ≠ dagger (Gate.ctrl (.q gT)).evalAsIs ∧
     (Gate.ctrl (.q gT)).dagger.evalAsIs = (Gate.ctrl (.q gT)).evalAsIs) :=
  ⟨F2_controlled_S, F2_controlled_T⟩

/-- With the proposed repair the rebuilt controlled gate is correct on the whole table, flagged
    targets are controlled versions of their evaluation, un-flagged ones are unchanged. -/
theorem dagger_controlled_repaired :
    ∀ g ∈ oneQubitNamed,
      (Gate.ctrl (.q g)).dagger.evalFixed = dagger (Gate.ctrl (.q g)).evalFixed ∧
      (Gate.ctrl (.q g.dagger)).evalFixed = ctrlSpec (Gate.q g.dagger).evalFixed ∧
      (Gate.ctrl (.q g)).evalFixed = (Gate.ctrl (.q g)).evalAsIs := controlled_dagger_fixed_table

/-- The algebra behind the repair: `Controlled(U)ᴴ = Controlled(Uᴴ)` for every one-qubit `U`. -/
theorem controlled_dagger_commute {R : Type} [CommRing R] [StarRing R] (a b c d : R) :
    dagger (ctrlArr [[a, b], [c, d]]) = ctrlArr (dagger [[a, b], [c, d]]) := ctrl_dagger a b c d

/-! ### kets, bras -/

/-- `Ket(bs)` / `Bra(bs)` are the basis row / column vector of index `bs`; Ket ↔ Bra is the adjoint;
    `Ket(bs) >> Bra(bs) = 1`.  Tabulated over the bitstrings of length ≤ 3; every conjunct is an instance of a
    theorem about EVERY bitstring (`basisVec_eq`, `ket_dagger_eval`, `bra_dagger_eval`, `ket_mul_bra`), the
    membership hypothesis is not used. -/
theorem ket_bra_basis :
    ∀ bs ∈ bitstringsUpTo3,
      (Gate.ket bs).eval = [(bits bs.length).map fun x => if x = bs then 1 else 0] ∧
      (Gate.ket bs).dagger.eval = dagger (Gate.ket bs).eval ∧
      (Gate.bra bs).dagger.eval = dagger (Gate.bra bs).eval ∧
      mul (Gate.ket bs).eval (Gate.bra bs).eval = [[1]] := fun bs _ =>
  ⟨congrArg (fun v => [v]) (basisVec_eq bs), (ket_dagger_eval bs).symm, (bra_dagger_eval bs).symm, ket_mul_bra bs⟩

/-! ### rewire -/

/-- `rewire(op, a, b)` (gates.py:603-638, with the wire permutation as C10 specifies it) is refused
    iff `a = b` and otherwise is "op acting on qubits a and b" — all `a, b < 4`, on a generic integer
    matrix with 16 distinct entries (`_partial`: not for a symbolic `op`). -/
theorem rewire_spec_partial :
    ∀ p ∈ pairs 4, rewireMat genericOp p.1 p.2 =
      if p.1 = p.2 then .error .value
      else .ok (actsOn genericOp (max p.1 p.2 + 1) p.1 p.2) := rewire_table

/-! ### whole circuits -/

/-- `evalCirc` is the ordered product of the layers `1 ⊗ ⟦gate⟧ ⊗ 1` (the recursion `evalLayers` about
    which the generic theorems speak). -/
theorem circuit_eval_is_layers (n : Nat) (c : Circ) : evalCirc n c = evalLayers n (Circ.layers c) :=
  evalCirc_eq n c

/-- The value of a well-typed list of layers from `n` to `m` qubits is a `2^n × 2^m` matrix. -/
theorem circuit_eval_shape {R : Type} [CommRing R] {n m : Nat} {L : Layers R} (h : LTyped n L m) :
    IsMat (pow2 n) (pow2 m) (evalLayers n L) := evalLayers_isMat h

/-- **Products and Kronecker products of unitaries are unitary**: over every commutative star ring, a
    well-typed circuit whose boxes satisfy `U·U† = 1` (resp. `U†·U = 1`) satisfies the same. -/
theorem circuit_unitary_generic {R : Type} [CommRing R] [StarRing R] {n m : Nat} {L : Layers R} :
    (LIsometric n L m → mul (evalLayers n L) (dagger (evalLayers n L)) = idQ n) ∧
    (LCoisometric n L m → mul (dagger (evalLayers n L)) (evalLayers n L) = idQ m) :=
  ⟨evalLayers_isometry, evalLayers_coisometry⟩

/-- **`eval(c†) = eval(c)†`** over every commutative star ring, for every well-typed list of layers. -/
theorem circuit_dagger_generic {R : Type} [CommRing R] [StarRing R] {n m : Nat} {L : Layers R}
    (h : LTyped n L m) : evalLayers m (Ldagger L) = dagger (evalLayers n L) := evalLayers_dagger h

/-- The list-matrix laws behind them (inner dimensions positive; `IsMat m n A`: `m` rows of length `n`). -/
theorem matrix_laws {R : Type} [CommRing R] [StarRing R] {m k l n p q : Nat} {A B C D : Mat R}
    (hm : 0 < m) (hk : 0 < k) (hl : 0 < l) (hp : 0 < p) :
    (IsMat m k A → IsMat k l B → IsMat l n C → mul (mul A B) C = mul A (mul B C)) ∧
    (IsMat m k A → IsMat k n B → IsMat p l C → IsMat l q D →
      kron (mul A B) (mul C D) = mul (kron A C) (kron B D)) ∧
    (IsMat m k A → IsMat k n B → dagger (mul A B) = mul (dagger B) (dagger A)) ∧
    (IsMat m n A → IsMat p q B → dagger (kron A B) = kron (dagger A) (dagger B)) ∧
    (IsMat m k A → mul A (identity k) = A ∧ mul (identity m) A = A) :=
  ⟨mul_assoc_of_isMat hk hl, kron_mul_kron hk hl, dagger_mul hm hk, dagger_kron hm hp,
   fun h => ⟨mul_identity hk h, identity_mul hm h⟩⟩

/-- The hypotheses of the executable instance, decidable per gate: the evaluation is a `2^dom × 2^cod`
    matrix of normalised values and `⟦g⟧⟦g⟧† = 1`, `⟦g⟧†⟦g⟧ = 1`, `⟦g†⟧ = ⟦g⟧†`.  They hold on the whole
    gate set … -/
theorem gate_set_ok :
    (∀ g ∈ unitaryGates, g.isoOK = true ∧ g.coisoOK = true ∧ g.dagOK = true) ∧
    (∀ g ∈ unitaryGatesF2, g.isoOK = true ∧ g.coisoOK = true ∧ (f2Fixed = true → g.dagOK = true)) ∧
    (∀ g ∈ ketGates, g.isoOK = true ∧ g.dagOK = true) ∧ (∀ g ∈ braGates, g.coisoOK = true ∧ g.dagOK = true) ∧
    (∀ z : Cyc8, z.isNormal = true → (Gate.scalar z).dagOK = true) ∧
    (∀ z r : Cyc8, r.isNormal = true → (sqrtSelfAdjoint z r = false ∨ r.conj = r) →
      (Gate.sqrt z r).dagOK = true) :=
  ⟨unitaryGates_ok, unitaryGatesF2_ok, ketBra_ok.1, ketBra_ok.2, scalar_dagOK, sqrt_dagOK⟩

/-- … and for rotations at EVERY integer phase index (`n` even unless CU1): the symbolic theorems read in ℚ(ζ₈). -/
theorem rot_every_phase_index (k : RotKind) (n : Int) (h : k = .CU1 ∨ n % 2 = 0) :
    (Gate.rot k n).isoOK = true ∧ (Gate.rot k n).coisoOK = true ∧ (Gate.rot k n).dagOK = true :=
  rotOK_all k n h

/-- Whole circuits from the per-gate hypotheses alone (any gates, e.g. a `QuantumGate` with a custom
    array for which they have been decided). -/
theorem circuit_unitary_of (n m : Nat) (c : Circ) (ht : Circ.codFrom n c = some m) :
    ((∀ x ∈ c, x.2.1.isoOK = true) → mul (evalCirc n c) (dagger (evalCirc n c)) = idQ n) ∧
    ((∀ x ∈ c, x.2.1.coisoOK = true) → mul (dagger (evalCirc n c)) (evalCirc n c) = idQ m) ∧
    ((∀ x ∈ c, x.2.1.dagOK = true) → evalCirc m (Circ.dagger c) = dagger (evalCirc n c)) :=
  ⟨evalCirc_isometry ht, evalCirc_coisometry ht, evalCirc_dagger ht⟩

/-- **Whole circuits: unitary when built from gates only** — every well-typed circuit over the gate set. -/
theorem circuit_unitary (n m : Nat) (c : Circ) (ht : Circ.codFrom n c = some m)
    (hg : ∀ x ∈ c, x.2.1.inUnitarySet) :
    mul (evalCirc n c) (dagger (evalCirc n c)) = idQ n ∧
    mul (dagger (evalCirc n c)) (evalCirc n c) = idQ m := circuit_unitary_cyc8 n m c ht hg

/-- With state preparation (kets from the list `ketGates`, ≤ 4 bits; `ket_ok` holds for every bitstring) the
    circuit is an isometry: `⟦c⟧⟦c⟧† = 1`. -/
theorem circuit_isometry_with_kets (n m : Nat) (c : Circ) (ht : Circ.codFrom n c = some m)
    (hg : ∀ x ∈ c, x.2.1.inUnitarySet ∨ x.2.1 ∈ ketGates) :
    mul (evalCirc n c) (dagger (evalCirc n c)) = idQ n := circuit_isometry_cyc8 n m c ht hg

/-- **Whole circuits: the dagger evaluates to the conjugate transpose** (kets, bras, scalars and square-root
    scalars `sqrt(z)` — `z` non-real or `≥ 0` — included; `Controlled(S)`, `Controlled(T)` with F2 repaired). -/
theorem circuit_dagger (n m : Nat) (c : Circ) (ht : Circ.codFrom n c = some m)
    (hg : ∀ x ∈ c, x.2.1.inDaggerSet) :
    evalCirc m (Circ.dagger c) = dagger (evalCirc n c) := circuit_dagger_cyc8 n m c ht hg

/-- … and the dagger of a well-typed circuit is well typed the other way round. -/
theorem circuit_dagger_typed (n m : Nat) (c : Circ) (ht : Circ.codFrom n c = some m) :
    Circ.codFrom m (Circ.dagger c) = some n := Circ.dagger_codFrom ht

/-- The typing hypothesis is necessary: `H` as a layer on 2 qubits is ill typed and its "value" is not unitary. -/
theorem circuit_unitary_needs_typing :
    Circ.codFrom 2 [(0, .q gH, 0)] = none ∧
    mul (evalCirc 2 [(0, .q gH, 0)]) (dagger (evalCirc 2 [(0, .q gH, 0)])) ≠ idQ 2 :=
  Gates.circuit_unitary_needs_typing

/-! ### full statements that are NOT proved (decided by correspondence + oracle on every run) -/

/-- `sqrt(z).dagger()` evaluates to the conjugate for EVERY `z` given with an exact root — FALSE for the code
    as it is at negative real `z` (`F4k_witness`; `sqrt_dagger_every_z_fails_asis`), true with the repair
    (`sqrt_dagger_repaired`). -/
def sqrt_dagger_every_z : Prop :=
  ∀ (z r : Cyc8) (f : Bool), Gate.sqrtExact (.sqrt z r) = true →
    (Gate.sqrt z r).dagger.evalW f = dagger ((Gate.sqrt z r).evalW f)

theorem sqrt_dagger_every_z_fails_asis (h : f4kFixed = false) : ¬ sqrt_dagger_every_z := by
  intro hall
  have h1 := hall (Cyc8.ofInt (-4)) ⟨0, 0, 2, 0, 0⟩ true F4k_sqrt_negative.1
  simp only [Gate.dagger, h] at h1
  exact F4k_sqrt_negative.2.2.1 h1

/-- `rewire` for every 4 × 4 `op` and every `(a, b)`. -/
def rewire_spec : Prop :=
  ∀ (op : M8) (a b : Nat), a ≠ b → rewireMat op a b = .ok (actsOn op (max a b + 1) a b)

/-! ### the hypotheses are met by concrete non-trivial values -/

example : (Gate.rot .Rx 2).eval ≠ idQ 1 ∧ (Gate.rot .CU1 3).eval ≠ idQ 2 := by decide
example : evalCirc 0 [(0, .ket [true, false], 0), (0, .q gH, 1), (0, .ctrl (.q gX), 0)] =
    [[Cyc8.invSqrt2, 0, 0, -Cyc8.invSqrt2]] := by decide
example : rewireMat (R := Int) genericOp 2 0 ≠ .ok (kron genericOp (idQ 1)) := by decide
example : (pairs 4).length = 16 ∧ named.length = 9 ∧ bitstringsUpTo3.length = 15 := by decide
/-- A concrete circuit meeting the hypotheses of `circuit_unitary` / `circuit_dagger`
    (negative phase index included). -/
def c0 : Circ := [(0, .q gH, 1), (0, .ctrl (.q gX), 0), (1, .rot .Rz (-6), 0), (0, .q gS.dagger, 1)]
example : Circ.codFrom 2 c0 = some 2 := by decide
example : ∀ x ∈ c0, x.2.1.inUnitarySet ∧ x.2.1.inDaggerSet := by
  intro x hx
  simp only [c0, List.mem_cons, List.not_mem_nil, or_false] at hx
  rcases hx with rfl | rfl | rfl | rfl
  · exact (named_inSets (p := ("H", .q gH)) (List.mem_of_getElem? (i := 3) rfl)).1
  · exact (named_inSets (p := ("CX", .ctrl (.q gX))) (List.mem_of_getElem? (i := 2) rfl)).1
  · exact ⟨.inr (.inr ⟨.Rz, -6, rfl, .inr (by decide)⟩), .inr (.inr (.inl ⟨.Rz, -6, rfl, .inr (by decide)⟩))⟩
  · exact (named_inSets (p := ("S", .q gS)) (List.mem_of_getElem? (i := 4) rfl)).2
example : evalCirc 2 c0 ≠ idQ 2 := by decide
/-- A circuit with scalar boxes of both classes at non-real and negative data meeting the hypotheses of
    `circuit_dagger`: `sqrt(2i)` (value `1 + i`), `scalar(-1)`, `sqrt(-3 + 4i)` (value `1 + 2i`), `sqrt(2)`. -/
def c1 : Circ := [(0, .ket [true], 0), (1, .sqrt ⟨0, 0, 2, 0, 0⟩ ⟨1, 0, 1, 0, 0⟩, 0), (0, .q gH, 0),
  (0, .scalar (Cyc8.ofInt (-1)), 1), (0, .sqrt ⟨-3, 0, 4, 0, 0⟩ ⟨1, 0, 2, 0, 0⟩, 1), (1, .sqrt (Cyc8.ofInt 2) Cyc8.sqrt2, 0)]
example : Circ.codFrom 0 c1 = some 1 := by decide
example : ∀ x ∈ c1, x.2.1.inDaggerSet := by
  intro x hx
  simp only [c1, List.mem_cons, List.not_mem_nil, or_false] at hx
  rcases hx with rfl | rfl | rfl | rfl | rfl | rfl
  · exact .inr (.inr (.inr (.inl (List.mem_map.2 ⟨[true], by decide, rfl⟩))))
  · exact .inr (.inr (.inr (.inr (.inr (.inr (.inl ⟨_, _, rfl, by decide, .inl (by decide)⟩))))))
  · exact (named_inSets (p := ("H", .q gH)) (List.mem_of_getElem? (i := 3) rfl)).1.2
  · exact .inr (.inr (.inr (.inr (.inr (.inl ⟨_, rfl, by decide⟩)))))
  · exact .inr (.inr (.inr (.inr (.inr (.inr (.inl ⟨_, _, rfl, by decide, .inl (by decide)⟩))))))
  · exact .inr (.inr (.inr (.inr (.inr (.inr (.inl ⟨_, _, rfl, by decide, .inr (by decide)⟩))))))
example : evalCirc 1 (Circ.dagger c1) = dagger (evalCirc 0 c1) ∧
    evalCirc 0 c1 = [[⟨1, 0, -3, 0, 0⟩, ⟨-1, 0, 3, 0, 0⟩]] := by decide
/-- User-defined `QuantumGate`s on ZERO qubits (global phases) inside a circuit, at every kind of position:
    `phase(ζ).dagger()` left of `X`, `phase(i)` between the layers on the right, `phase((1-3i)/2).dagger().dagger()`
    in the middle of two wires.  Arity 0 is accepted by `evalCirc` (`1 ⊗ [[w]] ⊗ 1`), the daggered gate contributes
    the CONJUGATE of its entry, and the circuit meets the hypotheses of `circuit_dagger`. -/
def phZ : QGate := ⟨"phase", 0, [[Cyc8.zeta]], some false⟩
def c2 : Circ := [(0, .q phZ.dagger, 1), (0, .q gX, 0), (1, .q ⟨"PI", 0, [[Cyc8.I]], some false⟩, 0),
  (0, .ket [false], 1), (1, .q (QGate.dagger (QGate.dagger ⟨"PG", 0, [[⟨1, 0, -3, 0, 1⟩]], some false⟩)), 1)]
example : Circ.codFrom 1 c2 = some 2 := by decide
example : evalCirc 1 [(0, .q phZ.dagger, 1), (0, .q gX, 0)] = [[0, Cyc8.zeta.conj], [Cyc8.zeta.conj, 0]] ∧
    evalCirc 1 [(0, .q phZ, 1), (0, .q gX, 0)] = [[0, Cyc8.zeta], [Cyc8.zeta, 0]] ∧
    Cyc8.zeta.conj ≠ Cyc8.zeta := by decide
example : ∀ x ∈ c2, x.2.1.inDaggerSet := by
  intro x hx
  simp only [c2, List.mem_cons, List.not_mem_nil, or_false] at hx
  rcases hx with rfl | rfl | rfl | rfl | rfl
  · exact .inr (.inr (.inr (.inr (.inr (.inr (.inr ⟨"phase", Cyc8.zeta, true, rfl, by decide⟩))))))
  · exact (named_inSets (p := ("X", .q gX)) (List.mem_of_getElem? (i := 6) rfl)).1.2
  · exact .inr (.inr (.inr (.inr (.inr (.inr (.inr ⟨"PI", Cyc8.I, false, rfl, by decide⟩))))))
  · exact .inr (.inr (.inr (.inl (List.mem_map.2 ⟨[false], by decide, rfl⟩))))
  · exact .inr (.inr (.inr (.inr (.inr (.inr (.inr ⟨"PG", ⟨1, 0, -3, 0, 1⟩, false, rfl, by decide⟩))))))
example : evalCirc 2 (Circ.dagger c2) = dagger (evalCirc 1 c2) ∧ evalCirc 1 c2 ≠ evalCirc 1 (c2.drop 1) := by
  decide
example : evalModes false true [false, true, false] = [true, false, true, false] ∧
    sumModes false [false, false] = some [false, false] ∧ sumModes false [false, true] = some [true, true] := by
  decide
/-- The generic theorem at ℂ, every pair of real phases: `Rx(φ) ⊗ 1` then `CRz(ψ)` is unitary. -/
example (φ ψ : ℝ) :
    mul (evalLayers 2 [(0, RxC φ, 1), (0, CRzC ψ, 0)]) (dagger (evalLayers 2 [(0, RxC φ, 1), (0, CRzC ψ, 0)]))
      = idQ 2 :=
  evalLayers_isometry (LIsometric.cons (l := 0) (a := 1) (b := 1) (r := 1) (by simp [IsMat, RxC, rx, pow2]) (rot_unitary_complex φ).1
    (LIsometric.cons (l := 0) (a := 2) (b := 2) (r := 0) (by simp [IsMat, CRzC, crz, pow2]) (rot_unitary_complex ψ).2.2.2.2.2.1
      (LIsometric.nil 2)))
/-- The star-ring hypotheses of the symbolic theorems hold in ℂ at φ = 0.3 (and every φ). -/
example : nuC 0.3 * nuC (-0.3) = 1 ∧ 2 * cC 0.3 = nuC 0.3 + nuC (-0.3) := ⟨hyp_nu _, hyp_c _⟩

end DV.C11
