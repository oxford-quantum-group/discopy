/-
  Props/C09.lean — evaluating a diagram computes its compositional meaning.

  Statement (properties.jsonl C09): the tensor a tensor-functor assigns to a diagram equals the
  layer-by-layer composite (identity on the left wires) ⊗ (tensor of the box) ⊗ (identity on the
  right wires) of the tensors it assigns to the boxes, with swaps, cups, caps, daggered boxes,
  spiders, bubbles and sums interpreted by their defining tensors; in particular evaluation is
  invariant under interchange and normalisation, and `Diagram.eval` is the identity-on-arrays
  functor.

  Model: `TFunctor.call` (Model/Tensor.lean) transcribes the single-pass loop of
  `tensor.Functor.__call__` (tensor.py:365-391: `tensordot` on tracked axis positions, then
  `moveaxis` of the new axes; swaps special-cased as a `moveaxis` of the running array);
  `TFunctor.layerwise` is the reference semantics: the fold of
  `acc >> (Tensor.id(F left) @ F(box) @ Tensor.id(F right))` over the layers, with
  `F(swap) = Tensor.swap`, `F(cup) = Tensor.cups`, `F(cap) = Tensor.caps`,
  `F(f†) = F(f).dagger()` (tensor.py:352-361).

  PROVED (over any commutative star semiring, all diagrams, all object maps incl. dimension 1
  and multi-wire `Dim`s, all arrays; `GaussInt`, at which the compiled model runs, is one):
  * `functor_eval_eq_layers`: on every well-typed diagram (`Diagram.WF`, the C01 predicate)
    whose `Swap`/`Cup`/`Cap` boxes are genuine (`Genuine`: a swap exchanges its first wire with
    the rest, a cup has two input wires and no output, a cap the converse — what the classes of
    discopy guarantee) the two programs return the SAME result: the same tensor, or the same
    error (an array of the wrong size, or `Tensor.cups` refusing non-adjoint dimension tuples
    because winding numbers are erased).  No hypothesis on the functor.
    Proof: induction over the layers (`loopI_spec`): the running array keeps the shape invariant
    `Inv` (axes `[F dom | F scan | 1…1]`) and, reshaped (`accOf`), is the composite of the layers
    so far (last conjunct of `stepI_spec`); the box branch is
    `stepBox_spec` (`tensordotAxes_block` for tensor.py:381-385, `moveaxisOrder_moveback` for
    386-389), the swap branch `stepSwap_spec` (`moveaxisOrder_blockswap` for 369-377).
  * `functor_eval_eq_layers_of_boxOK`: the same from the weaker hypothesis that every box is
    sent to a well-formed tensor of the type the functor assigns to it (`BoxOK`), discharged by
    `boxOK_of_genuine`: generators and daggered generators, swaps, nested cups and caps of
    every dimension tuple (`Proofs/TensorCups.lean`).
  * `functor_eval_eq_layers_of_expr`: the same for any diagram produced by the op language
    (`Expr.eval`, well-typed by C01) whose boxes pass the Boolean test the driver reports.
  * `call_ofBox`: a box seen as a one-box diagram evaluates to `F(box)` (the `Box` branch of
    `__call__`, tensor.py:356-361, agrees with the loop).
  * `functor_eval_type`: a result has the type `F(dom) → F(cod)`; `functor_ty_monoidal`: the
    object map is monoidal; `obj_to_dim_ignores_z`: it ignores winding numbers.
  * `functor_box_eq_one_box_diagram`: for EVERY genuine box, swaps included, the loop on the one-box
    diagram returns the defining tensor `F(box)`; `functor_swap_box_type`: for a bare swap that is
    `Tensor.swap(F(left), F(right)) : F(left) @ F(right) → F(right) @ F(left)`.
  * `eval_empty_sum_typed`, `eval_sum_typed` (Model/TensorSum.lean: the `Sum` branch,
    tensor.py:338-340, as the left fold of `Tensor.__add__` from `Tensor.zeros`): the image of a
    formal sum has the image types; for no term it is the well-formed zero tensor.  (That the
    array of a sum WITH terms is the entrywise sum rests on the oracle of the harness.)

  * `eval_invariant_interchange`, `eval_invariant_normal_form`: if `F(d)` is defined then
    `F(d.interchange(i, j, left))` and `F(d.normal_form(left))` (monoidal.Diagram.normalize /
    normal_form as modelled in Model/Diagram.lean) are the SAME tensor.  Core:
    `tensor_layer_exchange` (two layers on disjoint wires commute, as an equality of tensors),
    associativity of `>>`, and `functor_eval_eq_layers` on both sides.

  NOT PROVED as Lean theorems (oracle of harness/props/c09.py only):
  * invariance under the RIGID normal form (snake removal, C07) — only the monoidal
    normalisation is covered above.
  * spiders, sums: a spider is a generator whose array is `Tensor.spiderArray` (recorded in the
    model, covered as a generator); for sums (`TFunctor.callSum`, not part of `TFunctor.call`)
    the typing is proved above, the entries of a sum with terms are checked by the harness only.
    `Diagram.eval` IS the call of the identity-on-arrays functor (tensor.py:429): nothing to
    prove, the harness checks it.
  * invariance under interchange / normal form is proved for bubble-free diagrams only
    (`TFunctor`); for diagrams with bubbles it follows in the same way from
    `functor_eval_eq_layers_bubbles` but is not stated (oracle only).

  BUBBLES (Model/TensorBubble.lean, Proofs/TensorBubble.lean).  A `tensor.Bubble` is a box that
  carries a function `func : R → R` (ANY function: a parameter of the model; the driver runs
  it at a small expression language over ℤ[i]) and a diagram `inside`; `BFunctor.call n` is
  `tensor.Functor.__call__` with the `Bubble` branch of tensor.py:336-337, `n` bounding the
  nesting depth.  PROVED, for every functor, every function, every nesting depth:
  * `eval_bubble_box`, `eval_bubble`: `F(bubble) = F(bubble.inside).map(bubble.func)`, for the
    bubble as the argument of the functor and as a one-box diagram (`bubble.eval()`);
  * `bubble_map_entrywise`: `.map(f)` keeps dom/cod and its entry at every index `i` is
    `f(entry i)` — "applies the function entry-wise";
  * `functor_eval_eq_layers_bubbles`: the single-pass evaluation of a diagram whose boxes may be
    bubbles (around diagrams with bubbles, …) equals the reference semantics `BFunctor.ref`:
    the layer-by-layer composite with every bubble interpreted by the entrywise image of the
    layer-by-layer composite of its inside.  Hypotheses: the diagram and all insides are
    well-typed with genuine `Swap`/`Cup`/`Cap` boxes, and a bubble is a generic box with the
    dom/cod of its inside (`BFunctor.Good`: the default of monoidal.py:786; the driver's `bfgood`).
  * `functor_eval_eq_layers_bubbles_level`: one level of the same (composite of `self(box)`).
  * `functor_eval_eq_layers_bubbles_of_table`: the same in the form the driver runs (bubbles as
    a table keyed by box, Boolean hypotheses `bfgood`).
  * `bubble_free_agrees`: with no bubble in the table `BFunctor.call` is `TFunctor.call`.
-/
import Proofs.TensorInterchange
import Proofs.TensorBubble
import Proofs.TensorSum
import Proofs.GaussInt

namespace DV.C09
open DV DV.TFunctor

section
variable {R : Type} [CommSemiring R] [StarRing R]

/-- The object map ignores winding numbers (tensor.py:341-351). -/
theorem obj_to_dim_ignores_z (F : TFunctor R) (o : Ob) (z : Int) :
    F.ty [{ o with z := z }] = F.ty [o] := by
  simp [TFunctor.ty]

/-- The object map is monoidal: `F(s @ t) = F(s) @ F(t)`, `F(Ty()) = Dim(1)`. -/
theorem functor_ty_monoidal (F : TFunctor R) (s t : Ty) :
    F.ty (s ++ t) = F.ty s ++ F.ty t ∧ F.ty [] = [] :=
  ⟨ty_append F s t, rfl⟩

/-- Single-pass evaluation = layer-by-layer composite, from `BoxOK`. -/
theorem functor_eval_eq_layers_of_boxOK (F : TFunctor R) (d : Diagram) (hwf : d.WF)
    (hsw : ∀ b ∈ d.boxes, SwapOK b) (hbox : ∀ b ∈ d.boxes, BoxOK F b) :
    F.call d = F.layerwise d :=
  call_eq_layerwise F d hwf hsw hbox

/-- Every genuine box is sent to a well-formed tensor of the right type.  (This is
    `TFunctor.boxOK_of_genuine` of Proofs/TensorFunctor.lean under the name the property uses;
    inside this file the short name means the present theorem.) -/
theorem boxOK_of_genuine (F : TFunctor R) (b : Box) (hb : Genuine b) : BoxOK F b :=
  TFunctor.boxOK_of_genuine F b hb

/-- **C09: single-pass evaluation = layer-by-layer composite**, for every functor, every
    well-typed diagram with genuine swap/cup/cap boxes, all dimensions, all arrays. -/
theorem functor_eval_eq_layers (F : TFunctor R) (d : Diagram) (hwf : d.WF)
    (hgen : ∀ b ∈ d.boxes, Genuine b) :
    F.call d = F.layerwise d :=
  call_eq_layerwise F d hwf (fun b hb => (hgen b hb).1)
    (fun b hb => TFunctor.boxOK_of_genuine F b (hgen b hb))

/-- The form the correspondence check exercises: a diagram built by the op language (well-typed
    by C01's `Expr.eval_wf`) whose special boxes pass the driver's Boolean test `fgenuine`. -/
theorem functor_eval_eq_layers_of_expr (F : TFunctor R) (e : Expr) (d : Diagram)
    (h : e.eval = .ok d) (hg : d.boxes.all TFunctor.genuineB = true) :
    F.call d = F.layerwise d :=
  functor_eval_eq_layers F d (Expr.eval_wf e h)
    (fun b hb => genuine_of_genuineB b (List.all_eq_true.1 hg b hb))

/-- The `Box` branch of `__call__` agrees with the loop on the one-box diagram.
    (`TFunctor.call_ofBox` is the same with `SwapOK b` in place of `b.kind ≠ .swap`; inside this
    file the short name means the present theorem.) -/
theorem call_ofBox (F : TFunctor R) (b : Box) (hk : b.kind ≠ .swap) (hb : BoxOK F b) :
    F.call (Diagram.ofBox b) = F.box b :=
  TFunctor.call_ofBox F b (fun h => absurd h hk) hb

/-- The exchange law behind invariance under interchange, for tensors: two layers whose boxes
    act on disjoint wires commute (`f : A → B` left of `g : C → D`, any `L`, `M`, `Rr`):
    `(L ⊗ f ⊗ M ⊗ C ⊗ Rr) ≫ (L ⊗ B ⊗ M ⊗ g ⊗ Rr) = (L ⊗ A ⊗ M ⊗ g ⊗ Rr) ≫ (L ⊗ f ⊗ M ⊗ D ⊗ Rr)`.
    By `functor_eval_eq_layers` this is what one adjacent interchange does to the evaluation. -/
theorem tensor_layer_exchange (L M Rr : List Nat) (f g : Tensor R) (hf : f.WF) (hg : g.WF) :
    Tensor.thenCore (Tensor.layerT L ((M ++ g.dom) ++ Rr) f)
        (Tensor.layerT ((L ++ f.cod) ++ M) Rr g)
      = Tensor.thenCore (Tensor.layerT ((L ++ f.dom) ++ M) Rr g)
          (Tensor.layerT L ((M ++ g.cod) ++ Rr) f) :=
  Tensor.layer_exchange L M Rr f g hf hg

/-- **Evaluation is invariant under interchange**: if `F(d)` is defined, then
    `F(d.interchange(i, j, left)) = F(d)` (the single-pass evaluation of both). -/
theorem eval_invariant_interchange (F : TFunctor R) (d d' : Diagram) (i j : Int) (left : Bool)
    (hwf : d.WF) (hgen : ∀ b ∈ d.boxes, Genuine b) (h : d.interchange i j left = .ok d')
    (t : Tensor R) (ht : F.call d = .ok t) : F.call d' = .ok t := by
  have hbox := fun b hb => TFunctor.boxOK_of_genuine F b (hgen b hb)
  exact (pres_interchange F hwf hbox h).call_eq hwf (fun b hb => (hgen b hb).1) hbox ht

/-- **Evaluation is invariant under normalisation**: if `F(d)` is defined, then
    `F(d.normal_form(left)) = F(d)`. -/
theorem eval_invariant_normal_form (F : TFunctor R) (d d' : Diagram) (left : Bool) (fuel : Nat)
    (hwf : d.WF) (hgen : ∀ b ∈ d.boxes, Genuine b) (h : d.normalForm left fuel = .ok d')
    (t : Tensor R) (ht : F.call d = .ok t) : F.call d' = .ok t := by
  have hbox := fun b hb => TFunctor.boxOK_of_genuine F b (hgen b hb)
  exact (pres_normalForm F hwf hbox h).call_eq hwf (fun b hb => (hgen b hb).1) hbox ht

/-- The result of evaluation has the type the functor assigns to the diagram. -/
theorem functor_eval_type (F : TFunctor R) (d : Diagram) (t : Tensor R) (h : F.call d = .ok t) :
    t.WF ∧ t.dom = F.ty d.dom ∧ t.cod = F.ty d.cod :=
  callI_type F F.box d t (by rw [callI_box]; exact h)

/-! ### bare boxes, formal sums -/

/-- **The functor on a bare box = the functor on its one-box diagram**, for EVERY genuine box,
    swaps included.  `TFunctor.box` is the defining tensor (`Tensor.swap(F(left), F(right))` with
    `left, right = box.dom[:1], box.dom[1:]` for a `Swap`; `Tensor.cups/caps`; the array or the
    adjoint of the array of a generator); `call (ofBox b)` is the loop of tensor.py:365-391 run on
    `Diagram(b.dom, b.cod, [b], [0])` — which is what discopy does with a `Swap` object handed to
    the functor (it is excluded from the `Box` branch, tensor.py:356-357).  A special case for bare
    swaps that exchanges the roles of the two wires would break this equality whenever
    `F(left) ≠ F(right)` (the example below has `[3]` and `[2]`). -/
theorem functor_box_eq_one_box_diagram (F : TFunctor R) (b : Box) (hb : Genuine b) :
    F.call (Diagram.ofBox b) = F.box b :=
  TFunctor.call_ofBox F b hb.1 (TFunctor.boxOK_of_genuine F b hb)

/-- The tensor of a bare genuine swap box: type `F(left) @ F(right) → F(right) @ F(left)`. -/
theorem functor_swap_box_type (F : TFunctor R) (b : Box) (hk : b.kind = .swap) (hb : Genuine b)
    (t : Tensor R) (h : F.call (Diagram.ofBox b) = .ok t) :
    t = Tensor.swap (F.ty (pySlice b.dom none (some 1))) (F.ty (pySlice b.dom (some 1) none)) ∧
      t.dom = F.ty b.dom ∧ t.cod = F.ty b.cod := by
  rw [functor_box_eq_one_box_diagram F b hb] at h
  have hty := TFunctor.boxOK_of_genuine F b hb t h
  simp only [TFunctor.box, hk] at h
  cases h
  exact ⟨rfl, hty.2.1, hty.2.2⟩

/-- **The image of the empty formal sum is the zero tensor of the image types**
    (tensor.py:338-340, `sum(map(self, diagram), Tensor.zeros(dom, cod))` with no term): a
    well-formed `Tensor` with `dom = F(dom)`, `cod = F(cod)`, every entry zero — not a bare `0`. -/
theorem eval_empty_sum_typed [DecidableEq R] (F : TFunctor R) (dom cod : Ty) :
    ∃ t, F.callSum dom cod [] = .ok t ∧ t.dom = F.ty dom ∧ t.cod = F.ty cod ∧ t.WF ∧
      ∀ x ∈ t.arr.data.toList, x = 0 :=
  ⟨Tensor.zeros (F.ty dom) (F.ty cod), TFunctor.callSum_nil F dom cod, rfl, rfl,
    Tensor.zeros_wf _ _, Tensor.zeros_data _ _⟩

/-- The image of a formal sum with any number of terms, when defined, has the image types. -/
theorem eval_sum_typed [DecidableEq R] (F : TFunctor R) (dom cod : Ty) (terms : List Diagram)
    (t : Tensor R) (h : F.callSum dom cod terms = .ok t) :
    t.dom = F.ty dom ∧ t.cod = F.ty cod :=
  TFunctor.sumLoop_type F terms _ t h

/-! ### bubbles -/

/-- A generic box (in particular a bubble) meets the hypothesis on special boxes vacuously. -/
theorem genuine_of_gen (b : Box) (hk : b.kind = .gen) : Genuine b :=
  ⟨fun h' => (by rw [hk] at h'; cases h'), fun h' => (by rw [hk] at h'; cases h'),
    fun h' => (by rw [hk] at h'; cases h')⟩

/-- **`Tensor.map` is entrywise** (tensor.py:258-261): same dom/cod, well-formed, and the entry
    at every multi-index is the image of the entry. -/
theorem bubble_map_entrywise (f : R → R) (t : Tensor R) (h : t.WF) :
    (t.map f).WF ∧ (t.map f).dom = t.dom ∧ (t.map f).cod = t.cod ∧
    ∀ i, InRange (t.dom ++ t.cod) i → (t.map f).entry i = f (t.entry i) :=
  ⟨Tensor.map_wf f t h, rfl, rfl, fun _ hi => Tensor.map_entry f t h hi⟩

/-- **`eval_bubble_box`**, the functor applied to the `Bubble` object (tensor.py:336-337):
    `F(bubble) = F(bubble.inside).map(bubble.func)`. -/
theorem eval_bubble_box (F : BFunctor R) (n : Nat) (b : Box) (s : BubbleSpec R)
    (h : F.bub b = some s) :
    F.box (n + 1) b = BFunctor.mapE s.func (F.call n s.inside) :=
  BFunctor.box_bubble F n b s h

/-- **`eval_bubble`**, the bubble as a diagram (`bubble.eval()`, or a bubble met by the loop):
    `eval (bubble f d) = (eval d).map f`. -/
theorem eval_bubble (F : BFunctor R) (hG : F.Good) (n : Nat) (b : Box) (s : BubbleSpec R)
    (h : F.bub b = some s) :
    F.call (n + 1) (Diagram.ofBox b) = BFunctor.mapE s.func (F.call n s.inside) := by
  rw [BFunctor.call_ofBox hG (n + 1) b (genuine_of_gen b (hG.kind b s h))]
  exact BFunctor.box_bubble F n b s h

/-- One level: a diagram whose boxes may be bubbles evaluates to the layer-by-layer composite of
    the tensors `self(box)` of its boxes. -/
theorem functor_eval_eq_layers_bubbles_level (F : BFunctor R) (hG : F.Good) (n : Nat)
    (d : Diagram) (hwf : d.WF) (hgen : ∀ b ∈ d.boxes, Genuine b) :
    F.call n d = F.layerwise n d :=
  BFunctor.call_eq_layerwise hG n d hwf hgen

/-- **C09 with bubbles, nested to any depth**: single-pass evaluation = the layer-by-layer
    composite in which a bubble is the entrywise image of the layer-by-layer composite of its
    inside (`BFunctor.ref`, `BFunctor.refBox`). -/
theorem functor_eval_eq_layers_bubbles (F : BFunctor R) (hG : F.Good) (n : Nat) (d : Diagram)
    (hwf : d.WF) (hgen : ∀ b ∈ d.boxes, Genuine b) :
    F.call n d = F.ref n d := by
  rw [BFunctor.call_eq_layerwise hG n d hwf hgen]
  unfold BFunctor.layerwise BFunctor.ref
  rw [funext (BFunctor.box_eq_refBox hG n)]

/-- The form the correspondence check exercises: the bubbles of a request are a table keyed by
    box, every inside and the outer diagram are values of the op language (well-typed by C01)
    and the driver's Boolean tests `bfgood` hold. -/
theorem functor_eval_eq_layers_bubbles_of_table (base : TFunctor R)
    (tab : List (Box × BubbleSpec R)) (hB : BFunctor.goodTableB tab = true)
    (hins : ∀ p ∈ tab, ∃ e : Expr, e.eval = .ok p.2.inside)
    (e : Expr) (d : Diagram) (h : e.eval = .ok d) (hg : d.boxes.all TFunctor.genuineB = true)
    (n : Nat) :
    (BFunctor.ofTable base tab).call n d = (BFunctor.ofTable base tab).ref n d :=
  functor_eval_eq_layers_bubbles _
    (BFunctor.good_ofTable base tab hB (fun p hp => by
      obtain ⟨e', he'⟩ := hins p hp
      exact Expr.eval_wf e' he'))
    n d (Expr.eval_wf e h)
    (fun b hb => genuine_of_genuineB b (List.all_eq_true.1 hg b hb))

/-- The defining tensor of a bubble in the reference semantics. -/
theorem ref_bubble (F : BFunctor R) (n : Nat) (b : Box) (s : BubbleSpec R)
    (h : F.bub b = some s) :
    F.refBox (n + 1) b = BFunctor.mapE s.func (F.ref n s.inside) := by
  simp only [BFunctor.refBox, h, BFunctor.ref]

/-- A table without bubbles: the model of this section is the model of the previous one. -/
theorem bubble_free_agrees (F : BFunctor R) (h : ∀ b, F.bub b = none) (n : Nat) (d : Diagram) :
    F.call n d = F.base.call d := by
  unfold BFunctor.call
  rw [show F.box n = F.base.box from funext (fun b => BFunctor.box_plain F n b (h b)), callI_box]

end

/-! ### non-vacuity: a concrete rigid diagram with a generator, a daggered generator, a swap, a
    cap and a cup, a functor into Gaussian-integer tensors with unequal dimensions; the
    hypotheses hold and both programs return the same tensor (finite checks; they illustrate the
    theorems, no theorem rests on them). -/

def xa : Ob := ⟨"a", 0⟩
def xb : Ob := ⟨"b", 0⟩
def bf : Box := { name := "f", dom := [xa], cod := [xb, xa] }
def bg : Box := { name := "g", dom := [xa], cod := [xa], dagger := true }
def bsw : Box := Box.swap xb xa
def bcap : Box := Box.cap xb xb.r
def bcup : Box := Box.cup xb xb.r

/-- `f ; swap ; (g† ⊗ b) ; (a ⊗ b ⊗ cap) ; (a ⊗ b ⊗ cup)` -/
def d0 : Diagram :=
  ⟨[xa], [xa, xb], [bf, bsw, bg, bcap, bcup], [0, 0, 0, 2, 2],
    ⟨[xa], [xa, xb],
      [⟨[], bf, []⟩, ⟨[], bsw, []⟩, ⟨[], bg, [xb]⟩, ⟨[xa, xb], bcap, []⟩, ⟨[xa, xb], bcup, []⟩]⟩⟩

def F0 : TFunctor GaussInt where
  ob := fun o => if o.name = "a" then [2] else [3]
  ar := fun b => if b.name = "f" then
      ⟨[12], #[⟨1, 0⟩, ⟨0, 1⟩, ⟨2, 0⟩, ⟨0, 0⟩, ⟨1, -1⟩, ⟨3, 0⟩, ⟨0, 0⟩, ⟨1, 0⟩, ⟨0, 2⟩, ⟨1, 1⟩, ⟨0, 0⟩, ⟨-1, 0⟩]⟩
    else ⟨[4], #[⟨1, 0⟩, ⟨0, 1⟩, ⟨2, 0⟩, ⟨1, 1⟩]⟩

private theorem d0_wf : d0.WF := by
  refine ⟨rfl, rfl, rfl, rfl, ?_⟩
  simp [LArrow.WF, d0, Chain, Layer.dom, Layer.cod, bf, bg, bsw, bcap, bcup, Box.swap, Box.cap,
    Box.cup, xa, xb, Ob.r]

private theorem d0_genuine : ∀ b ∈ d0.boxes, Genuine b := fun b hb =>
  genuine_of_genuineB b (List.all_eq_true.1 (by decide : d0.boxes.all TFunctor.genuineB = true) b hb)

example : d0.WF := d0_wf

example : ∀ b ∈ d0.boxes, Genuine b := d0_genuine

-- the evaluation of `d0` under `F0` succeeds (finite check): the equality below is not an
-- equality of two errors
set_option maxRecDepth 100000 in
example : (F0.call d0).toOption.isSome = true := by decide +kernel

/-- the theorem applies to `d0`, `F0` -/
example : F0.call d0 = F0.layerwise d0 :=
  functor_eval_eq_layers F0 d0 d0_wf d0_genuine

/-- a bare swap box with DIFFERENT images (`b ↦ [3]`, `a ↦ [2]`) is genuine ... -/
theorem bsw_genuine : Genuine bsw :=
  ⟨fun _ => rfl, fun h => by simp [bsw, Box.swap] at h, fun h => by simp [bsw, Box.swap] at h⟩

/-- ... and the functor on the box object is `Tensor.swap [3] [2] : [3, 2] → [2, 3]` -/
example : F0.call (Diagram.ofBox bsw) = .ok (Tensor.swap [3] [2]) :=
  (functor_box_eq_one_box_diagram F0 bsw bsw_genuine).trans rfl

example : (Tensor.swap (R := GaussInt) [3] [2]).dom = [3, 2] ∧
    (Tensor.swap (R := GaussInt) [3] [2]).cod = [2, 3] ∧
    (Tensor.swap (R := GaussInt) [3] [2]) ≠ Tensor.mk' [3, 2] [2, 3] (Tensor.swap [2] [3]).arr := by
  decide +kernel

/-- the empty sum `[b] → [a, b]` under `F0`: the zero tensor `[3] → [2, 3]`, and a two-term sum -/
example : F0.callSum [xb] [xa, xb] [] = .ok (Tensor.zeros [3] [2, 3]) := rfl

set_option maxRecDepth 100000 in
example : (F0.callSum [xa] [xa, xb] [d0, d0]).toOption.isSome = true := by
  -- `d0` evaluates (finite check) to a tensor of the type of the sum, so every addition is accepted
  have h0 : (F0.call d0).toOption.isSome = true := by decide +kernel
  obtain ⟨t, ht⟩ : ∃ t, F0.call d0 = .ok t := by
    cases h : F0.call d0 with
    | ok t => exact ⟨t, rfl⟩
    | error e => rw [h] at h0; cases h0
  have hty := functor_eval_type F0 d0 t ht
  obtain ⟨s, hs⟩ := sumLoop_defined F0 [d0, d0] (Tensor.zeros (F0.ty [xa]) (F0.ty [xa, xb]))
    (fun d hd => by
      have : d = d0 := by simpa using hd
      exact this ▸ ⟨t, ht, hty.2.1, hty.2.2⟩)
  exact (congrArg (fun r => r.toOption.isSome) hs : _)

/-! ### non-vacuity for bubbles: two bubbles around EQUAL insides with DIFFERENT functions in one
    diagram (Python's `==`/`repr` cannot tell them apart), and a bubble around that diagram
    (nesting depth 2), over Gaussian integers. -/

def bh : Box := { name := "h", dom := [xa], cod := [xa] }
def dIn : Diagram := Diagram.ofBox bh
def bb1 : Box := { name := "Bubble", dom := [xa], cod := [xa], data := "b1" }
def bb2 : Box := { name := "Bubble", dom := [xa], cod := [xa], data := "b2" }
/-- `h.bubble(func=square) >> h.bubble(func=plus_i)` -/
def dTwo : Diagram :=
  ⟨[xa], [xa], [bb1, bb2], [0, 0], ⟨[xa], [xa], [⟨[], bb1, []⟩, ⟨[], bb2, []⟩]⟩⟩
def bb3 : Box := { name := "Bubble", dom := [xa], cod := [xa], data := "b3" }
/-- `h >> (h.bubble(square) >> h.bubble(plus_i)).bubble(func=double)` -/
def dOut : Diagram :=
  ⟨[xa], [xa], [bh, bb3], [0, 0], ⟨[xa], [xa], [⟨[], bh, []⟩, ⟨[], bb3, []⟩]⟩⟩

def B0 : BFunctor GaussInt where
  base := { ob := fun _ => [2], ar := fun _ => ⟨[4], #[⟨1, 0⟩, ⟨0, 1⟩, ⟨2, 0⟩, ⟨1, 1⟩]⟩ }
  bub := fun b =>
    if b = bb1 then some ⟨fun x => x * x, dIn⟩
    else if b = bb2 then some ⟨fun x => x + ⟨0, 1⟩, dIn⟩
    else if b = bb3 then some ⟨fun x => x + x, dTwo⟩
    else none

theorem dTwo_wf : dTwo.WF := by
  refine ⟨rfl, rfl, rfl, rfl, ?_⟩
  simp [LArrow.WF, dTwo, Chain, Layer.dom, Layer.cod, bb1, bb2]

theorem dOut_wf : dOut.WF := by
  refine ⟨rfl, rfl, rfl, rfl, ?_⟩
  simp [LArrow.WF, dOut, Chain, Layer.dom, Layer.cod, bh, bb3]

theorem B0_cases {b : Box} {s : BubbleSpec GaussInt} (h : B0.bub b = some s) :
    (b = bb1 ∧ s.inside = dIn) ∨ (b = bb2 ∧ s.inside = dIn) ∨ (b = bb3 ∧ s.inside = dTwo) := by
  unfold B0 at h
  simp only at h
  split at h
  · rename_i hb; cases h; exact Or.inl ⟨hb, rfl⟩
  · split at h
    · rename_i hb; cases h; exact Or.inr (Or.inl ⟨hb, rfl⟩)
    · split at h
      · rename_i hb; cases h; exact Or.inr (Or.inr ⟨hb, rfl⟩)
      · cases h

theorem B0_good : B0.Good where
  kind b s h := by rcases B0_cases h with ⟨rfl, _⟩ | ⟨rfl, _⟩ | ⟨rfl, _⟩ <;> rfl
  dom b s h := by rcases B0_cases h with ⟨rfl, e⟩ | ⟨rfl, e⟩ | ⟨rfl, e⟩ <;> rw [e] <;> rfl
  cod b s h := by rcases B0_cases h with ⟨rfl, e⟩ | ⟨rfl, e⟩ | ⟨rfl, e⟩ <;> rw [e] <;> rfl
  wf b s h := by
    rcases B0_cases h with ⟨_, e⟩ | ⟨_, e⟩ | ⟨_, e⟩ <;> rw [e]
    · exact Diagram.ofBox_wf bh
    · exact Diagram.ofBox_wf bh
    · exact dTwo_wf
  gen b s h := by
    rcases B0_cases h with ⟨_, e⟩ | ⟨_, e⟩ | ⟨_, e⟩ <;> rw [e] <;> intro b' hb'
    · have : b' = bh := by simpa [dIn, Diagram.ofBox] using hb'
      rw [this]; exact genuine_of_gen _ rfl
    · have : b' = bh := by simpa [dIn, Diagram.ofBox] using hb'
      rw [this]; exact genuine_of_gen _ rfl
    · simp only [dTwo, List.mem_cons, List.not_mem_nil, or_false] at hb'
      rcases hb' with rfl | rfl <;> exact genuine_of_gen _ rfl

/-- the theorem applies to `dOut`, `B0` at depth 2 -/
example : B0.call 2 dOut = B0.ref 2 dOut :=
  functor_eval_eq_layers_bubbles B0 B0_good 2 dOut dOut_wf (by
    intro b hb
    simp only [dOut, List.mem_cons, List.not_mem_nil, or_false] at hb
    rcases hb with rfl | rfl <;> exact genuine_of_gen _ rfl)

-- the evaluation succeeds (so the equality is not one of two errors) and the two bubbles
-- around the same inside are NOT interchangeable: `square` then `plus_i` is not `square` twice
set_option maxRecDepth 100000 in
example : (B0.call 2 dOut).toOption.isSome = true := by decide +kernel

set_option maxRecDepth 100000 in
example : B0.call 1 dTwo ≠
    ({ B0 with bub := fun b => if b = bb1 ∨ b = bb2 then some ⟨fun x => x * x, dIn⟩ else none }
      : BFunctor GaussInt).call 1 dTwo := by decide +kernel

-- fuel below the nesting depth is reported, never silently wrong
example : B0.call 1 dOut = .error .fuel := by decide +kernel

end DV.C09
