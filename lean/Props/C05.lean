/-
  Props/C05.lean — C05 "interchange moves exactly one box past a disconnected neighbour".
  Property theorems; proofs in (or a few lines over) Proofs/WFOps.lean (typing),
  Proofs/Interchange.lean with Proofs/SMC.lean (refinement, soundness, refusal), Proofs/Move.lean
  (closed form), Proofs/InterchangeBack.lean (taking a move back), Proofs/InterchangeBlind.lean,
  Proofs/Foliate.lean (sequences of interchanges).

  Proved: typing, refinement of the textbook exchange relation, soundness under every monoidal
  functor (into every partial strict monoidal algebra `SMC`), exact refusal for adjacent moves,
  for in-range `(i, j)` only two outcomes, a diagram or an interchanger error (never an axiom
  error), exact index refusal, boxes are permuted by adjacent transpositions, and the closed form
  of the box list after a general move (`interchange_move_spec`).  An adjacent move can always be taken back: the opposite request succeeds under both preferences
  (`interchange_adjacent_reversible`) and under one of them restores the receiver field for field
  (`interchange_adjacent_undo`).  (After a longer move a single preference may route a box without
  inputs/outputs differently and be refused half way: no theorem, the check only counts it.)
  Interchange is blind to WHAT sits in `boxes` (`interchange_box_blind`, Proofs/InterchangeBlind.lean):
  it commutes with every relabelling of the boxes that keeps their domains and codomains, for all
  diagrams (well-formed or not), all `(i, j)`, both preferences — so a composite diagram used as a
  box, a formal sum, a bubble, a box of another class, a box with any name or data is moved or
  refused exactly as the plain box of the same type, with the same error class
  (`interchange_refusal_box_blind`).  (The TEXT of the error is outside the model: oracle only.)
-/
import Proofs.Move
import Proofs.Foliate
import Proofs.InterchangeBack
import Proofs.InterchangeBlind

namespace DV.C05
open DV

/-- Same domain, codomain, well-typed — for all `(i, j)` and both preferences. -/
theorem interchange_typing (d d' : Diagram) (i j : Int) (left : Bool) (hd : d.WF)
    (h : d.interchange i j left = .ok d') : d'.WF ∧ d'.dom = d.dom ∧ d'.cod = d.cod :=
  Diagram.interchange_wf hd h

/-- An adjacent interchange is an instance of the textbook exchange relation: the two layers
    `(l, f, m ++ dom g ++ r); (l ++ cod f ++ m, g, r)` become
    `(l ++ dom f ++ m, g, r); (l, f, m ++ cod g ++ r)` or conversely, all other layers untouched. -/
theorem interchange_adjacent_refines (d d' : Diagram) (i : Nat) (left : Bool) (hd : d.WF)
    (h : d.interchangeAdj i left = .ok d') : Exch d d' :=
  Diagram.interchangeAdj_refines hd h

/-- The result denotes the same morphism under every monoidal functor. -/
theorem interchange_sound {O M : Type} (C : SMC O M) (F : MFunctor C)
    (d d' : Diagram) (i j : Int) (left : Bool) (hd : d.WF)
    (h : d.interchange i j left = .ok d') : F.eval d' = F.eval d :=
  Diagram.interchange_sound F hd h

/-- Same boxes (as a multiset), for all `(i, j)`. -/
theorem interchange_boxes_perm (d d' : Diagram) (i j : Int) (left : Bool) (hd : d.WF)
    (h : d.interchange i j left = .ok d') : d'.boxes.Perm d.boxes :=
  Diagram.interchange_perm hd h

/-- One adjacent step transposes exactly boxes `i` and `i+1`; every other box keeps its position. -/
theorem interchange_adjacent_boxes (d d' : Diagram) (i : Nat) (left : Bool) (hd : d.WF)
    (h : d.interchangeAdj i left = .ok d') :
    ∃ b0 b1, d.boxes[i]? = some b0 ∧ d.boxes[i+1]? = some b1 ∧
      d'.boxes = d.boxes.take i ++ [b1, b0] ++ d.boxes.drop (i + 2) :=
  Diagram.interchangeAdj_boxes hd h

/-- Refusal is exact for an adjacent move: it succeeds iff the two boxes are free (`freeAt`: one
    lies entirely beside the other), and otherwise raises an interchanger error. -/
theorem interchange_adjacent_refusal (d : Diagram) (i : Nat) (left : Bool) (hd : d.WF)
    (hi : i + 1 < d.boxes.length) :
    ((∃ d', d.interchangeAdj i left = .ok d') ↔ freeAt d i) ∧
    (¬ freeAt d i → d.interchangeAdj i left = .error .interchanger) :=
  Diagram.interchangeAdj_ok_iff hd hi

/-- An adjacent move can be taken back: the opposite request on the result is accepted under both
    preferences (the neighbour is still unwired to the box that moved). -/
theorem interchange_adjacent_reversible (d d' : Diagram) (i : Nat) (left left' : Bool) (hd : d.WF)
    (h : d.interchangeAdj i left = .ok d') : ∃ d'', d'.interchangeAdj i left' = .ok d'' :=
  Diagram.interchangeAdj_back_ok hd h left'

/-- ... and under one of the two preferences it gives back the receiver exactly (all five fields,
    i.e. the offset bookkeeping of the move is undone). -/
theorem interchange_adjacent_undo (d d' : Diagram) (i : Nat) (left : Bool) (hd : d.WF)
    (h : d.interchangeAdj i left = .ok d') : ∃ left', d'.interchangeAdj i left' = .ok d :=
  Diagram.interchangeAdj_undo hd h

/-- For in-range `(i, j)` there are two outcomes only: a diagram or an interchanger error
    (the run-time composition checks on layers never raise an axiom error). -/
theorem interchange_outcomes (d : Diagram) (i j : Int) (left : Bool) (hd : d.WF)
    (hr : (0 ≤ i ∧ i < (d.boxes.length : Int)) ∧ (0 ≤ j ∧ j < (d.boxes.length : Int))) :
    (∃ d', d.interchange i j left = .ok d') ∨ d.interchange i j left = .error .interchanger :=
  Diagram.interchange_cases hd hr

/-- Out-of-range indices are refused with an index error, and only they. -/
theorem interchange_index_refusal (d : Diagram) (i j : Int) (left : Bool) (hd : d.WF) :
    d.interchange i j left = .error .index ↔
      ¬ (0 ≤ i ∧ i < (d.boxes.length : Int)) ∨ ¬ (0 ≤ j ∧ j < (d.boxes.length : Int)) :=
  Diagram.interchange_index_iff hd

/-- Closed form for ALL `(i, j)`: box `i` lands at position `j`, every other box keeps its
    relative order (`A ++ [a] ++ M ++ R ↦ A ++ M ++ [a] ++ R` when moving down, and the mirror
    image when moving up). -/
theorem interchange_move_spec (d d' : Diagram) (i j : Int) (left : Bool) (hd : d.WF)
    (h : d.interchange i j left = .ok d') :
    (i = j ∧ d' = d) ∨
    (i < j ∧ ∃ A M R a, d.boxes = A ++ a :: (M ++ R) ∧ (A.length : Int) = i ∧
        (M.length : Int) = j - i ∧ d'.boxes = A ++ M ++ a :: R) ∨
    (j < i ∧ ∃ L M R a, d.boxes = L ++ M ++ a :: R ∧ (L.length : Int) = j ∧
        (M.length : Int) = i - j ∧ d'.boxes = L ++ a :: (M ++ R)) :=
  Diagram.interchange_boxes hd h

/-- All sequences of interchanges: anything reached by interchanges (`IReach`) is well-typed, has
    the same type and boxes, and denotes the same morphism under every monoidal functor. -/
theorem interchange_sequences {O M : Type} (C : SMC O M) (F : MFunctor C) (d d' : Diagram)
    (hd : d.WF) (h : IReach d d') :
    (d'.WF ∧ d'.dom = d.dom ∧ d'.cod = d.cod ∧ d'.boxes.Perm d.boxes) ∧ F.eval d' = F.eval d :=
  ⟨h.wf hd, h.sound F hd⟩

/-- `foliate` only ever moves boxes by interchanges: every yielded step denotes the input. -/
theorem foliate_sound {O M : Type} (C : SMC O M) (F : MFunctor C) (d : Diagram)
    (steps slices : List Diagram) (hd : d.WF) (h : d.foliate = .ok (steps, slices)) :
    ∀ s ∈ steps, F.eval s = F.eval d :=
  fun s hs => ((Diagram.foliate_reach hd h).1 s hs).sound F hd

/-- Interchange commutes with every relabelling `φ` of the boxes that keeps their domain and
    codomain — whatever else `φ` does to kind, name, dagger flag and data; for ALL diagrams (no
    well-formedness hypothesis), all `(i, j)` and both preferences. -/
theorem interchange_box_blind (φ : Box → Box) (hφ : TypePreserving φ) (d : Diagram) (i j : Int)
    (left : Bool) :
    (d.mapBox φ).interchange i j left = mapOk (Diagram.mapBox φ) (d.interchange i j left) :=
  Diagram.mapBox_interchange hφ d i j left

/-- ... in particular the refusal and its class (interchanger / index) do not depend on what the
    boxes are. -/
theorem interchange_refusal_box_blind (φ : Box → Box) (hφ : TypePreserving φ) (d : Diagram)
    (i j : Int) (left : Bool) (e : Err) :
    (d.mapBox φ).interchange i j left = .error e ↔ d.interchange i j left = .error e := by
  rw [Diagram.mapBox_interchange hφ]
  cases d.interchange i j left <;> simp

/-! Non-vacuity -/
private def x : Ob := ⟨"x", 0⟩
private def y : Ob := ⟨"y", 0⟩
private def f : Box := { name := "f", dom := [x], cod := [y] }
private def g : Box := { name := "g", dom := [x], cod := [y, y] }
private def okWith (r : Except Err Diagram) (p : Diagram → Bool) : Bool :=
  match r with | .error _ => false | .ok d => p d
private def isErr (r : Except Err Diagram) (e : Err) : Bool :=
  match r with | .error e' => e' == e | .ok _ => false
private def h : Box := { name := "h", dom := [y, y], cod := [] }

-- f ⊗ g : interchange(0, 1) gives g at offset 1 first, then f at 0
example : okWith ((Expr.mk [x, x] [y, y, y] [f, g] [0, 1]).interchange 0 1 false).eval
    (fun d => d.boxes == [g, f] && d.offsets == [1, 0]) = true := by decide +kernel
-- connected boxes are refused
example : isErr ((Expr.mk [x] [] [g, h] [0, 0]).interchange 0 1 false).eval .interchanger = true := by
  decide +kernel
example : isErr ((Expr.mk [x] [] [g, h] [0, 0]).interchange 0 2 false).eval .index = true := by decide +kernel
-- moving back: a state `u` right of the wire an effect `e` consumes; after the exchange `e` (no
-- output) and `u` (no input) sit at the same offset, so the way back is ambiguous: the left
-- preference restores the receiver exactly, the default preference is accepted as well but puts
-- `u` on the other side (offsets [0, 1] instead of [1, 0])
private def u : Box := { name := "u", dom := [], cod := [y] }
private def e : Box := { name := "e", dom := [x], cod := [] }
example : okWith ((Expr.mk [x] [y] [u, e] [1, 0]).interchange 0 1 false).eval
    (fun d => d.boxes == [e, u] && d.offsets == [0, 0]) = true := by decide +kernel
example : (((Expr.mk [x] [y] [u, e] [1, 0]).interchange 0 1 false).interchange 1 0 true).eval
    = (Expr.mk [x] [y] [u, e] [1, 0]).eval := by decide +kernel
example : okWith (((Expr.mk [x] [y] [u, e] [1, 0]).interchange 0 1 false).interchange 1 0 false).eval
    (fun d => d.boxes == [u, e] && d.offsets == [0, 1]) = true := by decide +kernel

-- box-blindness: every box replaced by an opaque token of another kind with other name and data
-- (what the check sends for a composite diagram sitting in `boxes`) is refused / moved alike
private def asToken (b : Box) : Box := { b with kind := .swap, name := "~D:" ++ b.name, dagger := true, data := "?" }
example : TypePreserving asToken := fun _ => ⟨rfl, rfl⟩
example : ((Diagram.mk [x] [] [g, h] [0, 0] ⟨[x], [], [⟨[], g, []⟩, ⟨[], h, []⟩]⟩).mapBox asToken).interchange 0 1 true
    = .error .interchanger := by decide +kernel
example : okWith (((Diagram.mk [x, x] [y, y, y] [f, g] [0, 1]
      ⟨[x, x], [y, y, y], [⟨[], f, [x]⟩, ⟨[y], g, []⟩]⟩).mapBox asToken).interchange 0 1 false)
    (fun d => d.boxes == [asToken g, asToken f] && d.offsets == [1, 0]) = true := by decide +kernel

end DV.C05
