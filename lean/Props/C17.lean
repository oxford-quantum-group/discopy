/-
  Props/C17.lean — C17 "Export to and import from pyzx graphs preserve the ZX diagram".
  Property theorems only; model in Model/Pyzx.lean, lemmas in Proofs/Pyzx.lean and
  Proofs/PyzxCod.lean.

  PROVED (for all well-typed ZX diagrams over Z/X spiders of any arity and phase, H, SWAP, scalars):
  * `to_pyzx_total`, `to_pyzx_shape`: `to_pyzx` never raises; as many inputs/outputs as wires of
    dom/cod; vertices = input boundaries, then one vertex per spider in box order with its colour,
    doubled phase (mod 2), qubit = offset and row = index + 1, then output boundaries; the edge
    requests are, per spider input leg and per output, producer-of-that-wire → consumer with type
    Hadamard iff an odd number of H boxes lies on the wire (`specEdges`, written with the
    independent upward trace `producer`); every vertex is touched by exactly as many edge requests
    as it has legs; scalar = product of the scalar boxes.
  * `to_pyzx_simple_neighbours`: under the property's simple-graph hypothesis the neighbours of
    every vertex are distinct, so the request list is the adjacency structure and deg = legs there.
  * `scan_tracks_wires`: after any well-typed box list the scan entry at position `k` is the
    (producer, H-parity) of wire `k` found by tracing the wire upwards.
  The theorems about `from_pyzx` hold for every value of the model's `Fix` switches: `Fix.all` is
  the code in the tree (/repo carries both repairs: zx.py:162, 169, 214), `Fix.none` the code as it
  was found, before the repairs of findings F19 and F20.
  * `move_spec` / `swaps_move_wire`: a left move's SWAP boxes carry wire `source` to `target` and
    shift the wires in between; before F19 the bookkeeping agreed except for the label of the
    moved entry (it wrote the closure variable `node`); with the repaired label it agrees exactly
    (`move_spec_fixed`).
  * `output_search_fixed_moves_left`: with the repaired output search only left moves occur.
  * `from_pyzx_typed`: whatever `from_pyzx` returns (any graph, before or after the repairs) is a
    well-typed diagram on `len(inputs)` wires; `roundtrip_typed`.
  * `from_pyzx_spiders`, `roundtrip_spiders`: one spider per inner vertex in vertex order with its
    colour and half phase; the round trip returns the spiders of the diagram with phases mod 1.
  * `from_pyzx_refuses`: undeclared or shared boundary vertices give a ValueError before any work.
  * `from_pyzx_cod`, `to_pyzx_layered`, `roundtrip_cod`: the number of outputs of an imported
    diagram is counted from the graph (any graph); exported graphs are layered; hence the round
    trip returns a diagram with the inputs and outputs of the exported one.
  DECIDED WITNESSES of the two defects `from_pyzx` had before their repair (findings F19, F20;
  `Fix.none`): `roundtrip_drops_hadamard`, `roundtrip_misplaces_hadamard`,
  `roundtrip_permutes_outputs`, `move_right_off_by_one`; each with the result of the repaired code
  (`Fix.all`) next to it.
  NOT PROVED (checked by the oracle on every run):
  * the MEANING clauses (tensorfy of the exported graph = matrix of the diagram; the repaired
    import denotes the graph): pyzx's tensor semantics is outside the model, and so is a matrix
    semantics of ZX diagrams; they rest on the oracle (pyzx.tensorfy vs an independent evaluator).
-/
import Proofs.Pyzx
import Proofs.PyzxCod

namespace DV.C17
open DV DV.Pyzx

/-- `to_pyzx` never raises on a well-typed diagram (no `IndexError` from the scan). -/
theorem to_pyzx_total (d : ZDiagram) (h : d.WF) : ∃ g, toPyzx d = .ok g :=
  ⟨specGraph d, toPyzx_spec d h⟩

/-- Shape of the exported graph, in this order: number of inputs and of outputs; the input and the
    output vertex ids; the vertices (input boundaries, one vertex per spider, output boundaries);
    the edge requests (one per spider input leg, then one per output, each from the producer of
    the wire); every vertex is touched by as many edge requests as it has legs; the scalar. -/
theorem to_pyzx_shape (d : ZDiagram) (h : d.WF) (g : Graph) (hg : toPyzx d = .ok g) :
    g.inputs.length = d.dom ∧ g.outputs.length = d.cod ∧
    g.inputs = List.range d.dom ∧
    g.outputs = (List.range d.cod).map (d.dom + nSpiders d.boxes + ·) ∧
    g.verts = (List.range d.dom).map (fun (i : Nat) => (⟨.boundary, ⟨0, 1⟩, (i : Int), 0⟩ : Vertex))
      ++ specVerts 0 d.boxes
      ++ (List.range d.cod).map
          (fun (i : Nat) => (⟨.boundary, ⟨0, 1⟩, (i : Int), (d.boxes.length : Int) + 1⟩ : Vertex)) ∧
    g.edges = specEdges d.dom [] d.boxes ++ (List.range d.cod).map
      (fun i => mkEdge (producerD d.dom d.boxes.reverse i) (d.dom + nSpiders d.boxes + i)) ∧
    (∀ v, g.deg v = vertexLegs d v) ∧
    g.scalar = specScalar Gauss.one d.boxes := by
  rw [toPyzx_spec d h] at hg
  cases hg
  exact ⟨by simp [specGraph], by simp [specGraph], rfl, rfl, rfl, rfl, toPyzx_degree d h, rfl⟩

/-- Simple-graph hypothesis ⇒ the neighbours of every vertex are pairwise distinct. -/
theorem to_pyzx_simple_neighbours (g : Graph) (h : g.Simple) (v : Nat) : (g.nbrs v).Nodup :=
  nbrs_nodup_of_simple g.edges h v

/-- The scan entry at position `k` is the producer of wire `k` (with the parity of the H boxes). -/
theorem scan_tracks_wires (d : ZDiagram) (h : d.WF) (st : ExpState) (hst : expRun d = .ok st) :
    st.scan.length = d.cod ∧ ∀ k, st.scan[k]? = producer d.dom d.boxes.reverse k := by
  obtain ⟨st', h1, R⟩ := expRun_spec d h
  cases h1.symm.trans hst
  exact ⟨R.inv.len, R.inv.scan⟩

/-- The SWAP boxes of a left move carry wire `s` to position `t`, shift the wires in `[t, s)` one
    place to the right and leave the others alone. -/
theorem swaps_move_wire {α} (t s : Nat) (l : List α) (h1 : t ≤ s) (h2 : s < l.length) (k : Nat) :
    (applySwaps (swapsLeft s t) l)[k]? =
      if k < t then l[k]? else if k = t then l[s]? else if k ≤ s then l[k - 1]? else l[k]? := by
  rw [applySwaps_swapsLeft t s l h1 h2, getElem?_rotate l _ s t h1 h2, List.getElem?_eq_getElem h2]

/-- `move` (zx.py:157-172) for `target < source`: `swaps` has the width of the scan, consists of
    SWAPs at offsets `source-1 … target`, and the new scan is the action of those swaps on the old
    one — except at `target`, where the code before the repair of F19 (`fix.moveLabel = false`)
    writes the closure variable `node`. -/
theorem move_spec (fix : Fix) (node : Nat) (scan : List Nat) (source target : Nat)
    (hlt : target < source) (h2 : source < scan.length) :
    (move fix node scan source target).2.2 = scan.length ∧
    (move fix node scan source target).2.1 = swapsLeft source target ∧
    ∀ k, (move fix node scan source target).1[k]? =
      if k = target then some (if fix.moveLabel then scan.getD source node else node)
      else (applySwaps (swapsLeft source target) scan)[k]? := by
  refine ⟨by simp only [move, hlt, if_true]; omega, by simp only [move, hlt, if_true], fun k => ?_⟩
  have ht : target ≤ source := by omega
  rw [applySwaps_swapsLeft target source scan ht h2]
  simp only [move, hlt, if_true]
  rw [getElem?_rotate _ _ _ _ ht h2, getElem?_rotate _ _ _ _ ht h2]
  by_cases c1 : k < target
  · rw [if_pos c1, if_neg (by omega), if_pos c1]
  · by_cases c2 : k = target
    · rw [if_neg c1, if_pos c2, if_pos c2]
    · rw [if_neg c1, if_neg c2, if_neg c2, if_neg c1, if_neg c2]

theorem move_spec_same (fix : Fix) (node : Nat) (scan : List Nat) (p : Nat) :
    move fix node scan p p = (scan, [], scan.length) := by simp [move]

/-- With the proposed repair the bookkeeping is exactly what the swaps do. -/
theorem move_spec_fixed (node : Nat) (scan : List Nat) (source target : Nat)
    (hlt : target < source) (h2 : source < scan.length) :
    (move Fix.all node scan source target).1 = applySwaps (swapsLeft source target) scan :=
  move_left_fixed Fix.all rfl node scan source target hlt h2

/-- With the repaired search (`scan.index(node, target)`) the output loop finds a wire labelled
    `node` at or after `target`: it never needs the right-move branch of `move`. -/
theorem output_search_fixed_moves_left (scan : List Nat) (node target s : Nat)
    (h : outputSource Fix.all scan node target = some s) : target ≤ s ∧ scan[s]? = some node :=
  outputSource_ge Fix.all rfl scan node target s h

/-- Whatever `from_pyzx` returns is well-typed, on `len(graph.inputs)` wires (every graph; every
    combination of the repairs, switched on or off). -/
theorem from_pyzx_typed (fix : Fix) (g : Graph) (d : ZDiagram) (h : fromPyzxWith fix g = .ok d) :
    d.WF ∧ d.dom = g.inputs.length := by
  obtain ⟨a, rfl, _, e⟩ := fromPyzxWith_ok h
  exact ⟨e.wf rfl, rfl⟩

/-- Round trip: a well-typed diagram with the same number of inputs. -/
theorem roundtrip_typed (fix : Fix) (d d' : ZDiagram) (h : d.WF) (g : Graph)
    (hg : toPyzx d = .ok g) (hrt : fromPyzxWith fix g = .ok d') : d'.WF ∧ d'.dom = d.dom := by
  obtain ⟨hw, hd⟩ := from_pyzx_typed fix g d' hrt
  exact ⟨hw, by rw [hd, (to_pyzx_shape d h g hg).1]⟩

/-- One spider per inner vertex, in vertex order, with its colour and half its pyzx phase. -/
theorem from_pyzx_spiders (fix : Fix) (g : Graph) (d : ZDiagram) (h : fromPyzxWith fix g = .ok d) :
    spidersKP d.boxes = (innerNodes g).map (vertexKP g) := fromPyzxWith_spiders fix g d h

/-- Round trip: the spiders of the diagram come back in order with their colours and their phases
    reduced mod 1 — before the repairs as well: the defects F19, F20 concern the wiring only. -/
theorem roundtrip_spiders (fix : Fix) (d d' : ZDiagram) (h : d.WF) (g : Graph)
    (hg : toPyzx d = .ok g) (hrt : fromPyzxWith fix g = .ok d') :
    spidersKP d'.boxes =
      (d.boxes.filter ZBox.isSpider).map (fun b => some (b.kind, b.phase.export.import)) := by
  rw [toPyzx_spec d h] at hg
  cases hg
  exact Pyzx.roundtrip_spiders fix d d' hrt

/-- Refusal: a boundary vertex missing from inputs + outputs, or a vertex in both lists, gives a
    `ValueError` (zx.py:184-192), whatever the rest of the graph. -/
theorem from_pyzx_refuses (fix : Fix) (g : Graph)
    (h : (∃ v, ∃ _ : v < g.verts.length,
            (g.verts[v]).ty = .boundary ∧ v ∉ g.inputs ∧ v ∉ g.outputs) ∨
         (∃ v, v ∈ g.inputs ∧ v ∈ g.outputs)) :
    fromPyzxWith fix g = .error .value := by
  apply fromPyzxWith_refuses
  rcases h with h | h
  · exact Or.inl ((missingBoundary_iff g).2 h)
  · exact Or.inr ((duplicateBoundary_iff g).2 h)

/-- `from_pyzx` on ANY graph (before and after the repairs alike): the diagram's outputs are
    counted from the graph — the inputs, plus the later neighbours of every inner vertex (zx.py:199-200), minus its
    earlier neighbours (zx.py:196-197) — and there are at least as many as declared outputs.  The
    code never compares `len(scan)` with the diagram's codomain; `cod = len(scan)` is an invariant
    of every path that does not raise (`Acc.Extends`, `Proofs/Pyzx.lean`). -/
theorem from_pyzx_cod (fix : Fix) (g : Graph) (d : ZDiagram) (h : fromPyzxWith fix g = .ok d) :
    d.cod + sumLen (nodeInputs g) (innerNodes g) =
      g.inputs.length + sumLen (nodeOutputs g) (innerNodes g) ∧
    g.outputs.length ≤ d.cod := by
  obtain ⟨a, rfl, ho, e⟩ := fromPyzxWith_ok h
  exact ⟨e.cod, ho⟩

/-- The graphs `to_pyzx` returns are layered: inputs, then the spiders, then the outputs; every
    edge runs from a non-output to a LATER non-input; every boundary vertex has one neighbour. -/
theorem to_pyzx_layered (d : ZDiagram) (h : d.WF) (g : Graph) (hg : toPyzx d = .ok g) :
    Layered g d.dom (nSpiders d.boxes) d.cod := by
  rw [toPyzx_spec d h] at hg
  cases hg
  exact specGraph_layered d h

/-- **Round trip: the imported diagram has as many inputs and outputs as the diagram that was
    exported** (double counting of the edges of a layered graph: each is an output of its earlier
    end and an input of its later end) — with the repairs switched on or off, without the
    simple-graph hypothesis. -/
theorem roundtrip_cod (fix : Fix) (d d' : ZDiagram) (g : Graph) (h : d.WF)
    (hg : toPyzx d = .ok g) (hrt : fromPyzxWith fix g = .ok d') :
    d'.cod = d.cod ∧ d'.dom = d.dom := by
  rw [toPyzx_spec d h] at hg
  cases hg
  exact Pyzx.roundtrip_cod fix d d' h hrt

/-! ### Witnesses of the defects of `from_pyzx` before their repair (`fromPyzx` is `Fix.none`),
decided on the model; the tree now behaves like `Fix.all` -/

private def sp (k : ZKind) (i o : Nat) (off : Nat) (num : Int := 0) (den : Nat := 1) : ZBox :=
  { kind := k, nIn := i, nOut := o, phase := ⟨num, den⟩, off := off }

/-- `Id(1) @ SWAP >> Id(1) @ H @ Id(1) >> X(2, 0) @ Id(1)` -/
private def w1 : ZDiagram := ⟨3, 1, [swapBox 1, hBox 1, sp .X 2 0 0]⟩

/-- Finding F19: the H on the moved input is gone after the round trip … -/
theorem roundtrip_drops_hadamard :
    (toPyzx w1 >>= fromPyzx) = .ok ⟨3, 1, [swapBox 1, sp .X 2 0 0]⟩ := by decide +kernel

/-- … and stays with the repaired label. -/
theorem roundtrip_keeps_hadamard_fixed : (toPyzx w1 >>= fromPyzxWith Fix.all) = .ok w1 := by
  decide +kernel

/-- `Z(1, 2) >> H @ Id(1)` -/
private def w2 : ZDiagram := ⟨1, 2, [sp .Z 1 2 0, hBox 0]⟩

/-- Finding F20: the output loop moves the placed wire again — the H ends on the other output. -/
theorem roundtrip_misplaces_hadamard :
    (toPyzx w2 >>= fromPyzx) = .ok ⟨1, 2, [sp .Z 1 2 0, hBox 0, swapBox 0]⟩ := by decide +kernel

theorem roundtrip_places_hadamard_fixed : (toPyzx w2 >>= fromPyzxWith Fix.all) = .ok w2 := by
  decide +kernel

/-- `X(0, 1) @ Z(0, 2) >> SWAP @ Id(1) >> Id(1) @ SWAP`: outputs Z, Z, X -/
private def w3 : ZDiagram := ⟨0, 3, [sp .X 0 1 0, sp .Z 0 2 1, swapBox 0, swapBox 1]⟩

/-- Finding F20: three swaps whose composite is the identity up to the two Z legs — the outputs
    come back as X, Z, Z. -/
theorem roundtrip_permutes_outputs :
    (toPyzx w3 >>= fromPyzx)
      = .ok ⟨0, 3, [sp .X 0 1 0, sp .Z 0 2 1, swapBox 0, swapBox 0, swapBox 1]⟩ := by decide +kernel

theorem roundtrip_orders_outputs_fixed : (toPyzx w3 >>= fromPyzxWith Fix.all) = .ok w3 := by
  decide +kernel

/-- The `target > source` branch of `move` before the repair of F19 puts the entry one place too
    far left (the swaps put wire 0 at position 2); the repaired branch agrees with the swaps. -/
theorem move_right_off_by_one :
    (move Fix.none 7 [7, 8, 9] 0 2).1 = [8, 7, 9] ∧
    applySwaps (move Fix.none 7 [7, 8, 9] 0 2).2.1 [7, 8, 9] = [8, 9, 7] ∧
    (move Fix.all 7 [7, 8, 9] 0 2).1 = [8, 9, 7] := by decide +kernel

/-! ### Non-vacuity -/

/-- The docstring example: `Z(1,2,.25) @ Z(1,2,.75) >> Id(1) @ SWAP @ Id(1) >> X(2,1,.5) @ X(2,1,.5)`. -/
private def bialgebra : ZDiagram :=
  ⟨2, 2, [sp .Z 1 2 0 1 4, sp .Z 1 2 2 3 4, swapBox 1, sp .X 2 1 0 1 2, sp .X 2 1 1 1 2]⟩

example : bialgebra.WF := by decide +kernel
-- 8 vertices, inputs [0, 1], outputs [6, 7], phases doubled, the adjacency of zx.py:81-89
example : toPyzx bialgebra = .ok
    { verts := [⟨.boundary, ⟨0, 1⟩, 0, 0⟩, ⟨.boundary, ⟨0, 1⟩, 1, 0⟩,
                ⟨.Z, ⟨1, 2⟩, 0, 1⟩, ⟨.Z, ⟨3, 2⟩, 2, 2⟩, ⟨.X, ⟨1, 1⟩, 0, 4⟩, ⟨.X, ⟨1, 1⟩, 1, 5⟩,
                ⟨.boundary, ⟨0, 1⟩, 0, 6⟩, ⟨.boundary, ⟨0, 1⟩, 1, 6⟩]
      edges := [⟨0, 2, .simple⟩, ⟨1, 3, .simple⟩, ⟨2, 4, .simple⟩, ⟨3, 4, .simple⟩,
                ⟨2, 5, .simple⟩, ⟨3, 5, .simple⟩, ⟨4, 6, .simple⟩, ⟨5, 7, .simple⟩]
      inputs := [0, 1]
      outputs := [6, 7]
      scalar := ⟨1, 0, 0⟩ } := by decide +kernel
example : (specGraph bialgebra).Simple := by decide +kernel
example : (toPyzx bialgebra >>= fromPyzx) = .ok bialgebra := by decide +kernel       -- zx.py:137-140
-- Hadamard parity: two H boxes on a wire cancel, one gives a Hadamard edge
example : (toPyzx ⟨1, 1, [hBox 0, hBox 0, sp .Z 1 1 0]⟩).toOption.map (·.edges.map (·.ty))
    = some [.simple, .simple] := by decide +kernel
example : (toPyzx ⟨1, 1, [hBox 0, sp .Z 1 1 0, hBox 0]⟩).toOption.map (·.edges.map (·.ty))
    = some [.hadamard, .hadamard] := by decide +kernel
-- the upward trace through a swap and an H box
example : producer 2 [hBox 0, swapBox 0] 0 = some (1, true) := by decide +kernel
-- a parallel edge leaves the property's domain
example : ¬ (specGraph ⟨1, 1, [sp .Z 1 2 0, sp .X 2 1 0]⟩).Simple := by decide +kernel
-- phases: -1/8 of a turn is exported as 7/4 half turns and comes back as 7/8
example : (Phase.mk (-1) 8).export = ⟨7, 4⟩ ∧ (Phase.mk (-1) 8).export.import = ⟨7, 8⟩ := by
  decide +kernel
-- refusal
private def twoBoundaries : List Vertex := [⟨.boundary, ⟨0, 1⟩, 0, 0⟩, ⟨.boundary, ⟨0, 1⟩, 0, 1⟩]
example : fromPyzx ⟨twoBoundaries, [⟨0, 1, .simple⟩], [0], [], Gauss.one⟩ = .error .value := by
  decide +kernel
example : fromPyzx ⟨twoBoundaries, [⟨0, 1, .simple⟩], [0, 1], [1], Gauss.one⟩ = .error .value := by
  decide +kernel
example : fromPyzx ⟨twoBoundaries, [⟨0, 1, .hadamard⟩], [0], [1], Gauss.one⟩ = .ok ⟨1, 1, [hBox 0]⟩ := by
  decide +kernel
-- a moved wire (move_spec has instances)
example : (move Fix.none 5 [1, 2, 3] 2 0).1 = [5, 1, 2] ∧ (move Fix.all 5 [1, 2, 3] 2 0).1 = [3, 1, 2]
    := by decide +kernel

end DV.C17
