/-
  Props/C08.lean — tensors form a dagger compact-closed category of matrices.

  Statement (properties.jsonl C08): viewing a tensor as the matrix from its flattened domain to
  its flattened codomain, composition is the matrix product, tensor is the Kronecker product,
  dagger is the conjugate transpose, identities are identity matrices, swaps are the
  permutation matrices exchanging the two blocks of wires, cups and caps satisfy both snake
  equations; consequently interchange and naturality of swaps hold as equalities of tensors —
  for every choice of dimensions, including empty and multi-wire types.

  All theorems are about Model/Tensor.lean (`Tensor.then/tensor/dagger/id/swap/cups/caps`,
  transcribing tensor.py:177-237 with numpy's `tensordot`/`moveaxis`), over ANY commutative
  (star) semiring `R`, ALL dimension tuples `List Nat` (including `[]` = `Dim(1)`, repeated and
  unequal dims) and all well-formed arrays (`Tensor.WF`: what `Tensor.__init__` establishes).
  `DV.GaussInt`, the type the compiled model runs at in the correspondence check, is such a
  ring (Proofs/GaussInt.lean), built on the model's own `+ * 0 1 conj`.

  PROVED (every clause of the property, for all dimension tuples):
  both forms of each clause — on multi-indices (`*_entry`) and on flattened matrices
  (`*_matrix`, `tensor_kron`) — for then, tensor, dagger, id, swap; well-formedness of all
  results; refusal of `>>` exactly on a type mismatch; the laws as EQUALITIES of tensors
  (`interchange_law`, `swap_natural`, `dagger_then`, `dagger_tensor`, `dagger_dagger`, unit
  laws, associativity of `>>` and `@`); `Tensor.cups(l, r)` is defined exactly for adjoint
  tuples and is the Kronecker delta `a = reversed(b)` (`cups_spec`: closed form of the nested
  loop of rigid.py:449-454); BOTH snake equations for cups/caps of every multi-wire type
  (`snake_multiwire`), and their single-wire instances (`snake_l_single`, `snake_r_single`).

  CALLING CONVENTIONS (Model/TensorNary.lean: the dispatch of tensor.py:177-205 through
  monoidal.py:384-434 and cat.py:305-318, 709-715): the n-ary forms `f.then(g₁, …, g_k)` and
  `f.tensor(g₁, …, g_k)` are, for every k ≥ 0, the iterated binary operations
  (`thenN_eq_foldl`, `tensorN_eq_foldl`), hence every clause above transfers to them
  (`tensorN_wf`, `tensorN_assoc`, `tensorN_kron3`: `f.tensor(g, h)` is the Kronecker product of
  the three matrices); the fallback for a `tensor.Sum` argument returns the sum of the binary
  results (`then_sum_fallback`, `tensor_sum_fallback`), a `monoidal.Sum` is refused
  (`monoidal_sum_refused`), and the all-zero terms that `sum(terms, unit)` drops do not change
  the value (`sum_drop_zero_entry`); `Tensor.map` is entrywise (`map_entry`).

  Nothing of the statement is left unproved for the model.  Outside the theorems: numpy itself
  (`tensordot`, `moveaxis`, `reshape`, `identity`, `conjugate` are modelled and validated by the
  `numpy-prims` correspondence stream), floating point (the theorems are over exact rings).
-/
import Proofs.TensorMatrix
import Proofs.TensorSnakeMulti
import Proofs.TensorNary
import Proofs.GaussInt

namespace DV.C08
open DV DV.Tensor

section semiring
variable {R : Type} [CommSemiring R]

/-! ### `>>` -/

/-- `>>` on tensors is refused exactly when the types differ (tensor.py:183-184). -/
theorem then_error_iff (f g : Tensor R) : f.then g = .error .axiom ↔ f.cod ≠ g.dom := by
  unfold Tensor.then; split <;> simp_all

theorem then_ok_iff (f g : Tensor R) : (∃ t, f.then g = .ok t) ↔ f.cod = g.dom := by
  unfold Tensor.then; split <;> simp_all

/-- Composition, on multi-indices: `(f ≫ g)[i, k] = Σ_j f[i, j] * g[j, k]`. -/
theorem then_entry (f g t : Tensor R) (hf : f.WF) (hg : g.WF) (h : f.then g = .ok t)
    {i k : List Nat} (hi : InRange f.dom i) (hk : InRange g.cod k) :
    t.entry (i ++ k) = sumOver f.cod (fun j => f.entry (i ++ j) * g.entry (j ++ k)) := by
  obtain ⟨hc, rfl⟩ := then_eq_ok h
  exact Tensor.then_entry f g hf hg hc hi hk

/-- **Composition is the matrix product** of the flattened matrices. -/
theorem then_matrix (f g t : Tensor R) (hf : f.WF) (hg : g.WF) (h : f.then g = .ok t)
    {r c : Nat} (hr : r < prod f.dom) (hc : c < prod g.cod) :
    t.mat r c = ((List.range (prod f.cod)).map (fun k => f.mat r k * g.mat k c)).sum := by
  obtain ⟨hcd, rfl⟩ := then_eq_ok h
  exact Tensor.then_matrix f g hf hg hcd hr hc

theorem then_wf (f g t : Tensor R) (hf : f.WF) (hg : g.WF) (h : f.then g = .ok t) :
    t.WF ∧ t.dom = f.dom ∧ t.cod = g.cod := by
  obtain ⟨hc, rfl⟩ := then_eq_ok h
  exact ⟨thenCore_wf f g hf hg hc, rfl, rfl⟩

/-! ### `@` -/

/-- Tensor, on multi-indices: the `moveaxis` target list of tensor.py:201-204 realises the
    block permutation `[A, B, C, D] ↦ [A, C, B, D]` for all four block lengths. -/
theorem tensor_entry (f g : Tensor R) (hf : f.WF) (hg : g.WF) {a b c d : List Nat}
    (ha : InRange f.dom a) (hb : InRange f.cod b) (hc : InRange g.dom c) (hd : InRange g.cod d) :
    (f.tensor g).entry ((a ++ c) ++ (b ++ d)) = f.entry (a ++ b) * g.entry (c ++ d) :=
  Tensor.tensor_entry f g hf hg ha hb hc hd

/-- **Tensor is the Kronecker product** of the flattened matrices. -/
theorem tensor_kron (f g : Tensor R) (hf : f.WF) (hg : g.WF) {r1 r2 c1 c2 : Nat}
    (h1 : r1 < prod f.dom) (h2 : r2 < prod g.dom) (h3 : c1 < prod f.cod) (h4 : c2 < prod g.cod) :
    (f.tensor g).mat (r1 * prod g.dom + r2) (c1 * prod g.cod + c2) = f.mat r1 c1 * g.mat r2 c2 :=
  Tensor.tensor_kron f g hf hg h1 h2 h3 h4

theorem tensor_wf (f g : Tensor R) (hf : f.WF) (hg : g.WF) :
    (f.tensor g).WF ∧ (f.tensor g).dom = f.dom ++ g.dom ∧ (f.tensor g).cod = f.cod ++ g.cod :=
  ⟨Tensor.tensor_wf f g hf hg, rfl, rfl⟩

/-! ### identities and swaps -/

theorem id_entry (d : List Nat) {i j : List Nat} (hi : InRange d i) (hj : InRange d j) :
    (Tensor.id (R := R) d).entry (i ++ j) = if i = j then 1 else 0 :=
  Tensor.id_entry d hi hj

/-- **Identities are identity matrices.** -/
theorem id_matrix (d : List Nat) {r c : Nat} (hr : r < prod d) (hc : c < prod d) :
    (Tensor.id (R := R) d).mat r c = if r = c then 1 else 0 :=
  Tensor.id_matrix d hr hc

theorem swap_entry (l r : List Nat) {i j j' i' : List Nat}
    (hi : InRange l i) (hj : InRange r j) (hj' : InRange r j') (hi' : InRange l i') :
    (Tensor.swap (R := R) l r).entry ((i ++ j) ++ (j' ++ i'))
      = if i = i' ∧ j = j' then 1 else 0 :=
  Tensor.swap_entry l r hi hj hj' hi'

/-- **Swaps are the permutation matrices exchanging the two blocks of wires**: row `(a, b)`
    (block `l` then block `r`) has its single 1 in column `(b, a)`. -/
theorem swap_matrix (l r : List Nat) {a b b' a' : Nat}
    (ha : a < prod l) (hb : b < prod r) (hb' : b' < prod r) (ha' : a' < prod l) :
    (Tensor.swap (R := R) l r).mat (a * prod r + b) (b' * prod l + a')
      = if a = a' ∧ b = b' then 1 else 0 :=
  Tensor.swap_matrix l r ha hb hb' ha'

theorem id_swap_wf (l r : List Nat) :
    (Tensor.id (R := R) l).WF ∧ (Tensor.swap (R := R) l r).WF :=
  ⟨Tensor.id_wf l, Tensor.swap_wf l r⟩

/-! ### laws, as equalities of tensors -/

theorem id_then (f : Tensor R) (hf : f.WF) : (Tensor.id f.dom).then f = .ok f := by
  rw [then_ok rfl, Tensor.id_then f hf]

theorem then_id (f : Tensor R) (hf : f.WF) : f.then (Tensor.id f.cod) = .ok f := by
  rw [then_ok rfl, Tensor.then_id f hf]

/-- Composition is associative. -/
theorem then_assoc (f g h x y : Tensor R) (hf : f.WF) (hg : g.WF) (hh : h.WF)
    (h1 : f.then g = .ok x) (h2 : g.then h = .ok y) : x.then h = f.then y := by
  obtain ⟨c1, rfl⟩ := then_eq_ok h1
  obtain ⟨c2, rfl⟩ := then_eq_ok h2
  rw [then_ok (by simpa using c2), then_ok (by simpa using c1),
    Tensor.then_assoc f g h hf hg hh c1 c2]

/-- Tensor is strictly associative and `id(a) ⊗ id(b) = id(a ⊗ b)`, `id(1)` is its unit. -/
theorem tensor_monoid (f g h : Tensor R) (hf : f.WF) (hg : g.WF) (hh : h.WF) (a b : List Nat) :
    (f.tensor g).tensor h = f.tensor (g.tensor h) ∧
    (Tensor.id (R := R) a).tensor (Tensor.id b) = Tensor.id (a ++ b) ∧
    (Tensor.id []).tensor f = f ∧ f.tensor (Tensor.id []) = f :=
  ⟨Tensor.tensor_assoc f g h hf hg hh, Tensor.id_tensor_id a b, Tensor.id_nil_tensor f hf,
    Tensor.tensor_id_nil f hf⟩

/-- **Interchange law**: `(f ≫ f') ⊗ (g ≫ g') = (f ⊗ g) ≫ (f' ⊗ g')`. -/
theorem interchange_law (f f' g g' x y : Tensor R) (hf : f.WF) (hf' : f'.WF) (hg : g.WF)
    (hg' : g'.WF) (h1 : f.then f' = .ok x) (h2 : g.then g' = .ok y) :
    (f.tensor g).then (f'.tensor g') = .ok (x.tensor y) := by
  obtain ⟨c1, rfl⟩ := then_eq_ok h1
  obtain ⟨c2, rfl⟩ := then_eq_ok h2
  rw [then_ok (by simp [c1, c2]), Tensor.interchange_law f f' g g' hf hf' hg hg' c1 c2]

/-- **Naturality of swaps**: `(f ⊗ g) ≫ swap(cod f, cod g) = swap(dom f, dom g) ≫ (g ⊗ f)`. -/
theorem swap_natural (f g : Tensor R) (hf : f.WF) (hg : g.WF) :
    (f.tensor g).then (Tensor.swap f.cod g.cod)
      = (Tensor.swap f.dom g.dom).then (g.tensor f) := by
  rw [then_ok rfl, then_ok rfl, Tensor.swap_natural f g hf hg]

end semiring

section star
variable {R : Type} [CommSemiring R] [StarRing R]

/-! ### dagger -/

theorem dagger_entry (f : Tensor R) (hf : f.WF) {i k : List Nat}
    (hi : InRange f.dom i) (hk : InRange f.cod k) :
    f.dagger.entry (k ++ i) = star (f.entry (i ++ k)) :=
  Tensor.dagger_entry f hf hi hk

/-- **Dagger is the conjugate transpose.** -/
theorem dagger_matrix (f : Tensor R) (hf : f.WF) {r c : Nat} (hr : r < prod f.dom)
    (hc : c < prod f.cod) : f.dagger.mat c r = star (f.mat r c) :=
  Tensor.dagger_matrix f hf hr hc

theorem dagger_wf (f : Tensor R) (hf : f.WF) :
    f.dagger.WF ∧ f.dagger.dom = f.cod ∧ f.dagger.cod = f.dom :=
  ⟨Tensor.dagger_wf f hf, rfl, rfl⟩

theorem dagger_dagger (f : Tensor R) (hf : f.WF) : f.dagger.dagger = f :=
  Tensor.dagger_dagger f hf

theorem dagger_then (f g t : Tensor R) (hf : f.WF) (hg : g.WF) (h : f.then g = .ok t) :
    g.dagger.then f.dagger = .ok t.dagger := by
  obtain ⟨c, rfl⟩ := then_eq_ok h
  rw [then_ok (by simp [c]), Tensor.dagger_then f g hf hg c]

theorem dagger_tensor (f g : Tensor R) (hf : f.WF) (hg : g.WF) :
    (f.tensor g).dagger = f.dagger.tensor g.dagger :=
  Tensor.dagger_tensor f g hf hg

theorem dagger_id (d : List Nat) : (Tensor.id (R := R) d).dagger = Tensor.id d :=
  Tensor.dagger_id d

/-! ### cups, caps, snake equations -/

/-- `Tensor.cups(Dim(n), Dim(n))` exists, is well-formed and is a Kronecker delta. -/
theorem cups_single_entry (n : Nat) {i j : List Nat} (hi : InRange [n] i) (hj : InRange [n] j) :
    ∃ cup : Tensor R, Tensor.cups [n] [n] = .ok cup ∧ cup.WF ∧ cup.dom = [n, n] ∧ cup.cod = [] ∧
      cup.entry ((i ++ j) ++ []) = if i = j then 1 else 0 :=
  ⟨_, cups_single n, cupFactory_wf [n], rfl, rfl, cupFactory_entry [n] hi hj⟩

/-- `Tensor.cups(l, r)` is defined exactly for adjoint dimension tuples (`r = l[::-1]`,
    tensor.py:79-84), and is then a well-formed tensor `l ⊗ r → 1` whose entries are the
    Kronecker delta `a = reversed(b)` (closed form of the nested loop of rigid.py:449-454). -/
theorem cups_spec (l r : List Nat) :
    (r ≠ l.reverse → Tensor.cups (R := R) l r = .error .axiom) ∧
    (r = l.reverse → ∃ t, Tensor.cups (R := R) l r = .ok t ∧ t.WF ∧ t.dom = l ++ r ∧ t.cod = [] ∧
      ∀ a b, InRange l a → InRange r b →
        t.entry ((a ++ b) ++ []) = if a = b.reverse then 1 else 0) := by
  refine ⟨(Tensor.cups_spec l r).2, ?_⟩
  rintro rfl
  exact Tensor.cups_entry l

/-- **Both snake equations for cups and caps of EVERY (multi-wire) dimension tuple**:
    `(id_l ⊗ caps(l.r, l)) ≫ (cups(l, l.r) ⊗ id_l) = id_l` and
    `(caps(l, l.r) ⊗ id_l) ≫ (id_l ⊗ cups(l.r, l)) = id_l`, with `l.r = l[::-1]`. -/
theorem snake_multiwire (l : List Nat) (cup cap cup' cap' : Tensor R)
    (h1 : Tensor.cups l l.reverse = .ok cup) (h2 : Tensor.caps l.reverse l = .ok cap)
    (h3 : Tensor.cups l.reverse l = .ok cup') (h4 : Tensor.caps l l.reverse = .ok cap') :
    ((Tensor.id l).tensor cap).then (cup.tensor (Tensor.id l)) = .ok (Tensor.id l) ∧
    (cap'.tensor (Tensor.id l)).then ((Tensor.id l).tensor cup') = .ok (Tensor.id l) := by
  obtain ⟨c1, c2, e1, e2, e3⟩ := Tensor.snake_multi (R := R) l
  obtain ⟨c3, c4, e4, e5, e6⟩ := Tensor.snake_multi' (R := R) l
  rw [h1] at e1; rw [h2] at e2; rw [h4] at e4; rw [h3] at e5
  cases e1; cases e2; cases e4; cases e5
  have hd1 := (Tensor.cups_ok h1)
  have hd3 := (Tensor.cups_ok h3)
  have hd2 := (Tensor.caps_ok h2)
  have hd4 := (Tensor.caps_ok h4)
  refine ⟨?_, ?_⟩
  · rw [then_ok (by simp [hd1.2.1, hd2.2.2, List.append_assoc]), e3]
  · rw [then_ok (by simp [hd3.2.1, hd4.2.2, List.append_assoc]), e6]

/-- First snake equation for a single wire of any dimension:
    `(caps ⊗ id) ≫ (id ⊗ cups) = id` (`snake_multiwire` at `[n]`, whose reverse is itself). -/
theorem snake_l_single (n : Nat) (cup cap : Tensor R)
    (h1 : Tensor.cups [n] [n] = .ok cup) (h2 : Tensor.caps [n] [n] = .ok cap) :
    (cap.tensor (Tensor.id [n])).then ((Tensor.id [n]).tensor cup) = .ok (Tensor.id [n]) :=
  (snake_multiwire [n] cup cap cup cap h1 h2 h1 h2).2

theorem snake_r_single (n : Nat) (cup cap : Tensor R)
    (h1 : Tensor.cups [n] [n] = .ok cup) (h2 : Tensor.caps [n] [n] = .ok cap) :
    ((Tensor.id [n]).tensor cap).then (cup.tensor (Tensor.id [n])) = .ok (Tensor.id [n]) :=
  (snake_multiwire [n] cup cap cup cap h1 h2 h1 h2).1

end star

/-! ### calling conventions: n-ary `then` / `tensor`, Sum fallback, map -/

section nary
variable {R : Type} [CommSemiring R] [DecidableEq R]

/-- **`f.then(g₁, …, g_k)` is the iterated binary composition** `((f >> g₁) >> …) >> g_k`
    (the first failing step raises; `f.then()` is `f`), for every number of arguments. -/
theorem thenN_eq_foldl (f : Tensor R) (gs : List (Tensor R)) :
    TVal.thenArgs (.t f) (gs.map .t)
      = TVal.liftT (gs.foldlM (fun acc g => acc.then g) f) :=
  TVal.thenArgs_tensors f gs

/-- **`f.tensor(g₁, …, g_k)` is the iterated binary tensor** `((f @ g₁) @ …) @ g_k`
    (`f.tensor()` is `f`), for every number of arguments. -/
theorem tensorN_eq_foldl (f : Tensor R) (gs : List (Tensor R)) :
    TVal.tensorArgs (.t f) (gs.map .t) = .ok (.t (gs.foldl Tensor.tensor f)) :=
  TVal.tensorArgs_tensors f gs

/-- The n-ary tensor of well-formed tensors is well-formed, of type
    `dom f ⊗ dom g₁ ⊗ … → cod f ⊗ cod g₁ ⊗ …`. -/
theorem tensorN_wf (f : Tensor R) (gs : List (Tensor R)) (hf : f.WF) (hgs : ∀ g ∈ gs, g.WF) :
    ∃ t, TVal.tensorArgs (.t f) (gs.map .t) = .ok (.t t) ∧ t.WF ∧
      t.dom = f.dom ++ (gs.map (·.dom)).flatten ∧ t.cod = f.cod ++ (gs.map (·.cod)).flatten :=
  ⟨_, tensorN_eq_foldl f gs, Tensor.foldl_tensor_wf f gs hf hgs⟩

/-- `f.tensor(g, g₁, …, g_k) = f @ g.tensor(g₁, …, g_k)`. -/
theorem tensorN_assoc (f g t : Tensor R) (gs : List (Tensor R)) (hf : f.WF) (hg : g.WF)
    (hgs : ∀ x ∈ gs, x.WF) (h : TVal.tensorArgs (.t g) (gs.map .t) = .ok (.t t)) :
    TVal.tensorArgs (.t f) ((g :: gs).map .t) = .ok (.t (f.tensor t)) := by
  rw [tensorN_eq_foldl] at h
  cases h
  rw [tensorN_eq_foldl, Tensor.foldl_tensor_assoc f g gs hf hg hgs]

/-- **`f.tensor(g, h)` is the Kronecker product of the three matrices.** -/
theorem tensorN_kron3 (f g h t : Tensor R) (hf : f.WF) (hg : g.WF) (hh : h.WF)
    (ht : TVal.tensorArgs (.t f) [.t g, .t h] = .ok (.t t))
    {r1 r2 r3 c1 c2 c3 : Nat}
    (h1 : r1 < prod f.dom) (h2 : r2 < prod g.dom) (h3 : r3 < prod h.dom)
    (k1 : c1 < prod f.cod) (k2 : c2 < prod g.cod) (k3 : c3 < prod h.cod) :
    t.mat ((r1 * prod g.dom + r2) * prod h.dom + r3) ((c1 * prod g.cod + c2) * prod h.cod + c3)
      = f.mat r1 c1 * g.mat r2 c2 * h.mat r3 c3 := by
  have := tensorN_eq_foldl f [g, h]
  simp only [List.map_cons, List.map_nil] at this
  rw [this] at ht
  cases ht
  exact Tensor.tensor3_kron f g h hf hg hh h1 h2 h3 k1 k2 k3

/-- The fallback of `Tensor.then` for a `tensor.Sum` of composable terms returns the
    `monoidal.Sum` of the binary composites (without those that are all zero). -/
theorem then_sum_fallback (f : Tensor R) (S : TSum R) (h : S.kind = .tensor)
    (hS : ∀ g ∈ S.terms, g.dom = f.cod) :
    TVal.then1 (.t f) (.s S) = .ok (.s ⟨.monoidal, f.dom, S.cod,
      (S.terms.map (fun g => Tensor.thenCore f g)).filter (fun t => !t.isZero)⟩) := by
  simp [TVal.then1, h, TSum.then, TSum.single, TSum.thenTerms_single f S.terms hS, TSum.collect]

theorem tensor_sum_fallback (f : Tensor R) (S : TSum R) (h : S.kind = .tensor) :
    TVal.tensor1 (.t f) (.s S) = .ok (.s ⟨.monoidal, f.dom ++ S.dom, f.cod ++ S.cod,
      (S.terms.map (fun g => f.tensor g)).filter (fun t => !t.isZero)⟩) := by
  simp [TVal.tensor1, h, TSum.tensor, TSum.collect, TSum.single, TSum.tensorTerms]

/-- A `monoidal.Sum` — the class of what the fallback returns — is refused as an argument. -/
theorem monoidal_sum_refused (f : Tensor R) (S : TSum R) (h : S.kind = .monoidal) :
    TVal.then1 (.t f) (.s S) = .error .type ∧ TVal.tensor1 (.t f) (.s S) = .error .type := by
  simp [TVal.then1, TVal.tensor1, h]

/-- Dropping the all-zero terms (`cat.Sum.__add__`: `if other == 0: return self`) does not
    change the entrywise value of a sum. -/
theorem sum_drop_zero_entry (kind : SumKind) (dom cod : List Nat) (ts : List (Tensor R))
    (i : List Nat) :
    (((TSum.collect kind dom cod ts).terms.map (fun t => t.entry i)).sum : R)
      = (ts.map (fun t => t.entry i)).sum := by
  unfold TSum.collect
  induction ts with
  | nil => rfl
  | cons t ts ih =>
    simp only [List.filter_cons]
    cases hz : t.isZero with
    | true => simp [Tensor.entry_of_isZero hz, ih]
    | false => simp [ih]

/-- `Tensor.map` applies the function to every entry and keeps the type. -/
theorem map_entry (φ : R → R) (f : Tensor R) (hf : f.WF) {i : List Nat}
    (hi : InRange (f.dom ++ f.cod) i) :
    (f.map φ).WF ∧ (f.map φ).entry i = φ (f.entry i) :=
  ⟨Tensor.map_wf φ f hf, Tensor.map_entry φ f hf hi⟩

end nary

/-! ### non-vacuity: concrete well-formed tensors over `GaussInt` with unequal dims, a scalar
    and a multi-wire type; the hypotheses of the theorems are met, and the model computes what
    the theorems say (finite checks by `decide`; they illustrate the theorems, no theorem rests
    on them). -/

def f0 : Tensor GaussInt := ⟨[2], [3], ⟨[2, 3], #[⟨1, 0⟩, ⟨0, 1⟩, ⟨2, 0⟩, ⟨0, 0⟩, ⟨1, -1⟩, ⟨3, 0⟩]⟩⟩
def g0 : Tensor GaussInt := ⟨[3], [2, 2], ⟨[3, 2, 2],
  #[⟨1, 0⟩, ⟨0, 0⟩, ⟨0, 1⟩, ⟨1, 0⟩, ⟨2, 0⟩, ⟨0, 0⟩, ⟨0, 0⟩, ⟨1, 1⟩, ⟨0, 0⟩, ⟨1, 0⟩, ⟨1, 0⟩, ⟨0, 0⟩]⟩⟩
def s0 : Tensor GaussInt := ⟨[], [], ⟨[1], #[⟨0, 2⟩]⟩⟩

example : f0.WF ∧ g0.WF ∧ s0.WF := by decide
example : f0.cod = g0.dom := rfl
example : ∃ t, f0.then g0 = .ok t := (then_ok_iff f0 g0).2 rfl
example : g0.then f0 = .error .axiom := (then_error_iff g0 f0).2 (by decide)
example : InRange f0.dom [1] ∧ InRange g0.cod [1, 1] := by simp [f0, g0]
/-- the model's `>>` on `f0`, `g0` really computes the sum of `then_entry` (finite check) -/
example : (thenCore f0 g0).entry ([1] ++ [1, 1]) = ⟨2, 0⟩ := by decide
example : (f0.tensor s0).entry (([0] ++ []) ++ ([1] ++ [])) = ⟨-2, 0⟩ := by decide
example : (Tensor.swap (R := GaussInt) [2] [3]).entry (([1] ++ [2]) ++ ([2] ++ [1])) = 1 := by
  decide
/-- `dagger_entry` applied to `f0`: its hypotheses hold, its right-hand side is computed -/
example : f0.dagger.entry ([1] ++ [0]) = ⟨0, -1⟩ := by
  rw [dagger_entry f0 (by decide) (i := [0]) (k := [1]) (by simp [f0]) (by simp [f0])]
  decide
example : ∃ cup : Tensor GaussInt, Tensor.cups [3] [3] = .ok cup := ⟨_, cups_single 3⟩

/-! n-ary forms on `f0 : 2 → 3`, `g0 : 3 → 2 ⊗ 2`, the scalar `s0` -/
def h0 : Tensor GaussInt := ⟨[2, 2], [2], ⟨[2, 2, 2],
  #[⟨1, 0⟩, ⟨0, 0⟩, ⟨0, 0⟩, ⟨0, 1⟩, ⟨1, 1⟩, ⟨0, 0⟩, ⟨2, 0⟩, ⟨-1, 0⟩]⟩⟩
example : h0.WF := by decide
/-- `f0.then(g0, h0)` composes: `thenN_eq_foldl` at a list where both steps type-check … -/
example : ∃ t, TVal.thenArgs (.t f0) [.t g0, .t h0] = .ok (.t t) ∧ t.dom = [2] ∧ t.cod = [2] := by
  refine ⟨thenCore (thenCore f0 g0) h0, ?_, rfl, rfl⟩
  have := thenN_eq_foldl f0 [g0, h0]
  simp only [List.map_cons, List.map_nil] at this
  rw [this]
  rfl
/-- … a step that does not type-check, here `(f0 >> g0).then(f0)`, is refused in the middle of an
    argument list … -/
example : TVal.thenArgs (.t f0) [.t g0, .t f0, .t h0] = .error .axiom := by decide
/-- … `f0.then()` and `f0.tensor()` are `f0` … -/
example : TVal.thenArgs (.t f0) [] = .ok (.t f0) ∧ TVal.tensorArgs (.t f0) [] = .ok (.t f0) :=
  ⟨rfl, rfl⟩
/-- … and an entry of `f0.tensor(g0, h0)` is the product of the three entries
    (`Tensor.tensor3_kron` at row ((1, 2), 3), column ((2, 1), 1)): 3 · 1 · (-1). -/
example : ([g0, h0].foldl Tensor.tensor f0).mat ((1 * 3 + 2) * 4 + 3) ((2 * 4 + 1) * 2 + 1)
    = f0.mat 1 2 * g0.mat 2 1 * h0.mat 3 1 :=
  Tensor.tensor3_kron f0 g0 h0 (by decide) (by decide) (by decide) (by decide) (by decide)
    (by decide) (by decide) (by decide) (by decide)
example : f0.mat 1 2 * g0.mat 2 1 * h0.mat 3 1 = (⟨-3, 0⟩ : GaussInt) := by decide
/-- the Sum fallback on a `tensor.Sum` with an all-zero term: the term is dropped -/
example : TVal.then1 (.t f0) (.s ⟨.tensor, [3], [2, 2], [g0, Tensor.zeros [3] [2, 2]]⟩)
    = .ok (.s ⟨.monoidal, [2], [2, 2], [thenCore f0 g0]⟩) := by decide +kernel

end DV.C08
