/-
  Props/C06.lean — C06 "monoidal normal form is a sound, idempotent, canonical representative".

  PARTIAL.  Proved (for all diagrams, both `left` settings, every diagram of the trace):
    * every step accepted by the step relation `rstep` (a redex followed by the interchange the
      code performs) is a legal single interchange: well-typed, same dom/cod, same boxes, an
      instance of the exchange relation, same denotation under every monoidal functor;
    * ONE PASS of the model's transcription of `normalize`, when it returns, has yielded exactly
      such a trace, ending in the diagram the pass returns (`model_normalize_is_trace`; that the
      passes chained by `normalizeTrace` form an accepted trace is not stated as a theorem, and
      that no pass raises on a well-typed diagram is `normalizeTrace_total`,
      Proofs/UnsnakeLoop.lean); the code's own trace is checked against `rstep` on every run;
    * a returned normal form has no redex left and is a fixed point of `normal_form`;
    * `normal_form` is a function of the `normalize` trace, with the CACHE OF ALL STEPS of
      rewriting.py:146-151: it raises NotImplementedError iff the trace hands out a diagram that is
      `==` to ANY earlier step (the cache starts empty, rewriting.py:146, and the input is not a
      step: a first return to the input is not yet a repeat, the second visit of any step is; the
      trace of a disconnected diagram may leave the input along a tail and cycle elsewhere),
      otherwise it returns the last step of the trace;
      with more passes of fuel than there are diagrams to visit the model never runs out of fuel:
      it returns a fixed point or reports non-termination.
  NOT proved (full statements below as `Prop`s that no theorem claims; supported — not proved —
  by the exhaustive interchanger-class exploration of the thorough tier on the real code):
    * `C06_termination`: for connected diagrams the rewriting terminates;
    * `C06_canonicity`: interchanger-equivalent connected diagrams have the same normal form.
  These are the confluence/termination theorems of arXiv:1804.07832.
-/
import Proofs.Normalize
import Proofs.NormalFormRepeat

namespace DV.C06
open DV

/-- One accepted step is a legal single interchange. -/
theorem step_legal (left : Bool) (d d' : Diagram) (hd : d.WF) (h : rstep left d d' = true) :
    d'.WF ∧ d'.dom = d.dom ∧ d'.cod = d.cod ∧ Exch d d' ∧ d'.boxes.Perm d.boxes :=
  let ok := rstep_ok hd h; ⟨ok.wf, ok.dom, ok.cod, ok.exch, ok.perm⟩

/-- Every diagram of an accepted trace: well-typed, same type, same boxes. -/
theorem trace_typed (left : Bool) (d : Diagram) (steps : List Diagram) (hd : d.WF)
    (h : checkTrace left d steps 0 = none) :
    ∀ s ∈ steps, s.WF ∧ s.dom = d.dom ∧ s.cod = d.cod ∧ s.boxes.Perm d.boxes :=
  fun s hs => (checkTrace_ok hd h s hs).1

/-- Every diagram of an accepted trace denotes the input's morphism under every monoidal functor. -/
theorem trace_sound {O M : Type} (C : SMC O M) (F : MFunctor C) (left : Bool) (d : Diagram)
    (steps : List Diagram) (hd : d.WF) (h : checkTrace left d steps 0 = none) :
    ∀ s ∈ steps, F.eval s = F.eval d :=
  fun s hs => (checkTrace_ok hd h s hs).2 F

/-- One pass of the model's transcription of `normalize` yields an accepted trace ending in the
    diagram it returns (hence, by `trace_typed`/`trace_sound`, legal steps only). -/
theorem model_normalize_is_trace (left : Bool) (d d' : Diagram) (steps : List Diagram)
    (h : normalizePass left (d.boxes.length - 1) 0 d [] = .ok (d', steps)) :
    checkTrace left d steps 0 = none ∧ lastOr d steps = d' :=
  normalizePass_trace (d0 := d) (acc := []) rfl rfl h

/-- A returned normal form is terminal and a fixed point (idempotence). -/
theorem normal_form_fixed (left : Bool) (fuel : Nat) (d n : Diagram)
    (h : d.normalForm left fuel = .ok n) :
    terminal left n = true ∧ ∀ fuel', n.normalForm left (fuel' + 1) = .ok n :=
  let r := normalFormLoop_fixed h; ⟨r.1, fun f => r.2 f []⟩

/-- `normal_form` as a function of the `normalize` trace (fuel = passes): NotImplementedError iff a
    step is `==` to an earlier step, else the last step of a finished trace. -/
theorem normal_form_of_trace (left : Bool) (fuel : Nat) (d : Diagram) (steps : List Diagram)
    (fin : Bool) (h : normalizeTrace left fuel d [] = .ok (steps, fin)) :
    d.normalForm left fuel =
      if hasRepeat [] steps then .error .notImpl
      else if fin then .ok (lastOr d steps) else .error .fuel := by
  obtain ⟨steps', hs, hl⟩ := normalFormLoop_of_trace (cache := []) h
  simp only [List.nil_append] at hs
  subst hs
  exact hl

/-- Non-termination is REPORTED whichever earlier diagram the trace comes back to: if step `j` of
    the trace is `==` to an earlier step `i` (any of them; the input itself is not a step and is not
    in the cache, which starts empty), `normal_form` raises NotImplementedError. -/
theorem normal_form_detects_any_repeat (left : Bool) (fuel : Nat) (d : Diagram)
    (steps : List Diagram) (fin : Bool) (h : normalizeTrace left fuel d [] = .ok (steps, fin))
    (i j : Nat) (hij : i < j) (hj : j < steps.length)
    (he : (steps[i]'(by omega)).eqv steps[j] = true) :
    d.normalForm left fuel = .error .notImpl := by
  rw [normal_form_of_trace left fuel d steps fin h,
    (hasRepeat_iff [] steps).mpr ⟨j, hj, Or.inr ⟨i, hij, he⟩⟩]
  rfl

/-- … and only then: NotImplementedError means that some step repeated an earlier one. -/
theorem normal_form_notimpl_only_on_repeat (left : Bool) (fuel : Nat) (d : Diagram)
    (steps : List Diagram) (fin : Bool) (h : normalizeTrace left fuel d [] = .ok (steps, fin))
    (hn : d.normalForm left fuel = .error .notImpl) :
    ∃ (i j : Nat) (hij : i < j) (hj : j < steps.length),
      (steps[i]'(by omega)).eqv steps[j] = true := by
  rw [normal_form_of_trace left fuel d steps fin h] at hn
  by_cases hr : hasRepeat [] steps = true
  · obtain ⟨j, hj, hc | ⟨i, hi, he⟩⟩ := (hasRepeat_iff [] steps).mp hr
    · obtain ⟨c, hc, _⟩ := hc
      cases hc
    · exact ⟨i, j, hi, hj, he⟩
  · simp only [hr, Bool.false_eq_true, if_false] at hn
    split at hn <;> cases hn

/-- The index the driver's `nfrepeat` reports exists exactly when NotImplementedError is raised. -/
theorem normal_form_notimpl_iff_first_repeat (left : Bool) (fuel : Nat) (d : Diagram)
    (steps : List Diagram) (fin : Bool) (h : normalizeTrace left fuel d [] = .ok (steps, fin)) :
    d.normalForm left fuel = .error .notImpl ↔ (firstRepeat [] steps 0).isSome = true := by
  rw [normal_form_of_trace left fuel d steps fin h, firstRepeat_isSome]
  by_cases hr : hasRepeat [] steps = true
  · simp [hr]
  · simp only [hr, Bool.false_eq_true, if_false, iff_false]
    split <;> simp

/-- Without a repeat a finished trace is walked to its end: the value is its last step. -/
theorem normal_form_returns_last_of_trace (left : Bool) (fuel : Nat) (d : Diagram)
    (steps : List Diagram) (h : normalizeTrace left fuel d [] = .ok (steps, true))
    (hr : hasRepeat [] steps = false) : d.normalForm left fuel = .ok (lastOr d steps) := by
  rw [normal_form_of_trace left fuel d steps true h, hr]
  rfl

/-- With more passes of fuel than there are diagrams the trace can visit (`U` lists them up to
    `==`), the model never answers "out of fuel": it returns a fixed point or reports
    non-termination. -/
theorem normal_form_no_fuel_error (left : Bool) (fuel : Nat) (d : Diagram) (steps U : List Diagram)
    (fin : Bool) (h : normalizeTrace left fuel d [] = .ok (steps, fin))
    (hU : ∀ s ∈ steps, ∃ u ∈ U, u.eqv s = true) (hfuel : U.length < fuel) :
    d.normalForm left fuel = .error .notImpl ∨
      ∃ n, d.normalForm left fuel = .ok n ∧ terminal left n = true ∧
        ∀ fuel', n.normalForm left (fuel' + 1) = .ok n := by
  cases fin with
  | false =>
    left
    have hlen := normalizeTrace_length h
    simp only [List.length_nil, Nat.zero_add] at hlen
    obtain ⟨i, j, hij, hj, he⟩ := exists_repeat_of_finite hU (by omega)
    exact normal_form_detects_any_repeat left fuel d steps false h i j hij hj he
  | true =>
    have hnf := normal_form_of_trace left fuel d steps true h
    by_cases hr : hasRepeat [] steps = true
    · left; rw [hnf, hr]; rfl
    · right
      simp only [hr, Bool.false_eq_true, if_false, if_true] at hnf
      exact ⟨_, hnf, normal_form_fixed left fuel d _ hnf⟩

/-- The interchanger equivalence generated by `Exch`. -/
inductive ExchEquiv : Diagram → Diagram → Prop
  | refl (d) : ExchEquiv d d
  | step {a b c} : ExchEquiv a b → (Exch b c ∨ Exch c b) → ExchEquiv a c

/-- NOT PROVED. -/
def C06_termination : Prop :=
  ∀ (left : Bool) (d : Diagram), d.WF → connected d →
    ∃ fuel n, d.normalForm left fuel = .ok n

/-- NOT PROVED. -/
def C06_canonicity : Prop :=
  ∀ (left : Bool) (d e n m : Diagram) (f g : Nat), d.WF → e.WF → ExchEquiv d e →
    connected d →
    d.normalForm left f = .ok n → e.normalForm left g = .ok m → n = m

/-! Non-vacuity: two boxes on two separate wires, `g` on the right above `f` on the left; the
    model normalises it in one step and the trace is accepted.  `wired` reads only `dom`, `boxes`
    and `offsets`: with `f` and `g` put on the SAME wire, box 1 consumes the output of box 0, so the
    relation in which `connected` of the unproved statements is phrased is inhabited. -/
private def x : Ob := ⟨"x", 0⟩
private def f : Box := { name := "f", dom := [x], cod := [x] }
private def g : Box := { name := "g", dom := [x], cod := [x] }
private def d0 : Diagram :=
  match Diagram.mk? [x, x] [x, x] [g, f] [1, 0] with | .ok d => d | .error _ => Diagram.id []

example : d0.WF := by
  have : Diagram.mk? [x, x] [x, x] [g, f] [1, 0] = .ok d0 := by decide +kernel
  exact Diagram.mk?_wf this
example : wired ({ d0 with boxes := [f, g], offsets := [0, 0] }) 0 1 := ⟨_, rfl, by decide +kernel⟩
example : (match normalizePass false 1 0 d0 [] with
    | .ok (_, steps) => steps.length == 1 && (checkTrace false d0 steps 0).isNone
    | .error _ => false) = true := by decide +kernel
example : (match d0.normalForm false 10 with
    | .ok n => n.boxes == [f, g] && n.offsets == [0, 1] && terminal false n
    | .error _ => false) = true := by decide +kernel

/-! Non-vacuity of the repeat theorems: two nested closed loops
    `unit0 >> Id(x) @ unit1 >> Id(x) @ counit1 >> counit0` (disconnected).  Its right normalisation
    never ends, never comes back to the input, and repeats a later step: NotImplementedError. -/
private def bx (n : String) (dom cod : Ty) : Box := { name := n, dom := dom, cod := cod }
private def loops : Diagram :=
  match Diagram.mk? [] [] [bx "unit0" [] [x], bx "unit1" [] [x], bx "counit1" [x] [], bx "counit0" [x] []]
      [0, 1, 1, 0] with
  | .ok d => d | .error _ => Diagram.id []

example : loops.boxes.length = 4 := by decide +kernel
example : (match normalizeTrace false 8 loops [] with
    | .ok (steps, fin) => !fin && steps.all (fun s => !(s.eqv loops)) && hasRepeat [] steps
    | .error _ => false) = true := by decide +kernel
example : loops.normalForm false 8 = .error .notImpl := by decide +kernel

end DV.C06
