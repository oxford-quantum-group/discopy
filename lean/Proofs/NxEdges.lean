/-
  Proofs/NxEdges.lean — from the edge LIST of a graph to what `nx2diagram` reads of it.
  Both graphs handed to `nx2diagram` (by `diagramize`, by `diagram2nx`) have the edge list
      for each box k:  wire_i → dom k i,  dom k i → box k   (i = 0 … m-1),   box k → cod k i
  followed by edges into output nodes.  `readsAll_of_view` turns that description into `ReadsAll`,
  `nx2diagram_of_view` into the diagram `nx2diagram` returns.
-/
import Proofs.Nx2Diagram

namespace DV.Dz
open DV

/-! ### The canonical edges of one box -/

/-- drawing.py:866-872 / 113-119: the edges of the `dom` ports `i, i+1, …` of box node `bn`. -/
def domEdges (bn : GNode) (k : Nat) : Nat → List Ob → List GNode → List (GNode × GNode)
  | i, o :: os, w :: ws => (w, .dom o i k) :: (.dom o i k, bn) :: domEdges bn k (i + 1) os ws
  | _, _, _ => []

/-- drawing.py:873-877 / 120-128. -/
def codEdges (bn : GNode) (k : Nat) (cod : Ty) : List (GNode × GNode) :=
  (codNodes cod k).map (fun v => (bn, v))

def stepEdges (k : Nat) (b : Box) (a : OffAttr) (ws : List GNode) : List (GNode × GNode) :=
  domEdges (.box b k a) k 0 b.dom ws ++ codEdges (.box b k a) k b.cod

/-- The edges of boxes `k, k+1, …` taking the blocks at `offs` of the open wires. -/
def stepsEdges : List GNode → Nat → List (Box × OffAttr) → List Nat → List (GNode × GNode)
  | scan, k, s :: r, off :: offs =>
    stepEdges k s.1 s.2 ((scan.drop off).take s.1.dom.length)
      ++ stepsEdges (nextOpen scan off s.1.dom.length s.1.cod k) (k + 1) r offs
  | _, _, _, _ => []

/-- The part of `ReadsAll` that does not mention the graph. -/
def PlanarSteps : List GNode → Nat → List (Box × OffAttr) → List Nat → List GNode → Prop
  | scan, _, [], [], fin => scan = fin
  | scan, k, s :: r, off :: offs, fin =>
    off + s.1.dom.length ≤ scan.length
      ∧ ((scan.drop off).take s.1.dom.length).map GNode.obj? = s.1.dom.map some
      ∧ (s.1.dom = [] → s.2.get = some (off : Int))
      ∧ PlanarSteps (nextOpen scan off s.1.dom.length s.1.cod k) (k + 1) r offs fin
  | _, _, _, _, _ => False

/-- The edge neither enters a `dom` port of box `k` nor leaves box node `k`. -/
def Avoids (k : Nat) (e : GNode × GNode) : Prop :=
  (∀ o j, e.2 ≠ .dom o j k) ∧ (∀ b a, e.1 ≠ .box b k a)

/-- `g` shows the edge list `L` to `in_edges` / `out_edges` and holds the targets of `L` as nodes.
    `networkx` ignores an `add_edge` of an edge it already has, so `g.edges` is `L` without its
    repetitions; a filter of `L` that has no repetitions (all `nx2diagram` looks at) sees the
    same list in both. -/
structure EdgeView (g : NxGraph) (L : List (GNode × GNode)) : Prop where
  filter : ∀ p : GNode × GNode → Bool, (L.filter p).Nodup → g.edges.filter p = L.filter p
  nodes : ∀ e ∈ L, e.2 ∈ g.nodes

theorem mem_domEdges {bn : GNode} {k : Nat} {os : List Ob} {ws : List GNode} {i0 : Nat}
    {e : GNode × GNode} (h : e ∈ domEdges bn k i0 os ws) :
    (∃ o j w, i0 ≤ j ∧ w ∈ ws ∧ e = (w, .dom o j k)) ∨ (∃ o j, i0 ≤ j ∧ e = (.dom o j k, bn)) := by
  induction os generalizing ws i0 with
  | nil => simp [domEdges] at h
  | cons o os ih =>
    cases ws with
    | nil => simp [domEdges] at h
    | cons w ws =>
      simp only [domEdges, List.mem_cons] at h
      rcases h with rfl | rfl | h
      · exact Or.inl ⟨o, i0, w, Nat.le_refl _, by simp, rfl⟩
      · exact Or.inr ⟨o, i0, Nat.le_refl _, rfl⟩
      · rcases ih h with ⟨o', j, w', hj, hw, rfl⟩ | ⟨o', j, hj, rfl⟩
        · exact Or.inl ⟨o', j, w', by omega, by simp [hw], rfl⟩
        · exact Or.inr ⟨o', j, by omega, rfl⟩

theorem domEdges_filter_tgt {bn : GNode} (hbn : bn.isBox = true) (k : Nat) :
    ∀ (os : List Ob) (ws : List GNode) (i0 j : Nat) (o : Ob) (w : GNode),
      os[j]? = some o → ws[j]? = some w →
      (domEdges bn k i0 os ws).filter (fun e => decide (e.2 = .dom o (i0 + j) k))
        = [(w, .dom o (i0 + j) k)] := by
  intro os
  induction os with
  | nil => intro ws i0 j o w h; simp at h
  | cons o0 os ih =>
    intro ws i0 j o w ho hw
    cases ws with
    | nil => simp at hw
    | cons w0 ws =>
      have hbn' : ∀ o' j', bn ≠ GNode.dom o' j' k := by
        intro o' j' e; rw [e] at hbn; simp [GNode.isBox] at hbn
      cases j with
      | zero =>
        cases ho; cases hw
        have hrest : (domEdges bn k (i0 + 1) os ws).filter
            (fun e => decide (e.2 = GNode.dom o0 (i0 + 0) k)) = [] := by
          rw [List.filter_eq_nil_iff]
          intro e he
          rcases mem_domEdges he with ⟨o', j, w', hj, -, rfl⟩ | ⟨o', j, hj, rfl⟩
          · simp; omega
          · simpa using hbn' _ _
        simp only [domEdges, List.filter_cons, hrest]
        simp [hbn']
      | succ j =>
        have := ih ws (i0 + 1) j o w ho hw
        have e : i0 + 1 + j = i0 + (j + 1) := by omega
        rw [e] at this
        simp only [domEdges, List.filter_cons, this]
        have h1 : ¬ (GNode.dom o0 i0 k = GNode.dom o (i0 + (j + 1)) k) := by
          intro h; injection h with _ h2 _; omega
        simp [h1, hbn']

theorem domEdges_filter_tgt_other {bn : GNode} {k : Nat} {os : List Ob} {ws : List GNode} {i0 : Nat}
    (v : GNode) (hv : v ≠ bn) (hv' : ∀ o j, v ≠ .dom o j k) :
    (domEdges bn k i0 os ws).filter (fun e => decide (e.2 = v)) = [] := by
  rw [List.filter_eq_nil_iff]
  intro e he
  rcases mem_domEdges he with ⟨o', j, w', -, -, rfl⟩ | ⟨o', j, -, rfl⟩
  · simpa using (hv' _ _).symm
  · simpa using hv.symm

theorem domEdges_filter_src {bn : GNode} {k : Nat} {os : List Ob} {ws : List GNode} {i0 : Nat}
    (hbn : bn.isBox = true) (hws : ∀ w ∈ ws, w.isBox = false) :
    (domEdges bn k i0 os ws).filter (fun e => decide (e.1 = bn)) = [] := by
  rw [List.filter_eq_nil_iff]
  intro e he
  rcases mem_domEdges he with ⟨o', j, w', -, hw, rfl⟩ | ⟨o', j, -, rfl⟩
  · have := hws _ hw
    simp only [decide_eq_true_eq]
    intro e; rw [e, hbn] at this; cases this
  · simp only [decide_eq_true_eq]
    intro e; rw [← e] at hbn; simp [GNode.isBox] at hbn

theorem codEdges_filter_src (bn : GNode) (k : Nat) (cod : Ty) :
    (codEdges bn k cod).filter (fun e => decide (e.1 = bn)) = codEdges bn k cod := by
  rw [List.filter_eq_self]
  intro e he
  simp only [codEdges, List.mem_map] at he
  obtain ⟨v, -, rfl⟩ := he
  simp

theorem codEdges_filter_tgt_dom (bn : GNode) (k : Nat) (cod : Ty) (o : Ob) (j k' : Nat) :
    (codEdges bn k cod).filter (fun e => decide (e.2 = .dom o j k')) = [] := by
  rw [List.filter_eq_nil_iff]
  intro e he
  simp only [codEdges, List.mem_map] at he
  obtain ⟨v, hv, rfl⟩ := he
  obtain ⟨o', i, rfl, -⟩ := mem_codNodes hv
  simp

theorem codEdges_nodup (bn : GNode) (k : Nat) (cod : Ty) : (codEdges bn k cod).Nodup := by
  unfold codEdges
  rw [List.Nodup, List.pairwise_map]
  exact (codNodes_nodup cod k).imp (fun h e => h (by injection e))

theorem codEdges_map_snd (bn : GNode) (k : Nat) (cod : Ty) :
    (codEdges bn k cod).map (·.2) = codNodes cod k := by
  simp [codEdges, Function.comp_def]

theorem filter_avoid_tgt {l : List (GNode × GNode)} {k : Nat} (h : ∀ e ∈ l, Avoids k e) (o : Ob)
    (j : Nat) : l.filter (fun e => decide (e.2 = .dom o j k)) = [] := by
  rw [List.filter_eq_nil_iff]
  intro e he
  simpa using (h e he).1 o j

theorem filter_avoid_src {l : List (GNode × GNode)} {k : Nat} (h : ∀ e ∈ l, Avoids k e) (b : Box)
    (a : OffAttr) : l.filter (fun e => decide (e.1 = .box b k a)) = [] := by
  rw [List.filter_eq_nil_iff]
  intro e he
  simpa using (h e he).2 b a

/-! ### One box -/

theorem reads_of_view {g : NxGraph} {pre post : List (GNode × GNode)} {scan : List GNode}
    {k : Nat} {b : Box} {a : OffAttr} {off : Nat}
    (hv : EdgeView g (pre ++ stepEdges k b a ((scan.drop off).take b.dom.length) ++ post))
    (hpre : ∀ e ∈ pre, Avoids k e) (hpost : ∀ e ∈ post, Avoids k e)
    (hrange : off + b.dom.length ≤ scan.length)
    (htypes : ((scan.drop off).take b.dom.length).map GNode.obj? = b.dom.map some)
    (hattr : b.dom = [] → a.get = some (off : Int))
    (hscan : ∀ v ∈ scan, v.isBox = false) : Reads g scan k b a off := by
  have hws : ∀ w ∈ (scan.drop off).take b.dom.length, w.isBox = false := fun w hw =>
    hscan w (List.mem_of_mem_drop (List.mem_of_mem_take hw))
  refine ⟨hrange, htypes, ?_, hattr, ?_⟩
  · intro i o w ho hw
    have hw' : ((scan.drop off).take b.dom.length)[i]? = some w := by
      rw [List.getElem?_take_of_lt (List.getElem?_eq_some_iff.mp ho).1, List.getElem?_drop]
      exact hw
    have hf : (pre ++ stepEdges k b a ((scan.drop off).take b.dom.length) ++ post).filter
        (fun e => decide (e.2 = GNode.dom o i k)) = [(w, GNode.dom o i k)] := by
      have := domEdges_filter_tgt (bn := .box b k a) rfl k b.dom _ 0 i o w ho hw'
      simp only [Nat.zero_add] at this
      simp only [List.filter_append, stepEdges, filter_avoid_tgt hpre, filter_avoid_tgt hpost,
        this, codEdges_filter_tgt_dom]
      rfl
    have hmem : GNode.dom o i k ∈ g.nodes :=
      hv.nodes (w, GNode.dom o i k)
        (List.mem_filter.mp (by rw [hf]; exact List.mem_singleton_self _)).1
    unfold NxGraph.inEdges
    rw [if_pos hmem, hv.filter _ (by rw [hf]; simp), hf]
    rfl
  · have hf : (pre ++ stepEdges k b a ((scan.drop off).take b.dom.length) ++ post).filter
        (fun e => decide (e.1 = GNode.box b k a)) = codEdges (.box b k a) k b.cod := by
      simp only [List.filter_append, stepEdges, filter_avoid_src hpre, filter_avoid_src hpost,
        domEdges_filter_src (bn := .box b k a) rfl hws, codEdges_filter_src]
      simp
    unfold NxGraph.succ
    rw [hv.filter _ (by rw [hf]; exact codEdges_nodup _ _ _), hf, codEdges_map_snd]

/-! ### All boxes -/

theorem stepEdges_avoids {k j : Nat} {b : Box} {a : OffAttr} {ws : List GNode}
    (hws : ∀ w ∈ ws, w.isBox = false) (hj : j ≠ k) : ∀ e ∈ stepEdges k b a ws, Avoids j e := by
  intro e he
  simp only [stepEdges, List.mem_append] at he
  rcases he with he | he
  · rcases mem_domEdges he with ⟨o', i, w', -, hw, rfl⟩ | ⟨o', i, -, rfl⟩
    · refine ⟨fun o i' e => ?_, fun b' a' e => ?_⟩
      · injection e with _ _ e3; exact hj e3.symm
      · have := hws _ hw; simp only at e; rw [e] at this; simp [GNode.isBox] at this
    · exact ⟨fun o i' e => (by cases e), fun b' a' e => (by cases e)⟩
  · simp only [codEdges, List.mem_map] at he
    obtain ⟨v, hv, rfl⟩ := he
    obtain ⟨o', i, rfl, -⟩ := mem_codNodes hv
    refine ⟨fun o i' e => (by cases e), fun b' a' e => ?_⟩
    injection e with _ e2 _; exact hj e2.symm

theorem stepsEdges_avoids : ∀ (steps : List (Box × OffAttr)) (scan : List GNode) (k : Nat)
    (offs : List Nat), (∀ v ∈ scan, GNode.OpenAt k v) →
    ∀ e ∈ stepsEdges scan k steps offs, ∀ j, j < k → Avoids j e := by
  intro steps
  induction steps with
  | nil => intro scan k offs _ e he; simp [stepsEdges] at he
  | cons s r ih =>
    intro scan k offs hs e he j hj
    cases offs with
    | nil => simp [stepsEdges] at he
    | cons off offs =>
      simp only [stepsEdges, List.mem_append] at he
      rcases he with he | he
      · exact stepEdges_avoids
          (fun w hw => (hs w (List.mem_of_mem_drop (List.mem_of_mem_take hw))).notBox)
          (by omega) e he
      · exact ih _ (k + 1) offs (nextOpen_open hs _ _ _) e he j (by omega)

theorem readsAll_of_view (g : NxGraph) :
    ∀ (steps : List (Box × OffAttr)) (scan : List GNode) (k : Nat) (offs : List Nat)
      (fin : List GNode) (pre post : List (GNode × GNode)),
      EdgeView g (pre ++ stepsEdges scan k steps offs ++ post) →
      (∀ e ∈ pre, ∀ j, k ≤ j → Avoids j e) → (∀ e ∈ post, ∀ j, Avoids j e) →
      PlanarSteps scan k steps offs fin → (∀ v ∈ scan, GNode.OpenAt k v) →
      ReadsAll g scan k steps offs fin := by
  intro steps
  induction steps with
  | nil =>
    intro scan k offs fin pre post _ _ _ hp _
    cases offs with
    | nil => exact hp
    | cons o offs => exact hp.elim
  | cons s r ih =>
    intro scan k offs fin pre post hv hpre hpost hp hs
    cases offs with
    | nil => exact hp.elim
    | cons off offs =>
      obtain ⟨h1, h2, h3, h4⟩ := hp
      have hws : ∀ w ∈ (scan.drop off).take s.1.dom.length, w.isBox = false := fun w hw =>
        (hs w (List.mem_of_mem_drop (List.mem_of_mem_take hw))).notBox
      have hns := nextOpen_open hs off s.1.dom.length s.1.cod
      refine ⟨?_, ?_⟩
      · apply reads_of_view (pre := pre)
          (post := stepsEdges (nextOpen scan off s.1.dom.length s.1.cod k) (k + 1) r offs ++ post)
          _ (fun e he => hpre e he k (Nat.le_refl _)) _ h1 h2 h3 (fun v hv => (hs v hv).notBox)
        · rwa [stepsEdges, ← List.append_assoc pre, List.append_assoc _ _ post] at hv
        · intro e he
          rcases List.mem_append.mp he with he | he
          · exact stepsEdges_avoids r _ (k + 1) offs hns e he k (by omega)
          · exact hpost e he k
      · apply ih _ (k + 1) offs fin
          (pre ++ stepEdges k s.1 s.2 ((scan.drop off).take s.1.dom.length)) post _ _ hpost h4 hns
        · rwa [stepsEdges, ← List.append_assoc pre] at hv
        · intro e he j hj
          rcases List.mem_append.mp he with he | he
          · exact hpre e he j (by omega)
          · exact stepEdges_avoids hws (by omega) e he

/-- `nx2diagram` on a graph with the parameters of `dom` as inputs, the box nodes of `steps`, and
    the canonical edge list of `steps` along `offs`, followed by edges `nx2diagram` never reads. -/
theorem nx2diagram_of_view {g : NxGraph} {dom : Ty} {steps : List (Box × OffAttr)} {offs : List Nat}
    {fin : List GNode} {post : List (GNode × GNode)} (hi : g.inputs = inputNodes dom)
    (hb : g.boxNodes = boxNodesFrom 0 steps)
    (hv : EdgeView g (stepsEdges (inputNodes dom) 0 steps offs ++ post))
    (hpost : ∀ e ∈ post, ∀ j, Avoids j e) (hp : PlanarSteps (inputNodes dom) 0 steps offs fin) :
    ∃ d, nx2diagram g = .ok d ∧ d.WF ∧ d.dom = dom ∧ fin.map GNode.obj? = d.cod.map some
      ∧ d.boxes = steps.map (·.1) ∧ d.offsets = offs.map (fun (o : Nat) => (o : Int)) :=
  nx2diagram_spec hi hb (readsAll_of_view g steps _ 0 offs fin [] post hv (by simp) hpost hp
    (inputNodes_open dom))

end DV.Dz
