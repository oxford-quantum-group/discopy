/-
  Proofs/PolyDiagram.lean — the EXECUTABLE instance (`PolyDiagram`, data in `Poly`) of the two
  abstract theorems of Proofs/Param.lean:

   * `eval_natural_subst` (C14): evaluating the substituted diagram
     = substituting in the evaluation, for every diagram with data in `Poly` (normal or not) —
     by instantiating `evalLayers_natural` at the ring `NPoly` and the ring homomorphism
     `NPoly.substHom`, and transporting along `norm : Poly → NPoly` (which preserves 0, 1, +, ·);
   * `grad_poly_layers` (C15): the gradient of a polynomial diagram evaluates to the formal
     derivative of its evaluation — the derivation `NPoly.derivN` in the product rule, read
     through `norm` (`OpHom.grad_rule`).
-/
import Proofs.PolyRing

namespace DV.Param

theorem norm_opHom : OpHom norm := ⟨norm_zero, norm_one, norm_add, norm_mul, fun _ => rfl⟩

/-! ### every evaluation is in normal form -/

namespace Poly

theorem sum_wf (l : List Poly) (h : ∀ x ∈ l, x.WF) : l.sum.WF := by
  induction l with
  | nil => exact zero_wf
  | cons a l ih =>
    rw [List.sum_cons]
    exact add_wf (h a List.mem_cons_self) (ih (fun x hx => h x (List.mem_cons_of_mem _ hx)))

theorem sum_map_wf {α : Type} (l : List α) (f : α → Poly) (h : ∀ a, (f a).WF) : (l.map f).sum.WF :=
  sum_wf _ fun x hx => by
    obtain ⟨a, _, rfl⟩ := List.mem_map.mp hx
    exact h a

theorem matMul_wf (n : Nat) (a b : Mat Poly) (i k : Nat) : (matMul n a b i k).WF :=
  sum_map_wf _ _ fun _ => mul_wf _ _

theorem idMat_wf (i j : Nat) : (idMat i j : Poly).WF := by
  unfold idMat
  split
  · exact one_wf
  · exact zero_wf

theorem evalL_wf {L : Type} (od : L → Nat) (mat : L → Mat Poly) (ls : List L) (i k : Nat) :
    (evalL od mat ls i k).WF := by
  cases ls with
  | nil => exact idMat_wf i k
  | cons l ls => exact matMul_wf _ _ _ _ _

theorem sumL_wf {L : Type} (od : L → Nat) (mat : L → Mat Poly) (ts : List (List L)) (i k : Nat) :
    (sumL od mat ts i k).WF :=
  sum_map_wf _ _ fun t => evalL_wf od mat t i k

theorem evalLayers_wf (ls : List (PLayer Poly)) (i k : Nat) : (evalLayers ls i k).WF := by
  rw [evalLayers_eq_evalL]
  exact evalL_wf _ _ ls i k

theorem evalSum_wf (ts : List (List (PLayer Poly))) (i k : Nat) : (evalSum ts i k).WF := by
  rw [evalSum_eq_sumL]
  exact sumL_wf _ _ ts i k

end Poly

/-! ### C14 at the executable instance -/

/-- Simultaneous substitution commutes with evaluation, for every polynomial diagram: both sides
    are normal forms, and under `norm` this is naturality in the ring homomorphism `substHom σ`. -/
theorem eval_natural_subst (σ : Nat → Poly) (ls : List (PLayer Poly)) (i k : Nat) :
    evalLayers (ls.map (PLayer.mapData (Poly.subst σ))) i k = Poly.subst σ (evalLayers ls i k) := by
  apply eq_of_norm_eq (Poly.evalLayers_wf _ i k) (Poly.subst_wf σ _)
  rw [norm_subst, ← norm_opHom.map_evalLayers, ← norm_opHom.map_evalLayers, mapData_mapData,
    ← evalLayers_natural (NPoly.substHom σ) (NPoly.substHom_conj σ), mapData_mapData]
  exact congrArg (fun f => evalLayers (ls.map (PLayer.mapData f)) i k) (funext (norm_subst σ))

/-! ### symbols that do not occur have derivative zero -/

namespace Poly

theorem deriv_zero (v : Nat) : deriv v 0 = 0 := rfl

theorem deriv_of_not_has (v : Nat) : ∀ ts : List (Mono × Int),
    (∀ t ∈ ts, monoHas v t.1 = false) → deriv v ⟨ts⟩ = 0
  | [], _ => rfl
  | t :: ts, h => by
    have ih := deriv_of_not_has v ts (fun x hx => h x (List.mem_cons_of_mem _ hx))
    refine congrArg Poly.mk ((deriv_cons v t ts).trans ?_)
    rw [ih]
    split
    · rename_i e he
      have ht := h t List.mem_cons_self
      unfold monoHas at ht
      rw [he] at ht
      cases ht
    · rfl

theorem length_le_foldr_max (ts : List (Mono × Int)) (t : Mono × Int) (h : t ∈ ts) :
    t.1.length ≤ ts.foldr (fun t acc => max t.1.length acc) 0 := by
  induction ts with
  | nil => exact absurd h List.not_mem_nil
  | cons x ts ih =>
    simp only [List.foldr_cons]
    rcases List.mem_cons.mp h with e | e
    · subst e; exact Nat.le_max_left _ _
    · exact Nat.le_trans (ih e) (Nat.le_max_right _ _)

theorem deriv_of_not_mem_vars (v : Nat) (p : Poly) (h : v ∉ vars p) : deriv v p = 0 := by
  have hterms : ∀ t ∈ p.terms, monoHas v t.1 = false := by
    intro t ht
    cases hm : monoHas v t.1 with
    | false => rfl
    | true =>
      exfalso
      apply h
      unfold vars
      rw [List.mem_filter]
      refine ⟨?_, List.any_eq_true.mpr ⟨t, ht, hm⟩⟩
      rw [List.mem_range]
      have hlen : v < t.1.length := by
        unfold monoHas at hm
        rcases Nat.lt_or_ge v t.1.length with h' | h'
        · exact h'
        · rw [List.getElem?_eq_none h'] at hm; cases hm
      exact Nat.lt_of_lt_of_le hlen (length_le_foldr_max _ t ht)
  exact deriv_of_not_has v p.terms hterms

end Poly

theorem deriv_arr_of_not_dep (v : Nat) (b : PBox Poly) (h : polyDep v b = false) (i j : Nat) :
    Poly.deriv v (b.arr i j) = 0 := by
  have hmem : ∀ e ∈ b.data, Poly.deriv v e = 0 := by
    intro e he
    apply Poly.deriv_of_not_mem_vars
    intro hv
    have : v ∈ b.freeSymbols Poly.vars := (mem_box_freeSymbols Poly.vars b v).mpr ⟨e, he, hv⟩
    unfold polyDep at h
    rw [List.contains_iff_mem.mpr this] at h
    cases h
  have hget : ∀ n, Poly.deriv v (b.data.getD n 0) = 0 := by
    intro n
    rw [List.getD_eq_getElem?_getD]
    cases hx : b.data[n]? with
    | none => exact Poly.deriv_zero v
    | some e => exact hmem e (List.mem_of_getElem? hx)
  unfold PBox.arr
  split
  · exact hget _
  · exact hget _

/-! ### C15 at the executable instance -/

/-- The gradient of a polynomial tensor diagram (tensor.Box.grad as found, `checksFS = false`, or
    repaired, `true`) evaluates to the formal derivative of its evaluation — for every diagram
    with data in `Poly`.  For data not in normal form `polyDep` may report a symbol that cancels,
    which the product rule read through `norm` does not mind. -/
theorem grad_poly_layers (checksFS : Bool) (v : Nat) (ls : List (PLayer Poly)) (i k : Nat) :
    evalSum (gradLayers (polyDep v) (boxGrad checksFS (polyDep v) (Poly.deriv v)) ls) i k
      = Poly.deriv v (evalLayers ls i k) := by
  have hdep : ∀ b, polyDep v b = false → ∀ i j, (NPoly.derivN v).D (norm (b.arr i j)) = 0 :=
    fun b hb i j => by rw [← norm_deriv, deriv_arr_of_not_dep v b hb, norm_zero]
  apply eq_of_norm_eq (Poly.evalSum_wf _ i k) (Poly.deriv_wf v _)
  rw [norm_deriv]
  exact norm_opHom.grad_rule (NPoly.derivN v) (polyDep v) _ (boxGrad_dims checksFS _ _)
    (norm_opHom.boxGrad_spec _ _ (norm_deriv v) (Poly.deriv_zero v) (fun _ => rfl) checksFS _ hdep)
    hdep ls i k

/-! ### the hypotheses of the abstract product rule at the executable ring -/

/-- "x_v occurs in the data of the box", for a box with data in normal form. -/
def npolyDep (v : Nat) (b : PBox NPoly) : Bool := polyDep v (b.mapData (fun a : NPoly => a.1))

theorem npolyDep_spec (v : Nat) (b : PBox NPoly) (h : npolyDep v b = false) (i j : Nat) :
    (NPoly.derivN v).D (b.arr i j) = 0 := by
  apply Subtype.ext
  have h1 := deriv_arr_of_not_dep v (b.mapData (fun a : NPoly => a.1)) h i j
  rw [arr_mapData (fun a : NPoly => a.1) rfl (fun _ => rfl)] at h1
  exact h1

end DV.Param
