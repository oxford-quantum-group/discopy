/-
  Proofs/MatHom.lean — transport of the list-matrix operations of Model/Gates.lean along a map of
  carriers that preserves `0 1 + * − conj` (`IsHom`), and preservation of an entrywise predicate closed
  under these operations (`IsClosed`).  Purely structural (no well-formedness needed): every operation is
  a composition of `map`, `flatMap`, `zipWith` and the ring operations.
  Used by Proofs/CircuitCyc8.lean with `f = Cyc8.val : Cyc8 → ℚ(ζ₈)` and `P = Cyc8.isNormal`.
-/
import Proofs.CircuitAlg

namespace DV.Gates

variable {R S : Type}

section Hom
variable [Zero R] [One R] [Add R] [Mul R] [Neg R] [Conj R]
variable [Zero S] [One S] [Add S] [Mul S] [Neg S] [Conj S]

/-- `f` preserves the operations the matrices are built from. -/
structure IsHom (f : R → S) : Prop where
  zero : f 0 = 0
  one : f 1 = 1
  add : ∀ x y, f (x + y) = f x + f y
  mul : ∀ x y, f (x * y) = f x * f y
  neg : ∀ x, f (-x) = -f x
  conj : ∀ x, f (Conj.conj x) = Conj.conj (f x)

/-- Entrywise image of a matrix. -/
def mapM (f : R → S) (A : Mat R) : Mat S := A.map (·.map f)

variable {f : R → S}

omit [Zero R] [One R] [Add R] [Mul R] [Neg R] [Conj R] [Zero S] [One S] [Add S] [Mul S] [Neg S] [Conj S] in
theorem IsMat.mapM {m n : Nat} {A : Mat R} (h : IsMat m n A) : IsMat m n (mapM f A) := by
  refine ⟨by simp [DV.Gates.mapM, h.1], ?_⟩
  intro r hr
  simp only [DV.Gates.mapM, List.mem_map] at hr
  obtain ⟨r', hr', rfl⟩ := hr
  simp [h.2 r' hr']

theorem map_smul (hf : IsHom f) (a : R) (v : List R) : (smul a v).map f = smul (f a) (v.map f) := by
  simp [smul, hf.mul]

theorem map_vadd (hf : IsHom f) : ∀ u v : List R, (vadd u v).map f = vadd (u.map f) (v.map f)
  | [], v => by simp [vadd]
  | x :: u, [] => by simp [vadd]
  | x :: u, y :: v => by simp [vadd, hf.add, map_vadd hf u v]

theorem map_rowMul (hf : IsHom f) : ∀ (a : List R) (B : Mat R),
    (rowMul a B).map f = rowMul (a.map f) (mapM f B)
  | [], B => by simp [rowMul]
  | x :: a, [] => by simp [rowMul, mapM]
  | x :: a, b :: B => by
    simp only [rowMul, mapM, List.map_cons]
    rw [map_vadd hf, map_smul hf, map_rowMul hf a B]
    rfl

theorem mapM_mul (hf : IsHom f) (A B : Mat R) : mapM f (mul A B) = mul (mapM f A) (mapM f B) := by
  simp only [mul, mapM, List.map_map]
  apply List.map_congr_left
  intro a _
  exact map_rowMul hf a B

theorem mapM_kron (hf : IsHom f) (A B : Mat R) : mapM f (kron A B) = kron (mapM f A) (mapM f B) := by
  simp only [kron, mapM, List.map_flatMap, List.flatMap_map, List.map_map]
  apply List.flatMap_congr
  intro ra _
  apply List.map_congr_left
  intro rb _
  simp only [Function.comp_def, List.map_flatMap]
  apply List.flatMap_congr
  intro a _
  exact map_smul hf a rb

omit [Zero R] [One R] [Add R] [Mul R] [Neg R] [Conj R] [Zero S] [One S] [Add S] [Mul S] [Neg S] [Conj S] in
theorem map_zipWith_cons (g : R → S) : ∀ (r : List R) (T : Mat R),
    (List.zipWith (· :: ·) r T).map (·.map g) = List.zipWith (· :: ·) (r.map g) (T.map (·.map g))
  | [], _ => by simp
  | _ :: _, [] => by simp
  | x :: r, t :: T => by simp [map_zipWith_cons g r T]

omit [Zero R] [One R] [Add R] [Mul R] [Neg R] [Conj R] [Zero S] [One S] [Add S] [Mul S] [Neg S] [Conj S] in
theorem mapM_transpose (g : R → S) : ∀ A : Mat R, mapM g (transpose A) = transpose (mapM g A)
  | [] => rfl
  | [r] => by simp [transpose, mapM]
  | r :: r' :: rs => by
    have ih := mapM_transpose g (r' :: rs)
    simp only [mapM, List.map_cons, transpose] at ih ⊢
    rw [map_zipWith_cons, ih]

theorem mapM_dagger (hf : IsHom f) (A : Mat R) : mapM f (dagger A) = dagger (mapM f A) := by
  unfold dagger
  rw [← mapM_transpose]
  simp only [mapM, List.map_map]
  apply List.map_congr_left
  intro r _
  simp [Function.comp_def, hf.conj]

theorem mapM_msmul (hf : IsHom f) (k : R) (A : Mat R) : mapM f (msmul k A) = msmul (f k) (mapM f A) := by
  simp only [msmul, mapM, List.map_map]
  apply List.map_congr_left
  intro r _
  exact map_smul hf k r

theorem mapM_identity (hf : IsHom f) : ∀ n, mapM f (identity (R := R) n) = identity n
  | 0 => rfl
  | n + 1 => by
    have ih := mapM_identity hf n
    simp only [identity, mapM, List.map_cons, List.map_map, List.map_replicate, hf.zero, hf.one] at ih ⊢
    rw [← ih]
    simp [Function.comp_def, hf.zero]

theorem mapM_idQ (hf : IsHom f) (n : Nat) : mapM f (idQ (R := R) n) = idQ n := mapM_identity hf _

/-- Image of a list of layers. -/
def mapL (f : R → S) (L : Layers R) : Layers S := L.map fun x => (x.1, mapM f x.2.1, x.2.2)

theorem mapM_layerMat (hf : IsHom f) (x : Nat × Mat R × Nat) :
    mapM f (layerMat x) = layerMat (x.1, mapM f x.2.1, x.2.2) := by
  simp only [layerMat]
  rw [mapM_kron hf, mapM_kron hf, mapM_idQ hf, mapM_idQ hf]

theorem mapM_evalLayersFrom (hf : IsHom f) (acc : Mat R) (L : Layers R) :
    mapM f (evalLayersFrom acc L) = evalLayersFrom (mapM f acc) (mapL f L) := by
  induction L generalizing acc with
  | nil => rfl
  | cons x rest ih =>
    simp only [evalLayersFrom, mapL, List.map_cons] at ih ⊢
    rw [ih, mapM_mul hf, mapM_layerMat hf]

theorem mapM_evalLayers (hf : IsHom f) (n : Nat) (L : Layers R) :
    mapM f (evalLayers n L) = evalLayers n (mapL f L) := by
  unfold evalLayers
  rw [mapM_evalLayersFrom hf, mapM_idQ hf]

/-! ### ZX generators -/

def ZXB.map (f : R → S) : ZXB R → ZXB S
  | .z n m μ => .z n m (f μ)
  | .x n m μ => .x n m (f μ)
  | .h => .h
  | .swap => .swap
  | .scalar s => .scalar (f s)

def ZXD.mapD (f : R → S) (d : ZXD R) : ZXD S := List.map (fun x => (x.1.map f, x.2)) d

omit [Zero R] [One R] [Add R] [Mul R] [Neg R] [Conj R] [Zero S] [One S] [Add S] [Mul S] [Neg S] [Conj S] in
theorem ZXB.map_dom (g : R → S) (b : ZXB R) : (b.map g).dom = b.dom := by cases b <;> rfl
omit [Zero R] [One R] [Add R] [Mul R] [Neg R] [Conj R] [Zero S] [One S] [Add S] [Mul S] [Neg S] [Conj S] in
theorem ZXB.map_cod (g : R → S) (b : ZXB R) : (b.map g).cod = b.cod := by cases b <;> rfl

theorem map_rpow (hf : IsHom f) (r : R) : ∀ k, f (rpow r k) = rpow (f r) k
  | 0 => hf.one
  | k + 1 => by simp [rpow, hf.mul, map_rpow hf r k]

theorem mapM_zxb (hf : IsHom f) (ρ : R) (b : ZXB R) : mapM f (b.mat ρ) = (b.map f).mat (f ρ) := by
  cases b with
  | z n m μ =>
    simp only [ZXB.mat, ZXB.map, zMat, mapM, List.map_map]
    apply List.map_congr_left; intro x _
    simp only [Function.comp_def, List.map_map]
    apply List.map_congr_left; intro y _
    simp only [apply_ite f, hf.add, hf.one, hf.zero]
  | x n m μ =>
    simp only [ZXB.mat, ZXB.map, xMat, mapM, List.map_map]
    apply List.map_congr_left; intro x _
    simp only [Function.comp_def, List.map_map]
    apply List.map_congr_left; intro y _
    rw [hf.mul, map_rpow hf]
    simp only [apply_ite f, hf.add, hf.one, hf.neg]
  | h => simp [ZXB.mat, ZXB.map, hMat, mapM, hf.neg]
  | swap => simp [ZXB.mat, ZXB.map, swapMat, mapM, hf.zero, hf.one]
  | scalar s => simp [ZXB.mat, ZXB.map, mapM]

theorem mapL_zxLayers (hf : IsHom f) (ρ : R) (w : Nat) (d : ZXD R) :
    mapL f (zxLayers ρ w d) = zxLayers (f ρ) w (d.mapD f) := by
  induction d generalizing w with
  | nil => rfl
  | cons x rest ih =>
    obtain ⟨b, off⟩ := x
    simp only [zxLayers, mapL, ZXD.mapD, List.map_cons, ZXB.map_dom, ZXB.map_cod] at ih ⊢
    rw [ih, mapM_zxb hf]

theorem mapM_evalZX (hf : IsHom f) (ρ : R) (w : Nat) (d : ZXD R) :
    mapM f (evalZX ρ w d) = evalZX (f ρ) w (d.mapD f) := by
  rw [evalZX_eq, evalZX_eq, mapM_evalLayers hf, mapL_zxLayers hf]

omit [Zero R] [One R] [Add R] [Mul R] [Neg R] [Conj R] [Zero S] [One S] [Add S] [Mul S] [Neg S] [Conj S] in
theorem codFrom_map (g : R → S) (w : Nat) (d : ZXD R) : ZXD.codFrom w (d.mapD g) = ZXD.codFrom w d := by
  induction d generalizing w with
  | nil => rfl
  | cons x rest ih =>
    obtain ⟨b, off⟩ := x
    simp only [ZXD.mapD, List.map_cons, ZXD.codFrom, ZXB.map_dom, ZXB.map_cod] at ih ⊢
    rw [ih]

theorem map_inj_on {α β : Type} {P : α → Prop} {g : α → β} (hinj : ∀ x y, P x → P y → g x = g y → x = y) :
    ∀ {u v : List α}, (∀ x ∈ u, P x) → (∀ x ∈ v, P x) → u.map g = v.map g → u = v
  | [], [], _, _, _ => rfl
  | [], _ :: _, _, _, h => by cases h
  | _ :: _, [], _, _, h => by cases h
  | x :: u, y :: v, hu, hv, h => by
    rw [List.map_cons, List.map_cons, List.cons.injEq] at h
    rw [hinj x y (hu x List.mem_cons_self) (hv y List.mem_cons_self) h.1,
      map_inj_on hinj (fun z hz => hu z (List.mem_cons_of_mem _ hz))
        (fun z hz => hv z (List.mem_cons_of_mem _ hz)) h.2]

omit [Zero R] [One R] [Add R] [Mul R] [Neg R] [Conj R] [Zero S] [One S] [Add S] [Mul S] [Neg S] [Conj S] in
theorem mapM_inj_on {P : R → Prop} {g : R → S} (hinj : ∀ x y, P x → P y → g x = g y → x = y)
    {A B : Mat R} (hA : ∀ r ∈ A, ∀ x ∈ r, P x) (hB : ∀ r ∈ B, ∀ x ∈ r, P x) (h : mapM g A = mapM g B) :
    A = B :=
  map_inj_on (P := fun r => ∀ x ∈ r, P x) (fun _ _ hr hs => map_inj_on hinj hr hs) hA hB h

end Hom

/-! ### entrywise predicates closed under the operations -/

section Closed
variable [Zero R] [One R] [Add R] [Mul R] [Neg R] [Conj R]

structure IsClosed (P : R → Prop) : Prop where
  zero : P 0
  one : P 1
  add : ∀ {x y}, P x → P y → P (x + y)
  mul : ∀ {x y}, P x → P y → P (x * y)
  neg : ∀ {x}, P x → P (-x)
  conj : ∀ {x}, P x → P (Conj.conj x)

/-- Every entry satisfies `P`. -/
def AllEnt (P : R → Prop) (A : Mat R) : Prop := ∀ r ∈ A, ∀ x ∈ r, P x

variable {P : R → Prop}

theorem all_smul (hP : IsClosed P) {a : R} {v : List R} (ha : P a) (hv : ∀ x ∈ v, P x) :
    ∀ x ∈ smul a v, P x := by
  intro x hx
  simp only [smul, List.mem_map] at hx
  obtain ⟨y, hy, rfl⟩ := hx
  exact hP.mul ha (hv y hy)

theorem all_vadd (hP : IsClosed P) : ∀ {u v : List R}, (∀ x ∈ u, P x) → (∀ x ∈ v, P x) →
    ∀ x ∈ vadd u v, P x
  | [], v, _, hv => by simpa [vadd] using hv
  | x :: u, [], hu, _ => by simpa [vadd] using hu
  | x :: u, y :: v, hu, hv => by
    intro z hz
    simp only [vadd, List.mem_cons] at hz
    rcases hz with rfl | hz
    · exact hP.add (hu x (by simp)) (hv y (by simp))
    · exact all_vadd hP (fun z hz => hu z (by simp [hz])) (fun z hz => hv z (by simp [hz])) z hz

theorem all_rowMul (hP : IsClosed P) : ∀ {a : List R} {B : Mat R}, (∀ x ∈ a, P x) → AllEnt P B →
    ∀ x ∈ rowMul a B, P x
  | [], B, _, _ => by simp [rowMul]
  | x :: a, [], _, _ => by simp [rowMul]
  | x :: a, b :: B, ha, hB => by
    simp only [rowMul]
    exact all_vadd hP (all_smul hP (ha x (by simp)) (hB b (by simp)))
      (all_rowMul hP (fun z hz => ha z (by simp [hz])) (fun r hr => hB r (by simp [hr])))

theorem AllEnt.mul (hP : IsClosed P) {A B : Mat R} (hA : AllEnt P A) (hB : AllEnt P B) :
    AllEnt P (mul A B) := by
  intro r hr
  simp only [DV.Gates.mul, List.mem_map] at hr
  obtain ⟨a, ha, rfl⟩ := hr
  exact all_rowMul hP (hA a ha) hB

theorem AllEnt.kron (hP : IsClosed P) {A B : Mat R} (hA : AllEnt P A) (hB : AllEnt P B) :
    AllEnt P (kron A B) := by
  intro r hr x hx
  simp only [DV.Gates.kron, List.mem_flatMap, List.mem_map] at hr
  obtain ⟨ra, hra, rb, hrb, rfl⟩ := hr
  simp only [List.mem_flatMap] at hx
  obtain ⟨a, ha, hx⟩ := hx
  exact all_smul hP (hA ra hra a ha) (hB rb hrb) x hx

omit [Zero R] [One R] [Add R] [Mul R] [Neg R] [Conj R] in
theorem all_zipWith_cons : ∀ {r : List R} {T : Mat R}, (∀ x ∈ r, P x) → AllEnt P T →
    AllEnt P (List.zipWith (· :: ·) r T)
  | [], _, _, _ => by simp [AllEnt]
  | _ :: _, [], _, _ => by simp [AllEnt]
  | x :: r, t :: T, hr, hT => by
    intro row hrow
    simp only [List.zipWith_cons_cons, List.mem_cons] at hrow
    rcases hrow with rfl | hrow
    · intro z hz
      simp only [List.mem_cons] at hz
      rcases hz with rfl | hz
      · exact hr _ (by simp)
      · exact hT t (by simp) z hz
    · exact all_zipWith_cons (fun z hz => hr z (by simp [hz])) (fun s hs => hT s (by simp [hs])) row hrow

omit [Zero R] [One R] [Add R] [Mul R] [Neg R] [Conj R] in
theorem AllEnt.transpose : ∀ {A : Mat R}, AllEnt P A → AllEnt P (transpose A)
  | [], _ => by simp [AllEnt, DV.Gates.transpose]
  | [r], h => by
    intro row hrow x hx
    simp only [DV.Gates.transpose, List.mem_map] at hrow
    obtain ⟨y, hy, rfl⟩ := hrow
    simp only [List.mem_singleton] at hx
    rw [hx]
    exact h r (by simp) y hy
  | r :: r' :: rs, h => by
    simp only [DV.Gates.transpose]
    exact all_zipWith_cons (h r (by simp))
      (AllEnt.transpose (A := r' :: rs) (fun s hs => h s (by simp [hs])))

theorem AllEnt.dagger (hP : IsClosed P) {A : Mat R} (hA : AllEnt P A) : AllEnt P (dagger A) := by
  intro r hr x hx
  simp only [DV.Gates.dagger, List.mem_map] at hr
  obtain ⟨r', hr', rfl⟩ := hr
  simp only [List.mem_map] at hx
  obtain ⟨y, hy, rfl⟩ := hx
  exact hP.conj (hA.transpose r' hr' y hy)

theorem AllEnt.msmul (hP : IsClosed P) {k : R} {A : Mat R} (hk : P k) (hA : AllEnt P A) :
    AllEnt P (msmul k A) := by
  intro r hr
  simp only [DV.Gates.msmul, List.mem_map] at hr
  obtain ⟨r', hr', rfl⟩ := hr
  exact all_smul hP hk (hA r' hr')

theorem AllEnt.identity (hP : IsClosed P) : ∀ n, AllEnt P (identity (R := R) n)
  | 0 => by simp [AllEnt, DV.Gates.identity]
  | n + 1 => by
    intro r hr x hx
    simp only [DV.Gates.identity, List.mem_cons, List.mem_map] at hr
    rcases hr with rfl | ⟨r', hr', rfl⟩
    · simp only [List.mem_cons, List.mem_replicate] at hx
      rcases hx with rfl | ⟨_, rfl⟩
      · exact hP.one
      · exact hP.zero
    · simp only [List.mem_cons] at hx
      rcases hx with rfl | hx
      · exact hP.zero
      · exact AllEnt.identity hP n r' hr' x hx

theorem AllEnt.idQ (hP : IsClosed P) (n : Nat) : AllEnt P (idQ (R := R) n) := AllEnt.identity hP _

theorem AllEnt.layerMat (hP : IsClosed P) {x : Nat × Mat R × Nat} (h : AllEnt P x.2.1) :
    AllEnt P (layerMat x) :=
  (AllEnt.idQ hP _).kron hP (h.kron hP (AllEnt.idQ hP _))

theorem AllEnt.evalLayersFrom (hP : IsClosed P) {acc : Mat R} {L : Layers R} (hacc : AllEnt P acc)
    (hL : ∀ x ∈ L, AllEnt P x.2.1) : AllEnt P (evalLayersFrom acc L) := by
  induction L generalizing acc with
  | nil => exact hacc
  | cons x rest ih =>
    simp only [DV.Gates.evalLayersFrom]
    exact ih (hacc.mul hP (AllEnt.layerMat hP (hL x (by simp)))) (fun y hy => hL y (by simp [hy]))

theorem AllEnt.evalLayers (hP : IsClosed P) (n : Nat) {L : Layers R}
    (hL : ∀ x ∈ L, AllEnt P x.2.1) : AllEnt P (evalLayers n L) :=
  AllEnt.evalLayersFrom hP (AllEnt.idQ hP n) hL

theorem all_rpow (hP : IsClosed P) {r : R} (hr : P r) : ∀ k, P (rpow r k)
  | 0 => hP.one
  | k + 1 => hP.mul hr (all_rpow hP hr k)

/-- The parameter of a generator satisfies `P`. -/
def ZXB.paramOK (P : R → Prop) : ZXB R → Prop
  | .z _ _ μ => P μ
  | .x _ _ μ => P μ
  | .scalar s => P s
  | _ => True

theorem AllEnt.zxb (hP : IsClosed P) {ρ : R} (hρ : P ρ) {b : ZXB R} (hb : b.paramOK P) :
    AllEnt P (b.mat ρ) := by
  cases b with
  | z n m μ =>
    intro r hr x hx
    simp only [ZXB.mat, zMat, List.mem_map] at hr
    obtain ⟨u, _, rfl⟩ := hr
    simp only [List.mem_map] at hx
    obtain ⟨v, _, rfl⟩ := hx
    -- the four entries of `zMat`: `1 + μ`, `1`, `μ`, `0`
    split
    · split
      · exact hP.add hP.one hb
      · exact hP.one
    · split
      · exact hb
      · exact hP.zero
  | x n m μ =>
    intro r hr x hx
    simp only [ZXB.mat, xMat, List.mem_map] at hr
    obtain ⟨u, _, rfl⟩ := hr
    simp only [List.mem_map] at hx
    obtain ⟨v, _, rfl⟩ := hx
    refine hP.mul (all_rpow hP hρ _) ?_
    split
    · exact hP.add hP.one (hP.neg hb)
    · exact hP.add hP.one hb
  | h =>
    intro r hr x hx
    simp only [ZXB.mat, hMat, List.mem_cons, List.mem_nil_iff, or_false] at hr
    have hn := hP.neg hρ
    rcases hr with rfl | rfl <;> simp only [List.mem_cons, List.mem_nil_iff, or_false] at hx <;>
      rcases hx with rfl | rfl <;> assumption
  | swap =>
    intro r hr x hx
    simp only [ZXB.mat, swapMat, List.mem_cons, List.mem_nil_iff, or_false] at hr
    have h0 := hP.zero
    have h1 := hP.one
    rcases hr with rfl | rfl | rfl | rfl <;> simp only [List.mem_cons, List.mem_nil_iff, or_false] at hx <;>
      rcases hx with rfl | rfl | rfl | rfl <;> assumption
  | scalar s =>
    intro r hr x hx
    simp only [ZXB.mat, List.mem_singleton] at hr
    subst hr
    simp only [List.mem_singleton] at hx
    subst hx
    exact hb

theorem AllEnt.evalZX (hP : IsClosed P) {ρ : R} (hρ : P ρ) (w : Nat) {d : ZXD R}
    (hd : ∀ x ∈ d, x.1.paramOK P) : AllEnt P (DV.Gates.evalZX ρ w d) := by
  rw [evalZX_eq]
  apply AllEnt.evalLayers hP
  intro x hx
  induction d generalizing w with
  | nil => simp [zxLayers] at hx
  | cons y rest ih =>
    obtain ⟨b, off⟩ := y
    simp only [zxLayers, List.mem_cons] at hx
    rcases hx with rfl | hx
    · exact AllEnt.zxb hP hρ (hd (b, off) (by simp))
    · exact ih _ (fun z hz => hd z (by simp [hz])) hx

end Closed

end DV.Gates
