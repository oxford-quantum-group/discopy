/-
  Proofs/Laws.lean — the strict dagger-monoidal laws of `Model/Diagram.lean` as EQUALITIES of
  full `Diagram` structures (all five fields, `layers` included).  The code's `==`
  (`Diagram.eqv`, monoidal.py:438-442) ignores `layers`, so `=` is stronger; `eqv_of_eq` bridges.
-/
import Proofs.WFOps
import Model.Repr

namespace DV

/-! ### `=` versus the code's `==` -/

theorem Diagram.eqv_iff {a b : Diagram} :
    a.eqv b = true ↔ a.dom = b.dom ∧ a.cod = b.cod ∧ a.boxes = b.boxes ∧ a.offsets = b.offsets := by
  simp [Diagram.eqv, and_assoc]

theorem Diagram.eqv_refl (a : Diagram) : a.eqv a = true := Diagram.eqv_iff.mpr ⟨rfl, rfl, rfl, rfl⟩

theorem Diagram.eqv_of_eq {a b : Diagram} (h : a = b) : a.eqv b = true := h ▸ Diagram.eqv_refl a

/-! ### Composition -/

/-- The value of `a >> b` when it is defined. -/
def Diagram.thenD (a b : Diagram) : Diagram :=
  ⟨a.dom, b.cod, a.boxes ++ b.boxes, a.offsets ++ b.offsets,
    ⟨a.layers.dom, b.layers.cod, a.layers.boxes ++ b.layers.boxes⟩⟩

theorem Diagram.then_eq (a b : Diagram) :
    a.then b = if a.layers.cod = b.layers.dom then .ok (a.thenD b) else .error .axiom := by
  unfold Diagram.then LArrow.then
  by_cases h : a.layers.cod = b.layers.dom <;> simp [h, Diagram.thenD]

theorem Diagram.then_eq_thenD {a b : Diagram} (h : a.layers.cod = b.layers.dom) :
    a.then b = .ok (a.thenD b) := by
  rw [Diagram.then_eq, if_pos h]

/-- `Diagram.then_ok` and `LArrow.then_ok` (Proofs/WF.lean) in one step, the value named. -/
theorem Diagram.then_ok' {a b d : Diagram} (h : a.then b = .ok d) :
    a.layers.cod = b.layers.dom ∧ d = a.thenD b := by
  obtain ⟨ls, hls, rfl⟩ := Diagram.then_ok h
  obtain ⟨hc, rfl⟩ := LArrow.then_ok hls
  exact ⟨hc, rfl⟩

theorem Diagram.then_spec {a b : Diagram} (ha : a.WF) (hb : b.WF) (h : a.cod = b.dom) :
    a.then b = .ok (a.thenD b) :=
  Diagram.then_eq_thenD (by rw [ha.lcod, hb.ldom, h])

theorem Diagram.thenD_wf {a b : Diagram} (ha : a.WF) (hb : b.WF) (h : a.cod = b.dom) :
    (a.thenD b).WF := Diagram.then_wf ha hb (Diagram.then_spec ha hb h)

/-- Associativity of `>>`, for arbitrary (not even well-typed) operands, errors included:
    both bracketings are defined together and then equal. -/
theorem Diagram.then_assoc (a b c : Diagram) :
    (a.then b >>= fun ab => ab.then c) = (b.then c >>= fun bc => a.then bc) := by
  -- the outer junction of either bracketing is a junction of the inner operands
  by_cases h1 : a.layers.cod = b.layers.dom <;> by_cases h2 : b.layers.cod = c.layers.dom <;>
    simp [Diagram.then_eq, h1, h2, Diagram.thenD, bind, Except.bind, List.append_assoc]

theorem Diagram.id_then {a : Diagram} (ha : a.WF) : (Diagram.id a.dom).then a = .ok a := by
  rw [Diagram.then_spec (Diagram.id_wf _) ha rfl]
  refine congrArg _ (Diagram.ext_layers (Diagram.thenD_wf (Diagram.id_wf _) ha rfl) ha ?_)
  simp [Diagram.thenD, Diagram.id, LArrow.id, ← ha.ldom]

theorem Diagram.then_id {a : Diagram} (ha : a.WF) : a.then (Diagram.id a.cod) = .ok a := by
  rw [Diagram.then_spec ha (Diagram.id_wf _) rfl]
  refine congrArg _ (Diagram.ext_layers (Diagram.thenD_wf ha (Diagram.id_wf _) rfl) ha ?_)
  simp [Diagram.thenD, Diagram.id, LArrow.id, ← ha.lcod]

/-! ### Tensor -/

/-- The value of `a @ b` on well-typed operands: the right-hand side of `Diagram.tensor_spec`
    (Proofs/WF.lean) under a name, so that laws can be stated about it. -/
def Diagram.tensorD (a b : Diagram) : Diagram :=
  ⟨a.dom ++ b.dom, a.cod ++ b.cod, a.boxes ++ b.boxes,
    a.offsets ++ b.offsets.map (· + (a.cod.length : Int)),
    ⟨a.dom ++ b.dom, a.cod ++ b.cod,
      a.layers.boxes.map (whiskR b.dom) ++ b.layers.boxes.map (whiskL a.cod)⟩⟩

theorem Diagram.tensor_eq_tensorD {a b : Diagram} (ha : a.WF) (hb : b.WF) :
    a.tensor b = .ok (a.tensorD b) := Diagram.tensor_spec ha hb

theorem Diagram.tensorD_wf {a b : Diagram} (ha : a.WF) (hb : b.WF) : (a.tensorD b).WF :=
  Diagram.tensor_wf ha hb (Diagram.tensor_eq_tensorD ha hb)

theorem whiskR_whiskR (s t : Ty) (l : Layer) : whiskR t (whiskR s l) = whiskR (s ++ t) l := by
  simp [whiskR]
theorem whiskL_whiskL (s t : Ty) (l : Layer) : whiskL s (whiskL t l) = whiskL (s ++ t) l := by
  simp [whiskL]
theorem whiskR_whiskL (s t : Ty) (l : Layer) : whiskR t (whiskL s l) = whiskL s (whiskR t l) := by
  simp [whiskR, whiskL]
theorem whiskR_nil (l : Layer) : whiskR [] l = l := by simp [whiskR]
theorem whiskL_nil (l : Layer) : whiskL [] l = l := by simp [whiskL]

theorem Diagram.tensorD_assoc (a b c : Diagram) :
    (a.tensorD b).tensorD c = a.tensorD (b.tensorD c) := by
  simp only [Diagram.tensorD, List.append_assoc, List.map_append, List.map_map, List.length_append,
    Diagram.mk.injEq, LArrow.mk.injEq, true_and]
  refine ⟨?_, ?_⟩
  · congr 2
    apply List.map_congr_left
    intro o _
    simp only [Function.comp]
    rw [Int.natCast_add, Int.add_comm (a.cod.length : Int), Int.add_assoc]
  · -- the layers of `a`, `b`, `c` in turn
    refine congr (congrArg _ ?_) (congr (congrArg _ ?_) ?_)
    · exact List.map_congr_left fun l _ => whiskR_whiskR _ _ l
    · exact List.map_congr_left fun l _ => whiskR_whiskL _ _ l
    · exact List.map_congr_left fun l _ => (whiskL_whiskL _ _ l).symm

/-- `(a @ b) @ c == a @ (b @ c)` as an equality of full structures. -/
theorem Diagram.tensor_assoc {a b c : Diagram} (ha : a.WF) (hb : b.WF) (hc : c.WF) :
    ∃ ab bc d, a.tensor b = .ok ab ∧ b.tensor c = .ok bc ∧
      ab.tensor c = .ok d ∧ a.tensor bc = .ok d :=
  ⟨a.tensorD b, b.tensorD c, (a.tensorD b).tensorD c,
    Diagram.tensor_eq_tensorD ha hb, Diagram.tensor_eq_tensorD hb hc,
    Diagram.tensor_eq_tensorD (Diagram.tensorD_wf ha hb) hc,
    by rw [Diagram.tensorD_assoc]; exact Diagram.tensor_eq_tensorD ha (Diagram.tensorD_wf hb hc)⟩

/-- `Id(Ty()) @ a == a`. -/
theorem Diagram.tensor_id_nil_left {a : Diagram} (ha : a.WF) :
    (Diagram.id []).tensor a = .ok a := by
  rw [Diagram.tensor_eq_tensorD (Diagram.id_wf []) ha]
  refine congrArg _ (Diagram.ext_layers (Diagram.tensorD_wf (Diagram.id_wf []) ha) ha ?_)
  simp [Diagram.tensorD, Diagram.id, LArrow.id, ← ha.ldom, ← ha.lcod, funext whiskL_nil]

/-- `a @ Id(Ty()) == a`. -/
theorem Diagram.tensor_id_nil_right {a : Diagram} (ha : a.WF) :
    a.tensor (Diagram.id []) = .ok a := by
  rw [Diagram.tensor_eq_tensorD ha (Diagram.id_wf [])]
  refine congrArg _ (Diagram.ext_layers (Diagram.tensorD_wf ha (Diagram.id_wf [])) ha ?_)
  simp [Diagram.tensorD, Diagram.id, LArrow.id, ← ha.ldom, ← ha.lcod, funext whiskR_nil]

/-- `a @ b == a @ Id(b.dom) >> Id(a.cod) @ b` (the docstring law of monoidal.py:399),
    as an equality of full structures. -/
theorem Diagram.tensor_eq_whisker {a b : Diagram} (ha : a.WF) (hb : b.WF) :
    ∃ l r d, a.tensor (Diagram.id b.dom) = .ok l ∧ (Diagram.id a.cod).tensor b = .ok r ∧
      l.then r = .ok d ∧ a.tensor b = .ok d := by
  refine ⟨a.tensorD (Diagram.id b.dom), (Diagram.id a.cod).tensorD b, a.tensorD b,
    Diagram.tensor_eq_tensorD ha (Diagram.id_wf _), Diagram.tensor_eq_tensorD (Diagram.id_wf _) hb,
    ?_, Diagram.tensor_eq_tensorD ha hb⟩
  rw [Diagram.then_eq_thenD (by simp [Diagram.tensorD, Diagram.id])]
  simp [Diagram.tensorD, Diagram.thenD, Diagram.id, LArrow.id]

/-! ### Dagger -/

theorem Layer.dag_dag (l : Layer) : l.dag.dag = l := by
  cases l; simp [Layer.dag, Box.dag_dag]

theorem LArrow.dag_dag (a : LArrow) : a.dag.dag = a := by
  cases a with
  | mk dom cod boxes =>
    simp only [LArrow.dag, List.map_reverse, List.reverse_reverse, List.map_map, LArrow.mk.injEq,
      true_and]
    have : Layer.dag ∘ Layer.dag = _root_.id := funext Layer.dag_dag
    simp [this]

/-- `d[::-1][::-1] == d`. -/
theorem Diagram.dagger_dagger {d : Diagram} (h : d.WF) : d.dagger.dagger = d := by
  conv => rhs; rw [h.eq_ofLayers]
  simp [Diagram.dagger, Diagram.ofLayers, LArrow.dag_dag]

/-- `Id(t)[::-1] == Id(t)`: dagger is identity-on-objects. -/
theorem Diagram.dagger_id (t : Ty) : (Diagram.id t).dagger = Diagram.id t := by
  simp [Diagram.dagger, Diagram.ofLayers, Diagram.id, LArrow.id, LArrow.dag]

theorem Diagram.dagger_dom {d : Diagram} (h : d.WF) : d.dagger.dom = d.cod := h.lcod
theorem Diagram.dagger_cod {d : Diagram} (h : d.WF) : d.dagger.cod = d.dom := h.ldom

/-- `(a >> b)[::-1] == b[::-1] >> a[::-1]`. -/
theorem Diagram.dagger_then {a b d : Diagram} (h : a.then b = .ok d) :
    b.dagger.then a.dagger = .ok d.dagger := by
  obtain ⟨hc, rfl⟩ := Diagram.then_ok' h
  rw [Diagram.then_eq_thenD (by simp [Diagram.dagger, Diagram.ofLayers, LArrow.dag, hc])]
  simp [Diagram.thenD, Diagram.dagger, Diagram.ofLayers, LArrow.dag]

/-! `(a @ b)[::-1] == a[::-1] @ b[::-1]` is NOT a law of the code (nor of the model): the dagger
    reverses the order of the boxes, the tensor of the daggers does not — they agree only up to
    an interchange (monoidal.py:30 says so itself).  Concrete witness: -/

namespace DaggerTensorWitness
def x : Ob := ⟨"'x'", 0⟩
def y : Ob := ⟨"'y'", 0⟩
def f : Diagram := Diagram.ofBox { name := "'f'", dom := [x], cod := [y] }
def g : Diagram := Diagram.ofBox { name := "'g'", dom := [y], cod := [x] }
theorem not_eqv : ((f.tensorD g).dagger).eqv (f.dagger.tensorD g.dagger) = false := by decide +kernel
end DaggerTensorWitness

/-- There are well-typed `a`, `b` with `(a @ b)[::-1] != a[::-1] @ b[::-1]`. -/
theorem Diagram.dagger_tensor_fails :
    ∃ a b ab : Diagram, a.WF ∧ b.WF ∧ a.tensor b = .ok ab ∧
      ∃ r : Diagram, a.dagger.tensor b.dagger = .ok r ∧ ab.dagger.eqv r = false := by
  refine ⟨DaggerTensorWitness.f, DaggerTensorWitness.g, _, Diagram.ofBox_wf _, Diagram.ofBox_wf _,
    Diagram.tensor_eq_tensorD (Diagram.ofBox_wf _) (Diagram.ofBox_wf _), _,
    Diagram.tensor_eq_tensorD (Diagram.dagger_wf (Diagram.ofBox_wf _))
      (Diagram.dagger_wf (Diagram.ofBox_wf _)), DaggerTensorWitness.not_eqv⟩

/-! ### Slicing: `d[:i] >> d[i:] == d` for every integer `i` -/

/-- `d[:i] >> d[i:] == d`, for every `i : Int` — negative and out-of-range included, as
    Python's slice clamping makes them all legal. -/
theorem Diagram.slice_then {d : Diagram} (h : d.WF) (i : Int) :
    ∃ p q, d.slice none (some i) = .ok p ∧ d.slice (some i) none = .ok q ∧ p.then q = .ok d := by
  obtain ⟨m, h1, h2⟩ := chain_take_drop (pyIdx d.layers.boxes.length i) h.chain
  have e1 := LArrow.slice_prefix_spec h.chain i h1
  have e2 := LArrow.slice_suffix_spec h.chain i h2
  refine ⟨Diagram.ofLayers ⟨d.layers.dom, m, d.layers.boxes.take (pyIdx d.layers.boxes.length i)⟩,
    Diagram.ofLayers ⟨m, d.layers.cod, d.layers.boxes.drop (pyIdx d.layers.boxes.length i)⟩,
    by simp [Diagram.slice, e1], by simp [Diagram.slice, e2], ?_⟩
  rw [Diagram.then_eq_thenD (by simp [Diagram.ofLayers])]
  conv => rhs; rw [h.eq_ofLayers]
  simp only [Diagram.thenD, Diagram.ofLayers, ← List.map_append, List.take_append_drop]

/-! ### A box and the one-box diagram that wraps it -/

theorem Box.eqvDiagram_iff {b : Box} {d : Diagram} :
    b.eqvDiagram d = true ↔ d.boxes = [b] ∧ d.dom = b.dom ∧ d.cod = b.cod := by
  unfold Box.eqvDiagram
  cases hb : d.boxes with
  | nil => simp
  | cons x xs =>
    cases xs with
    | nil => simp [and_assoc]
    | cons y ys => simp

theorem Box.eqvDiagram_ofBox (b : Box) : b.eqvDiagram (Diagram.ofBox b) = true := by
  simp [Box.eqvDiagram_iff, Diagram.ofBox]

/-- `box >> Id(box.cod) == box` under the code's asymmetric `__eq__`: the composite is a plain
    one-box diagram, and the box compares equal to it. -/
theorem Box.then_id_eq (b : Box) :
    ∃ d, (Diagram.ofBox b).then (Diagram.id b.cod) = .ok d ∧ b.eqvDiagram d = true ∧
      d = Diagram.ofBox b :=
  ⟨_, Diagram.then_id (Diagram.ofBox_wf b), b.eqvDiagram_ofBox, rfl⟩

end DV
