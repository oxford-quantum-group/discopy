/-
  Proofs/InterchangeBack.lean — C05: an adjacent interchange can always be taken back.

  After `d.interchangeAdj i left = ok d'` the two exchanged boxes are still free in `d'` (the
  lower one now lies entirely beside the upper one, on the other side), so the opposite request
  `d'.interchangeAdj i left'` succeeds for BOTH preferences: it is never refused with an
  interchanger error and never raises anything else.

  Exact undo: under ONE of the two preferences (the left one after a right-case move, the default
  one after a left-case move) the way back selects the mirror branch and hands back the receiver
  field for field, offsets and layers included (`interchangeAdj_undo`).
-/
import Proofs.Interchange

namespace DV

/-- The exchanged pair of layers sits at positions `i, i+1` of the result. -/
theorem Diagram.interchangeAdj_layers {d d' : Diagram} {i : Nat} {left : Bool} (hd : d.WF)
    (h : d.interchangeAdj i left = .ok d') :
    ∃ l0 l1 y0 y1, d.layers.boxes[i]? = some l0 ∧ d.layers.boxes[i+1]? = some l1 ∧
      d'.layers.boxes[i]? = some y1 ∧ d'.layers.boxes[i+1]? = some y0 ∧
      ExchPair l0 l1 y1 y0 ∧ d'.WF ∧ d'.dom = d.dom ∧ d'.cod = d.cod ∧
      d'.layers.boxes = d.layers.boxes.take i ++ [y1, y0] ++ d.layers.boxes.drop (i + 2) := by
  obtain ⟨l0, l1, y0, y1, _, _, ⟨e2, e3, hch, hwf, hdom, hcod, hboxes⟩⟩ :=
    Diagram.interchangeAdj_ok hd h
  have hi : i + 1 < d.layers.boxes.length := (List.getElem?_eq_some_iff.mp e3).1
  obtain ⟨f2, f3, _, _⟩ := pair_at (a := y1) (b := y0) (r := d.layers.boxes.drop (i + 2))
    (List.length_take_of_le (by omega : i ≤ d.layers.boxes.length))
  exact ⟨l0, l1, y0, y1, e2, e3, hboxes ▸ f2, hboxes ▸ f3,
    interchangeChoice_exch (chain_adjacent hd.chain e2 e3) rfl rfl hch, hwf, hdom, hcod, hboxes⟩

/-- After an adjacent interchange the two boxes are free again (on the other side). -/
theorem Diagram.interchangeAdj_back_free {d d' : Diagram} {i : Nat} {left : Bool} (hd : d.WF)
    (h : d.interchangeAdj i left = .ok d') : freeAt d' i := by
  obtain ⟨l0, l1, y0, y1, _, _, e2, e3, hex, hwf, _, _, _⟩ := Diagram.interchangeAdj_layers hd h
  refine (freeAt_iff hwf e2 e3).mpr ?_
  obtain ⟨e, hc | hc⟩ := hex
  · -- the result is `g` first: the upper box `g` lies to the right of the lower box `f`
    simp only [ExchData.fFirst, ExchData.gFirst, Prod.mk.injEq] at hc
    obtain ⟨_, rfl, rfl⟩ := hc
    left
    simp only [List.length_append]
    omega
  · -- the result is `f` first: the upper box `f` lies to the left of the lower box `g`
    simp only [ExchData.fFirst, ExchData.gFirst, Prod.mk.injEq] at hc
    obtain ⟨_, rfl, rfl⟩ := hc
    right
    simp only [List.length_append]
    omega

/-- An adjacent interchange can be taken back with either preference. -/
theorem Diagram.interchangeAdj_back_ok {d d' : Diagram} {i : Nat} {left : Bool} (hd : d.WF)
    (h : d.interchangeAdj i left = .ok d') (left' : Bool) :
    ∃ d'', d'.interchangeAdj i left' = .ok d'' := by
  obtain ⟨_, _, _, _, _, _, _, f3, _, hwf, _, _, _⟩ := Diagram.interchangeAdj_layers hd h
  have hi : i + 1 < d'.boxes.length := by
    rw [hwf.boxes, List.length_map]
    exact (List.getElem?_eq_some_iff.mp f3).1
  exact ((Diagram.interchangeAdj_ok_iff (left := left') hwf hi).1).mpr
    (Diagram.interchangeAdj_back_free hd h)

/-! ### Exact undo -/

/-- For an exchanged pair there is a preference under which the branch selection, applied to the
    exchanged layers, gives back the original two layers. -/
theorem interchangeChoice_undo {l0 l1 y0 y1 : Layer} (h : ExchPair l0 l1 y1 y0) :
    ∃ left' o0 o1, interchangeChoice left' (y1.left.length : Int) (y0.left.length : Int) y1 y0
      = .ok (o0, o1, l1, l0) := by
  obtain ⟨e, hc | hc⟩ := h
  · -- forward: `f` first became `g` first; back with the default preference (right case)
    simp only [ExchData.fFirst, ExchData.gFirst, Prod.mk.injEq] at hc
    obtain ⟨⟨rfl, rfl⟩, rfl, rfl⟩ := hc
    refine ⟨false, ((e.l ++ e.f.dom ++ e.m).length : Int) - e.f.dom.length + e.f.cod.length,
      (e.l.length : Int), ?_⟩
    unfold interchangeChoice
    simp only [Bool.false_and, Bool.false_eq_true, if_false]
    rw [if_pos (by simp only [List.length_append]; omega)]
    simp only [rightCase]
    -- read the slice bound as the cast of a `Nat`, the form `pySlice_drop` is stated for
    have : ((e.l ++ e.f.dom).length : Int) = ((e.l ++ e.f.dom).length : Nat) := rfl
    rw [this, pySlice_drop]
    simp [List.append_assoc]
  · -- forward: `g` first became `f` first; back with the left preference (left case)
    simp only [ExchData.fFirst, ExchData.gFirst, Prod.mk.injEq] at hc
    obtain ⟨⟨rfl, rfl⟩, rfl, rfl⟩ := hc
    refine ⟨true, (e.l.length : Int),
      ((e.l ++ e.f.cod ++ e.m).length : Int) - e.f.cod.length + e.f.dom.length, ?_⟩
    unfold interchangeChoice
    rw [if_pos (by
      simp only [Bool.true_and, decide_eq_true_eq, List.length_append]; omega)]
    simp only [leftCase]
    -- as above
    have : ((e.l ++ e.f.cod).length : Int) = ((e.l ++ e.f.cod).length : Nat) := rfl
    rw [this, pySlice_drop]
    simp [List.append_assoc]

/-- An adjacent interchange is undone exactly by the opposite request under one of the two
    preferences: the receiver comes back field for field (offsets and layers included). -/
theorem Diagram.interchangeAdj_undo {d d' : Diagram} {i : Nat} {left : Bool} (hd : d.WF)
    (h : d.interchangeAdj i left = .ok d') : ∃ left', d'.interchangeAdj i left' = .ok d := by
  obtain ⟨l0, l1, y0, y1, e2, e3, f2, f3, hex, hwf, hdom, hcod, hboxes⟩ :=
    Diagram.interchangeAdj_layers hd h
  obtain ⟨left', o0, o1, hch⟩ := interchangeChoice_undo hex
  obtain ⟨d'', hd''⟩ := Diagram.interchangeAdj_back_ok hd h left'
  refine ⟨left', hd''.trans (congrArg _ ?_)⟩
  -- the way back reads `y1, y0` at `i, i+1` and puts `l0, l1` there
  obtain ⟨_, _, _, _, _, _, s⟩ := Diagram.interchangeAdj_ok hwf hd''
  cases f2.symm.trans s.at0
  cases f3.symm.trans s.at1
  cases hch.symm.trans s.choice
  apply Diagram.WF.ext s.wf hd (s.dom.trans hdom) (s.cod.trans hcod)
  have hi : i ≤ d.layers.boxes.length := Nat.le_of_lt (List.getElem?_eq_some_iff.mp e2).1
  obtain ⟨_, _, t1, t2⟩ := pair_at (a := y1) (b := y0) (r := d.layers.boxes.drop (i + 2))
    (List.length_take_of_le hi)
  rw [s.layers, hboxes, t1, t2]
  exact (list_split_pair e2 e3).symm

end DV
