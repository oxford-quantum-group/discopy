/-
  Proofs/DSLaws.lean — arrows of the free category that are either a plain diagram or a formal sum
  (`DS`, Model/FunctorSumImg.lean): closed forms of `>>`, `@` and their algebra (associativity, units,
  whiskering by identities distributes over `>>`), with the order of terms the code produces
  (`[op f g for f in fs for g in gs]`, cat.py:717 / monoidal.py:752).
-/
import Proofs.SumLaws
import Proofs.FunctorTensor
import Model.FunctorSumImg

namespace DV

/-! ### `[op f g for f in fs for g in gs]` -/

def lift2 (op : Diagram → Diagram → Diagram) (xs ys : List Diagram) : List Diagram :=
  xs.flatMap fun f => ys.map (op f)

theorem Sum.thenD_terms (a b : Sum) : (a.thenD b).terms = lift2 Diagram.thenD a.terms b.terms := rfl
theorem Sum.tensorD_terms (a b : Sum) : (a.tensorD b).terms = lift2 Diagram.tensorD a.terms b.terms := rfl

theorem lift2_single_right (op : Diagram → Diagram → Diagram) (xs : List Diagram) (e : Diagram) :
    lift2 op xs [e] = xs.map (fun f => op f e) := by
  induction xs with
  | nil => rfl
  | cons x xs ih => simp [lift2] at ih ⊢; exact ih

theorem lift2_single_left (op : Diagram → Diagram → Diagram) (e : Diagram) (ys : List Diagram) :
    lift2 op [e] ys = ys.map (op e) := by simp [lift2]

theorem lift2_append_left (op : Diagram → Diagram → Diagram) (xs xs' ys : List Diagram) :
    lift2 op (xs ++ xs') ys = lift2 op xs ys ++ lift2 op xs' ys := by simp [lift2]

theorem lift2_map_left (op : Diagram → Diagram → Diagram) (g : Diagram → Diagram)
    (xs ys : List Diagram) : lift2 op (xs.map g) ys = xs.flatMap fun f => ys.map (op (g f)) := by
  simp [lift2, List.flatMap_map]

theorem lift2_assoc {op : Diagram → Diagram → Diagram}
    (h : ∀ a b c, op (op a b) c = op a (op b c)) (xs ys zs : List Diagram) :
    lift2 op (lift2 op xs ys) zs = lift2 op xs (lift2 op ys zs) := by
  induction xs with
  | nil => rfl
  | cons x xs ih =>
    have e1 : lift2 op (x :: xs) ys = ys.map (op x) ++ lift2 op xs ys := by simp [lift2]
    have e2 : lift2 op (x :: xs) (lift2 op ys zs) =
        (lift2 op ys zs).map (op x) ++ lift2 op xs (lift2 op ys zs) := by simp [lift2]
    rw [e1, lift2_append_left, ih, e2]
    congr 1
    rw [lift2_map_left]
    simp only [lift2, List.map_flatMap, List.map_map]
    congr 1
    funext f
    apply List.map_congr_left
    intro g _
    simp [h]

/-- An operation that distributes over another one, term by term, on the right:
    `op1 (op2 a b) e = op2 (op1 a e) (op1 b e)`. -/
theorem lift2_distrib_right {op1 op2 : Diagram → Diagram → Diagram} (e : Diagram)
    (h : ∀ a b, op1 (op2 a b) e = op2 (op1 a e) (op1 b e)) (xs ys : List Diagram) :
    lift2 op1 (lift2 op2 xs ys) [e] = lift2 op2 (lift2 op1 xs [e]) (lift2 op1 ys [e]) := by
  simp only [lift2_single_right]
  simp only [lift2, List.map_flatMap, List.map_map, List.flatMap_map]
  congr 1
  funext f
  apply List.map_congr_left
  intro g _
  simp [h]

theorem lift2_distrib_left {op1 op2 : Diagram → Diagram → Diagram} (e : Diagram)
    (h : ∀ a b, op1 e (op2 a b) = op2 (op1 e a) (op1 e b)) (xs ys : List Diagram) :
    lift2 op1 [e] (lift2 op2 xs ys) = lift2 op2 (lift2 op1 [e] xs) (lift2 op1 [e] ys) := by
  simp only [lift2_single_left]
  simp only [lift2, List.map_flatMap, List.map_map, List.flatMap_map]
  congr 1
  funext f
  apply List.map_congr_left
  intro g _
  simp [h]

/-! ### Closed forms on sums: associativity, units, whiskering -/

theorem Sum.ext_fields {a b : Sum} (ht : a.terms = b.terms) (hd : a.dom = b.dom)
    (hc : a.cod = b.cod) : a = b := by
  cases a; cases b; simp only [Sum.mk.injEq]; exact ⟨ht, hd, hc⟩

theorem Sum.thenD_assoc (a b c : Sum) : (a.thenD b).thenD c = a.thenD (b.thenD c) := by
  refine Sum.ext_fields ?_ rfl rfl
  simp only [Sum.thenD_terms]
  exact lift2_assoc Diagram.thenD_assoc ..

theorem Sum.tensorD_assoc (a b c : Sum) : (a.tensorD b).tensorD c = a.tensorD (b.tensorD c) := by
  refine Sum.ext_fields ?_ (List.append_assoc ..) (List.append_assoc ..)
  simp only [Sum.tensorD_terms]
  exact lift2_assoc Diagram.tensorD_assoc ..

theorem Sum.single_thenD (f g : Diagram) :
    (Sum.single f).thenD (Sum.single g) = Sum.single (f.thenD g) := by
  simp [Sum.thenD, Sum.single, Diagram.thenD]

theorem Sum.single_tensorD (f g : Diagram) :
    (Sum.single f).tensorD (Sum.single g) = Sum.single (f.tensorD g) := by
  simp [Sum.tensorD, Sum.single, Diagram.tensorD]

theorem Sum.thenD_id {a : Sum} (ha : a.WF) {t : Ty} (h : a.cod = t) :
    a.thenD (Sum.single (Diagram.id t)) = a := by
  cases a with | mk terms dom cod =>
  simp only at h; subst h
  simp only [Sum.thenD, Sum.single, Diagram.id]
  congr 1
  have : ∀ f ∈ terms, Diagram.thenD f (Diagram.id cod) = f := fun f hf =>
    Diagram.thenD_id (ha f hf).1 (ha f hf).2.2
  induction terms with
  | nil => rfl
  | cons x xs ih =>
    simp only [List.flatMap_cons, List.map_cons, List.map_nil, List.singleton_append]
    rw [show Diagram.thenD x ⟨cod, cod, [], [], LArrow.id cod⟩ = x from this x (by simp)]
    congr 1
    exact ih (fun t ht => ha t (by simp [ht])) (fun f hf => this f (by simp [hf]))

theorem Sum.id_thenD {a : Sum} (ha : a.WF) {t : Ty} (h : a.dom = t) :
    (Sum.single (Diagram.id t)).thenD a = a := by
  cases a with | mk terms dom cod =>
  simp only at h; subst h
  simp only [Sum.thenD, Sum.single, Diagram.id, List.flatMap_cons, List.flatMap_nil,
    List.append_nil]
  congr 1
  have : ∀ f ∈ terms, Diagram.thenD (Diagram.id dom) f = f := fun f hf =>
    Diagram.id_thenD (ha f hf).1 (ha f hf).2.1
  calc terms.map (Diagram.thenD ⟨dom, dom, [], [], LArrow.id dom⟩)
      = terms.map id := List.map_congr_left (fun f hf => this f hf)
    _ = terms := by simp

/-! ### `DS`: well-typedness and closed forms -/

def DS.WF : DS → Prop
  | .diag d => d.WF
  | .sum s => s.WF

def DS.idD (t : Ty) : DS := .diag (Diagram.id t)

def DS.thenD : DS → DS → DS
  | .diag a, .diag b => .diag (a.thenD b)
  | .diag a, .sum b => .sum ((Sum.single a).thenD b)
  | .sum a, .diag b => .sum (a.thenD (Sum.single b))
  | .sum a, .sum b => .sum (a.thenD b)

def DS.tensorD : DS → DS → DS
  | .diag a, .diag b => .diag (a.tensorD b)
  | .diag a, .sum b => .sum ((Sum.single a).tensorD b)
  | .sum a, .diag b => .sum (a.tensorD (Sum.single b))
  | .sum a, .sum b => .sum (a.tensorD b)

theorem DS.idD_wf (t : Ty) : (DS.idD t).WF := Diagram.id_wf t

theorem DS.toSum_wf {x : DS} (h : x.WF) : x.toSum.WF := by
  cases x with
  | diag d => exact Sum.single_wf h
  | sum s => exact h

@[simp] theorem DS.toSum_dom (x : DS) : x.toSum.dom = x.dom := by cases x <;> rfl
@[simp] theorem DS.toSum_cod (x : DS) : x.toSum.cod = x.cod := by cases x <;> rfl
@[simp] theorem DS.idD_dom (t : Ty) : (DS.idD t).dom = t := rfl
@[simp] theorem DS.idD_cod (t : Ty) : (DS.idD t).cod = t := rfl

@[simp] theorem DS.thenD_dom (a b : DS) : (a.thenD b).dom = a.dom := by
  cases a <;> cases b <;> simp [DS.thenD, DS.dom, Diagram.thenD, Sum.single]
@[simp] theorem DS.thenD_cod (a b : DS) : (a.thenD b).cod = b.cod := by
  cases a <;> cases b <;> simp [DS.thenD, DS.cod, Diagram.thenD, Sum.single]
@[simp] theorem DS.tensorD_dom (a b : DS) : (a.tensorD b).dom = a.dom ++ b.dom := by
  cases a <;> cases b <;> simp [DS.tensorD, DS.dom, Diagram.tensorD, Sum.single]
@[simp] theorem DS.tensorD_cod (a b : DS) : (a.tensorD b).cod = a.cod ++ b.cod := by
  cases a <;> cases b <;> simp [DS.tensorD, DS.cod, Diagram.tensorD, Sum.single]

/-- `a >> b` on well-typed composable operands is the closed form (for sums: all pairs of terms,
    the terms of `a` varying slowest). -/
theorem DS.then_spec {a b : DS} (ha : a.WF) (hb : b.WF) (h : a.cod = b.dom) :
    a.then b = .ok (a.thenD b) := by
  cases a <;> cases b <;> simp only [DS.then, DS.thenD, DS.ofDiag, DS.ofSum]
  · rw [Diagram.then_spec ha hb h]
  · rw [Sum.then_spec (Sum.single_wf ha) hb h]
  · rw [Sum.then_spec ha (Sum.single_wf hb) h]
  · rw [Sum.then_spec ha hb h]

theorem DS.tensor_spec {a b : DS} (ha : a.WF) (hb : b.WF) : a.tensor b = .ok (a.tensorD b) := by
  cases a <;> cases b <;> simp only [DS.tensor, DS.tensorD, DS.ofDiag, DS.ofSum]
  · rw [Diagram.tensor_eq_tensorD ha hb]
  · rw [Sum.tensor_spec (Sum.single_wf ha) hb]
  · rw [Sum.tensor_spec ha (Sum.single_wf hb)]
  · rw [Sum.tensor_spec ha hb]

theorem DS.thenD_wf {a b : DS} (ha : a.WF) (hb : b.WF) (h : a.cod = b.dom) : (a.thenD b).WF := by
  cases a <;> cases b <;> simp only [DS.thenD, DS.WF]
  · exact Diagram.thenD_wf ha hb h
  · exact Sum.thenD_wf (Sum.single_wf ha) hb h
  · exact Sum.thenD_wf ha (Sum.single_wf hb) h
  · exact Sum.thenD_wf ha hb h

theorem DS.tensorD_wf {a b : DS} (ha : a.WF) (hb : b.WF) : (a.tensorD b).WF := by
  cases a <;> cases b <;> simp only [DS.tensorD, DS.WF]
  · exact Diagram.tensorD_wf ha hb
  · exact Sum.tensorD_wf (Sum.single_wf ha) hb
  · exact Sum.tensorD_wf ha (Sum.single_wf hb)
  · exact Sum.tensorD_wf ha hb

/-- Associativity of `>>` on `DS`, whatever mixture of plain diagrams and sums.  Here and in the laws
    below, `single (f ≫ g)` (resp. `@`) is rewritten backwards to `single f ≫ single g`, so that the
    law for sums applies to the mixed operands as well. -/
theorem DS.thenD_assoc (a b c : DS) : (a.thenD b).thenD c = a.thenD (b.thenD c) := by
  cases a <;> cases b <;> cases c <;>
    simp only [DS.thenD, Diagram.thenD_assoc, Sum.thenD_assoc, ← Sum.single_thenD]

theorem DS.tensorD_assoc (a b c : DS) : (a.tensorD b).tensorD c = a.tensorD (b.tensorD c) := by
  cases a <;> cases b <;> cases c <;>
    simp only [DS.tensorD, Diagram.tensorD_assoc, Sum.tensorD_assoc, ← Sum.single_tensorD]

theorem DS.thenD_id {x : DS} (hx : x.WF) {t : Ty} (h : x.cod = t) : x.thenD (DS.idD t) = x := by
  cases x with
  | diag d => simp only [DS.thenD, DS.idD]; rw [Diagram.thenD_id hx h]
  | sum s => simp only [DS.thenD, DS.idD]; rw [Sum.thenD_id hx h]

theorem DS.id_thenD {x : DS} (hx : x.WF) {t : Ty} (h : x.dom = t) : (DS.idD t).thenD x = x := by
  cases x with
  | diag d => simp only [DS.thenD, DS.idD]; rw [Diagram.id_thenD hx h]
  | sum s => simp only [DS.thenD, DS.idD]; rw [Sum.id_thenD hx h]

theorem DS.tensorD_id_id (s t : Ty) : (DS.idD s).tensorD (DS.idD t) = DS.idD (s ++ t) := by
  simp only [DS.idD, DS.tensorD, DV.tensorD_id_id]

/-! ### Whiskering by an identity distributes over `>>` -/

theorem Sum.thenD_tensorD_id (res lay : Sum) (t : Ty) :
    (res.thenD lay).tensorD (Sum.single (Diagram.id t)) =
      (res.tensorD (Sum.single (Diagram.id t))).thenD (lay.tensorD (Sum.single (Diagram.id t))) := by
  refine Sum.ext_fields ?_ rfl rfl
  simp only [Sum.thenD_terms, Sum.tensorD_terms]
  exact lift2_distrib_right (Diagram.id t) (fun a b => DV.thenD_tensorD_id a b t) ..

theorem Sum.id_tensorD_thenD (t : Ty) (res lay : Sum) :
    (Sum.single (Diagram.id t)).tensorD (res.thenD lay) =
      ((Sum.single (Diagram.id t)).tensorD res).thenD ((Sum.single (Diagram.id t)).tensorD lay) := by
  refine Sum.ext_fields ?_ rfl rfl
  simp only [Sum.thenD_terms, Sum.tensorD_terms]
  exact lift2_distrib_left (Diagram.id t) (fun a b => DV.id_tensorD_thenD t a b) ..

theorem DS.thenD_tensorD_id (res lay : DS) (t : Ty) :
    (res.thenD lay).tensorD (DS.idD t) =
      (res.tensorD (DS.idD t)).thenD (lay.tensorD (DS.idD t)) := by
  cases res <;> cases lay <;>
    simp only [DS.thenD, DS.tensorD, DS.idD, DV.thenD_tensorD_id, Sum.thenD_tensorD_id,
      ← Sum.single_tensorD]

theorem DS.id_tensorD_thenD (t : Ty) (res lay : DS) :
    (DS.idD t).tensorD (res.thenD lay) =
      ((DS.idD t).tensorD res).thenD ((DS.idD t).tensorD lay) := by
  cases res <;> cases lay <;>
    simp only [DS.thenD, DS.tensorD, DS.idD, DV.id_tensorD_thenD, Sum.id_tensorD_thenD,
      ← Sum.single_tensorD]

/-! ### The layer `Id(l) @ x @ Id(r)` -/

def DS.layerD (l : Ty) (x : DS) (r : Ty) : DS := ((DS.idD l).tensorD x).tensorD (DS.idD r)

theorem DS.layerD_wf {l r : Ty} {x : DS} (hx : x.WF) : (DS.layerD l x r).WF :=
  DS.tensorD_wf (DS.tensorD_wf (DS.idD_wf l) hx) (DS.idD_wf r)

@[simp] theorem DS.layerD_dom (l r : Ty) (x : DS) : (DS.layerD l x r).dom = l ++ x.dom ++ r := by
  simp [DS.layerD]
@[simp] theorem DS.layerD_cod (l r : Ty) (x : DS) : (DS.layerD l x r).cod = l ++ x.cod ++ r := by
  simp [DS.layerD]

theorem DS.layerD_whiskR (l r t : Ty) (x : DS) :
    (DS.layerD l x r).tensorD (DS.idD t) = DS.layerD l x (r ++ t) := by
  unfold DS.layerD
  rw [DS.tensorD_assoc, DS.tensorD_id_id]

theorem DS.layerD_whiskL (u l r : Ty) (x : DS) :
    (DS.idD u).tensorD (DS.layerD l x r) = DS.layerD (u ++ l) x r := by
  unfold DS.layerD
  rw [← DS.tensorD_assoc, ← DS.tensorD_assoc, DS.tensorD_id_id]

/-- `id_l @ x @ id_r` succeeds on a well-typed image and is the closed form. -/
theorem DS.whisker_spec {l r : Ty} {x : DS} (hx : x.WF) :
    DS.whisker l x r = .ok (DS.layerD l x r) := by
  unfold DS.whisker
  have h1 : (DS.diag (Diagram.id l)).tensor x = .ok ((DS.idD l).tensorD x) :=
    DS.tensor_spec (DS.idD_wf l) hx
  rw [h1]
  exact DS.tensor_spec (DS.tensorD_wf (DS.idD_wf l) hx) (DS.idD_wf r)

/-! ### `(a @ Id(b.dom)) >> (Id(a.cod) @ b) = a @ b` -/

theorem Sum.exchange {a b : Sum} (ha : a.WF) (hb : b.WF) :
    (a.tensorD (Sum.single (Diagram.id b.dom))).thenD ((Sum.single (Diagram.id a.cod)).tensorD b) =
      a.tensorD b := by
  cases a with | mk ta da ca =>
  cases b with | mk tb db cb =>
  simp only [Sum.thenD, Sum.tensorD, Sum.single, Diagram.id, List.flatMap_cons, List.flatMap_nil,
    List.append_nil, List.map_cons, List.map_nil, Sum.mk.injEq, and_true]
  have key : ∀ f ∈ ta, List.map (Diagram.thenD (f.tensorD ⟨db, db, [], [], LArrow.id db⟩))
      (List.map (Diagram.tensorD ⟨ca, ca, [], [], LArrow.id ca⟩) tb) = List.map f.tensorD tb := by
    intro f hf
    rw [List.map_map]
    apply List.map_congr_left
    intro g hg
    have e1 : db = g.dom := (hb g hg).2.1.symm
    have e2 : ca = f.cod := (ha f hf).2.2.symm
    simp only [Function.comp_def]
    rw [e1, e2]
    exact Diagram.exchange f g
  clear ha
  induction ta with
  | nil => rfl
  | cons x xs ih =>
    simp only [List.flatMap_cons, List.singleton_append]
    rw [key x (by simp), ih (fun f hf => key f (by simp [hf]))]

theorem DS.exchange {a b : DS} (ha : a.WF) (hb : b.WF) :
    (a.tensorD (DS.idD b.dom)).thenD ((DS.idD a.cod).tensorD b) = a.tensorD b := by
  cases a <;> cases b <;> simp only [DS.thenD, DS.tensorD, DS.idD, DS.dom, DS.cod]
  · rw [Diagram.exchange]
  · rename_i f s
    rw [← Sum.single_tensorD]
    exact congrArg DS.sum (Sum.exchange (a := Sum.single f) (Sum.single_wf ha) hb)
  · rename_i s g
    rw [← Sum.single_tensorD]
    exact congrArg DS.sum (Sum.exchange (b := Sum.single g) ha (Sum.single_wf hb))
  · exact congrArg DS.sum (Sum.exchange ha hb)

end DV
