/-
  Proofs/TkImportTotal.lean — the model of `from_tk` returns a circuit on every importable input
  whose post-processing has the width of the non-post-selected bits (C13): after the loop
  (Proofs/TkImportTrace.lean) the final layer and the post-processing fit.
-/
import Proofs.TkImportTrace

namespace DV.Tk
open DV

/-! ### the final layer and the post-processing -/

theorem final_qubits (bras : PS) (m k : Nat) :
    ((((List.replicate m W.q).zipIdx k).map (finalBox bras)).map (·.dom)).flatten = List.replicate m .q ∧
      ((((List.replicate m W.q).zipIdx k).map (finalBox bras)).map (·.cod)).flatten = [] := by
  induction m generalizing k with
  | zero => simp
  | succ m ih =>
    simp only [List.replicate_succ, List.zipIdx_cons, List.map_cons, List.flatten_cons, (ih (k + 1)).1, (ih (k + 1)).2]
    unfold finalBox
    split <;> simp [D.box, TBox.dom, TBox.cod]

theorem final_bits (bras : PS) (m k : Nat) (h : ∀ i, k ≤ i → bras.has i = false) :
    ((((List.replicate m W.b).zipIdx k).map (finalBox bras)).map (·.dom)).flatten = List.replicate m .b ∧
      ((((List.replicate m W.b).zipIdx k).map (finalBox bras)).map (·.cod)).flatten = List.replicate m .b := by
  induction m generalizing k with
  | zero => simp
  | succ m ih =>
    have ih' := ih (k + 1) (fun i hi => h i (by omega))
    simp only [List.replicate_succ, List.zipIdx_cons, List.map_cons, List.flatten_cons, ih'.1, ih'.2]
    simp [finalBox, h k (Nat.le_refl k), D.id]

theorem finalLayer_units (inp : TkIn) (bras : PS) (h : ∀ k, bras.has k = true → k < inp.nq) :
    (finalLayer bras inp.units).dom = inp.units ∧ (finalLayer bras inp.units).cod = List.replicate inp.nbits .b := by
  -- `0 + inp.nq`: the index `zipIdx_append` gives the bit part of the units
  have hb : ∀ i, 0 + inp.nq ≤ i → bras.has i = false := by
    intro i hi
    cases hh : bras.has i with
    | false => rfl
    | true => have := h i hh; omega
  obtain ⟨q1, q2⟩ := final_qubits bras inp.nq 0
  obtain ⟨b1, b2⟩ := final_bits bras inp.nbits (0 + inp.nq) hb
  unfold finalLayer D.tensorAll
  obtain ⟨h1, h2⟩ := foldl_tensor_dom_cod (inp.units.zipIdx.map (finalBox bras)) (D.id [])
  rw [h1, h2]
  simp only [D.id, List.nil_append, TkIn.units, List.zipIdx_append, List.map_append, List.flatten_append,
    List.length_replicate, q1, q2, b1, b2, and_self]

/-- **The import is defined** on every importable tket circuit whose post-processing has as many
    inputs as there are non-post-selected bits. -/
theorem fromTk_total {inp : TkIn} (himp : inp.importable = true) (hpp : inp.pp.dom = inp.nbits) :
    ∃ d, fromTk inp = .ok d := by
  have himp' := himp
  unfold TkIn.importable at himp'
  rw [List.all_eq_true] at himp'
  obtain ⟨acc, hacc, inv⟩ := loopCmds_spec inp.cmds himp' (init_inv inp)
  change LoopInv inp acc (ImpSpec.run inp) at inv
  have sinv := spec_run_inv himp
  obtain ⟨f1, f2⟩ := finalLayer_units inp acc.bras (by rw [inv.bras]; exact sinv.keys)
  have hbody : fromTkBody inp = .ok ⟨acc.circuit.dom, List.replicate inp.nbits .b,
      acc.circuit.layers ++ (finalLayer acc.bras inp.units).layers⟩ := by
    simp only [fromTkBody, hacc, inv.cod, D.then, f1, f2, if_true]
  unfold fromTk
  rw [hbody]
  have hc : ∀ b, (addScalar b ⟨acc.circuit.dom, List.replicate inp.nbits .b,
      acc.circuit.layers ++ (finalLayer acc.bras inp.units).layers⟩).cod = inp.pp.toD.dom := by
    intro b
    unfold addScalar
    split <;> simp [D.tensor, D.box, TBox.cod, PP.toD, hpp]
  simp only [D.then, hc, if_true]
  exact ⟨_, rfl⟩

end DV.Tk
