/-
  Proofs/KetBra.lean — kets and bras of EVERY bitstring (C11: basis vectors, Ket† = Bra, ⟨bs|bs⟩ = 1;
  C16: the image under `gate2zx` denotes the basis vector exactly).

  zx.py:370-373 translates `Ket(b₁ … bₙ)` to one state `X(0, 1, bₖ/2)` per wire, placed to the right of the
  wires already there, and the scalar `2^(−n/2)`; `Bra` to the effects `X(1, 0, bₖ/2)`, each on the leftmost wire.
  Over every commutative ring: a box to the right of everything multiplies the accumulated matrix by
  `1 ⊗ X`, which is `A ⊗ X` (mixed-product law), so the states evaluate to the Kronecker product of the rows
  `r (1 + μ, 1 − μ)` (`evalZXFrom_states`); dually for the effects (`evalZXFrom_effects`).  At `μ = ±1` the row is
  `2r ⟨b|`, and `rⁿ (2r)ⁿ = 1`.  Transported to the executable model along `Cyc8.val`.
-/
import Proofs.RotCyc8

namespace DV.Gates
open DV

theorem codFrom_states {R α : Type} (μ : α → R) (rest : ZXD R) : ∀ (l : List α) (w : Nat),
    ZXD.codFrom w ((l.zipIdx w).map (fun p => (ZXB.x 0 1 (μ p.1), p.2)) ++ rest) = ZXD.codFrom (w + l.length) rest
  | [], w => rfl
  | a :: t, w => by
    simp only [List.zipIdx_cons, List.map_cons, List.cons_append, ZXD.codFrom, ZXB.dom, ZXB.cod, Nat.add_zero,
      Nat.le_refl, if_true, Nat.sub_zero, List.length_cons]
    rw [codFrom_states μ rest t (w + 1), Nat.add_right_comm, Nat.add_assoc]

theorem codFrom_effects {R α : Type} (μ : α → R) (rest : ZXD R) : ∀ l : List α,
    ZXD.codFrom l.length (l.map (fun a => (ZXB.x 1 0 (μ a), 0)) ++ rest) = ZXD.codFrom 0 rest
  | [] => rfl
  | a :: t => by
    simp only [List.map_cons, List.cons_append, ZXD.codFrom, ZXB.dom, ZXB.cod, List.length_cons, Nat.zero_add,
      Nat.le_add_left, if_true, Nat.add_sub_cancel, Nat.add_zero]
    exact codFrom_effects μ rest t

section Ring
variable {R : Type} [CommRing R]

theorem kron_one_right {m n : Nat} {A : Mat R} (hA : IsMat m n A) : kron A (identity 1) = A := by
  obtain ⟨f, rfl⟩ := isMat_iff.1 hA
  rw [identity_eq_tab, kron_tab, Nat.mul_one, Nat.mul_one]
  exact tab_congr fun i _ j _ => by simp [Nat.mod_one]

theorem kron_one_left {m n : Nat} {A : Mat R} (hA : IsMat m n A) : kron (identity 1) A = A := by
  obtain ⟨f, rfl⟩ := isMat_iff.1 hA
  rw [identity_eq_tab, kron_tab, Nat.one_mul, Nat.one_mul]
  exact tab_congr fun i hi j hj => by
    simp [Nat.div_eq_of_lt hi, Nat.div_eq_of_lt hj, Nat.mod_eq_of_lt hi, Nat.mod_eq_of_lt hj]

/-- A box to the right of all `w` wires: `A · (1_w ⊗ X) = A ⊗ X`. -/
theorem mul_layer_right {m w q : Nat} {A X : Mat R} (hA : IsMat m (pow2 w) A) (hX : IsMat 1 q X) :
    mul A (kron (idQ w) (kron X (idQ 0))) = kron A X := by
  have h := kron_mul_kron (pow2_pos w) Nat.one_pos hA (isMat_identity (pow2 w)) (isMat_identity 1) hX
  rw [mul_identity (pow2_pos w) hA, identity_mul Nat.one_pos hX, kron_one_right hA] at h
  rw [show idQ (R := R) 0 = identity 1 from rfl, kron_one_right hX, h, idQ]

/-- A box on the leftmost wire of `w + 1`, closing it: `(X ⊗ 1_w) · B = X ⊗ B`. -/
theorem mul_layer_left {w p n : Nat} {X B : Mat R} (hX : IsMat p 1 X) (hB : IsMat (pow2 w) n B) :
    mul (kron (idQ 0) (kron X (idQ w))) B = kron X B := by
  have h := kron_mul_kron Nat.one_pos (pow2_pos w) hX (isMat_identity 1) (isMat_identity (pow2 w)) hB
  rw [mul_identity Nat.one_pos hX, identity_mul (pow2_pos w) hB, kron_one_left hB] at h
  rw [show idQ (R := R) 0 = identity 1 from rfl, kron_one_left (hX.kron (isMat_idQ w)), h, idQ]

/-- A scalar box next to `w` wires multiplies by the scalar. -/
theorem mul_layer_scalar {m w : Nat} {A : Mat R} (hA : IsMat m (pow2 w) A) (s : R) :
    mul A (kron (idQ w) (kron [[s]] (idQ 0))) = msmul s A := by
  have e : [[s]] = msmul s (identity (R := R) 1) := by simp [msmul, smul, identity]
  rw [mul_layer_right hA (q := 1) (by simp [IsMat]), e, kron_msmul_right s hA (isMat_identity 1), kron_one_right hA]

/-- `⊗ₖ (aₖ, bₖ)` as a list: the entries of the Kronecker product of one-wire states. -/
def prodRow : List (R × R) → List R
  | [] => [1]
  | p :: t => smul p.1 (prodRow t) ++ smul p.2 (prodRow t)

theorem prodRow_length : ∀ ps : List (R × R), (prodRow ps).length = pow2 ps.length
  | [] => rfl
  | p :: t => by simp [prodRow, smul, pow2, prodRow_length t]; omega

theorem isMat_prodRow (ps : List (R × R)) : IsMat 1 (pow2 ps.length) [prodRow ps] := by
  simp [IsMat, prodRow_length]

theorem isMat_prodCol (ps : List (R × R)) : IsMat (pow2 ps.length) 1 ((prodRow ps).map ([·])) := by
  simp [IsMat, prodRow_length]

theorem kron_prodRow (p : R × R) (t : List (R × R)) : kron [[p.1, p.2]] [prodRow t] = [prodRow (p :: t)] := by
  simp [kron, prodRow]

theorem kron_prodCol (p : R × R) (t : List (R × R)) :
    kron [[p.1], [p.2]] ((prodRow t).map ([·])) = (prodRow (p :: t)).map ([·]) := by
  simp [kron, prodRow, smul, Function.comp_def]

/-- The row / column of `X(0, 1, μ)` / `X(1, 0, μ)`. -/
def xPair (r μ : R) : R × R := (r * (1 + μ), r * (1 + -μ))

theorem xMat_state (r μ : R) : xMat r 0 1 μ = [[(xPair r μ).1, (xPair r μ).2]] := by
  simp [xMat, bits, parity, rpow, xPair]

theorem xMat_effect (r μ : R) : xMat r 1 0 μ = [[(xPair r μ).1], [(xPair r μ).2]] := by
  simp [xMat, bits, parity, rpow, xPair]

/-- **States side by side**: from `w` wires and an accumulated `A`, the states `X(0, 1, μₖ)` at the offsets
    `w, w + 1, …` leave `A ⊗ (⊗ₖ rowₖ)`. -/
theorem evalZXFrom_states {α : Type} (r : R) (μ : α → R) (rest : ZXD R) :
    ∀ (l : List α) (w m : Nat) (A : Mat R), IsMat m (pow2 w) A →
    evalZXFrom r w A ((l.zipIdx w).map (fun p => (ZXB.x 0 1 (μ p.1), p.2)) ++ rest) =
      evalZXFrom r (w + l.length) (kron A [prodRow (l.map fun a => xPair r (μ a))]) rest
  | [], w, m, A, hA => by
    simp only [List.zipIdx_nil, List.map_nil, List.nil_append, List.length_nil, Nat.add_zero, prodRow]
    rw [show ([[1]] : Mat R) = identity 1 from rfl, kron_one_right hA]
  | a :: t, w, m, A, hA => by
    have hX : IsMat 1 2 [[(xPair r (μ a)).1, (xPair r (μ a)).2]] := by simp [IsMat]
    have hA' : IsMat m (pow2 (w + 1)) (kron A [[(xPair r (μ a)).1, (xPair r (μ a)).2]]) := by
      have := hA.kron hX
      rwa [Nat.mul_one, Nat.mul_comm] at this
    simp only [List.zipIdx_cons, List.map_cons, List.cons_append, evalZXFrom, ZXB.dom, ZXB.cod, ZXB.mat,
      Nat.sub_zero, Nat.sub_self, xMat_state]
    rw [mul_layer_right hA hX, evalZXFrom_states r μ rest t (w + 1) m _ hA',
      kron_assoc_of_isMat hA hX (isMat_prodRow _), kron_prodRow, Nat.add_right_comm, Nat.add_assoc,
      List.length_cons]

/-- **Effects one after the other on the leftmost wire**: they multiply `A` by the column `⊗ₖ colₖ`. -/
theorem evalZXFrom_effects {α : Type} (r : R) (μ : α → R) (rest : ZXD R) :
    ∀ (l : List α) (m : Nat) (A : Mat R), IsMat m (pow2 l.length) A →
    evalZXFrom r l.length A (l.map (fun a => (ZXB.x 1 0 (μ a), 0)) ++ rest) =
      evalZXFrom r 0 (mul A ((prodRow (l.map fun a => xPair r (μ a))).map ([·]))) rest
  | [], m, A, hA => by
    simp only [List.map_nil, List.map_cons, List.nil_append, List.length_nil, prodRow]
    rw [show ([[1]] : Mat R) = identity 1 from rfl, mul_identity Nat.one_pos hA]
  | a :: t, m, A, hA => by
    have hX : IsMat 2 1 [[(xPair r (μ a)).1], [(xPair r (μ a)).2]] := by simp [IsMat]
    have hL : IsMat (pow2 (t.length + 1)) (pow2 t.length)
        (kron (idQ 0) (kron [[(xPair r (μ a)).1], [(xPair r (μ a)).2]] (idQ t.length))) := by
      have := (isMat_idQ (R := R) 0).kron (hX.kron (isMat_idQ t.length))
      simpa [pow2] using this
    have hC := isMat_prodCol (t.map fun a => xPair r (μ a))
    rw [List.length_map] at hC
    simp only [List.map_cons, List.cons_append, List.length_cons, evalZXFrom, ZXB.dom, ZXB.cod, ZXB.mat,
      Nat.add_sub_cancel, Nat.add_zero, Nat.sub_zero, xMat_effect]
    rw [evalZXFrom_effects r μ rest t m _ (hA.mul (pow2_pos _) hL),
      mul_assoc_of_isMat (pow2_pos _) (pow2_pos _) hA hL hC, mul_layer_left hX hC, kron_prodCol]

/-- The value `e^{2πi·b/2}` carried by the spider of the bit `b`. -/
def bitVal (b : Bool) : R := if b then -1 else 1

def basisRow (bs : List Bool) : List R := (bits bs.length).map fun x => if x = bs then 1 else 0

/-- The product of the rows `r (1 + μ, 1 − μ)` at `μ = ±1` is `(2r)ⁿ ⟨bs|`. -/
theorem smul_prodRow_bits (r : R) : ∀ (bs : List Bool) (c : R),
    smul c (prodRow (bs.map fun b => xPair r (bitVal b))) =
      (bits bs.length).map fun x => if x = bs then c * (2 * r) ^ bs.length else 0
  | [], c => by simp [prodRow, smul, bits]
  | b :: t, c => by
    have key : ∀ a, smul c (smul a (prodRow (t.map fun b => xPair r (bitVal b)))) =
        (bits t.length).map fun x => if x = t then c * a * (2 * r) ^ t.length else 0 := fun a => by
      rw [← smul_prodRow_bits r t (c * a)]; simp [smul, mul_assoc]
    simp only [List.map_cons, prodRow, smul, List.map_append] at key ⊢
    rw [key, key]
    -- `bits (n + 1)` lists the `false :: x` first, then the `true :: x`; the halves of the product row are the
    -- multiples of the row of `t` by `r (1 + μ)` and by `r (1 − μ)`
    simp only [List.length_cons, bits, List.map_append, List.map_map, Function.comp_def, List.cons.injEq]
    have two : ∀ x, (if x = t then c * (r * (1 + 1)) * (2 * r) ^ t.length else 0) =
        if x = t then c * (2 * r) ^ (t.length + 1) else 0 := fun x => by
      rw [show c * (r * (1 + 1)) * (2 * r) ^ t.length = c * (2 * r) ^ (t.length + 1) by ring]
    have zero : ∀ x, (if x = t then c * (r * (1 + -1)) * (2 * r) ^ t.length else 0) = 0 := fun x => by
      rw [show c * (r * (1 + -1)) * (2 * r) ^ t.length = 0 by ring, ite_self]
    cases b
    · -- `μ = 1`: the row is `(2r, 0)`, the `false :: x` half carries `⟨t|`
      simp only [xPair, bitVal, Bool.false_eq_true, if_false, true_and, false_and, reduceCtorEq, two, zero]
    · -- `μ = −1`: the row is `(0, 2r)`, the `true :: x` half carries `⟨t|`
      simp only [xPair, bitVal, if_true, true_and, false_and, reduceCtorEq, if_false, neg_neg, two, zero]

theorem rpow_mul_two_pow (r : R) (hr : 2 * r * r = 1) : ∀ n, rpow r n * (2 * r) ^ n = 1
  | 0 => by simp [rpow]
  | n + 1 => by
    rw [rpow, pow_succ]
    linear_combination (2 * r * r) * rpow_mul_two_pow r hr n + hr

/-- **zx.py:370-373 for kets**: the states `X(0, 1, bₖ/2)` side by side and the scalar `2^(−n/2)` denote `⟨bs|`. -/
theorem evalZX_ket (r : R) (hr : 2 * r * r = 1) (bs : List Bool) :
    evalZX r 0 (bs.zipIdx.map (fun p => (ZXB.x 0 1 (bitVal p.1), p.2)) ++ [(.scalar (rpow r bs.length), bs.length)]) =
      [basisRow bs] := by
  rw [evalZX, evalZXFrom_states r bitVal _ bs 0 1 _ (isMat_idQ 0), show idQ (R := R) 0 = identity 1 from rfl,
    kron_one_left (isMat_prodRow _)]
  have hP := isMat_prodRow (bs.map fun b => xPair r (bitVal (R := R) b))
  rw [List.length_map] at hP
  simp only [evalZXFrom, ZXB.dom, ZXB.mat, Nat.zero_add, Nat.sub_self]
  rw [mul_layer_scalar hP, msmul, List.map_cons, List.map_nil, smul_prodRow_bits, rpow_mul_two_pow r hr]
  rfl

/-- … and for bras: the effects `X(1, 0, bₖ/2)`, each closing the leftmost wire, denote `|bs⟩`. -/
theorem evalZX_bra (r : R) (hr : 2 * r * r = 1) (bs : List Bool) :
    evalZX r bs.length (bs.map (fun b => (ZXB.x 1 0 (bitVal b), 0)) ++ [(.scalar (rpow r bs.length), 0)]) =
      (basisRow bs).map ([·]) := by
  have hC := isMat_prodCol (bs.map fun b => xPair r (bitVal (R := R) b))
  rw [List.length_map] at hC
  rw [evalZX, evalZXFrom_effects r bitVal _ bs _ _ (isMat_idQ _), idQ, identity_mul (pow2_pos _) hC]
  simp only [evalZXFrom, ZXB.dom, ZXB.mat, Nat.sub_self]
  rw [mul_layer_scalar (w := 0) hC, show ∀ (s : R) (v : List R), msmul s (v.map ([·])) = (smul s v).map ([·]) from
    fun s v => by simp [msmul, smul], smul_prodRow_bits, rpow_mul_two_pow r hr]
  rfl

end Ring

section Cyc8
open Cyc8

theorem bitsIndex_lt : ∀ bs : List Bool, bitsIndex bs < pow2 bs.length
  | [] => by simp [bitsIndex, pow2]
  | b :: t => by
    have := bitsIndex_lt t
    cases b <;> simp [bitsIndex, pow2] <;> omega

/-- `Bits.array` (gates.py:174-177) is the basis row: `bits n` lists the bitstrings in the order of their
    indices, leftmost bit most significant. -/
theorem basisVec_eq : ∀ bs : List Bool, basisVec bs = (bits bs.length).map fun x => if x = bs then 1 else 0
  | [] => by decide
  | b :: t => by
    have ih := basisVec_eq t
    have hlt := bitsIndex_lt t
    have zeros : (List.range (pow2 t.length)).map (fun _ => (0 : Cyc8)) = (bits t.length).map fun _ => 0 := by
      simp [List.map_const', bits_length]
    -- the indices below `2ⁿ` belong to `false :: x`, those from `2ⁿ` on to `true :: x`
    simp only [basisVec, List.length_cons, pow2, Nat.two_mul, List.range_add, List.map_append, List.map_map,
      Function.comp_def, bitsIndex, bits, List.cons.injEq] at ih ⊢
    cases b
    · simp only [Bool.false_eq_true, if_false, Nat.zero_add, true_and, false_and, reduceCtorEq]
      rw [ih, ← zeros]
      congr 1
      exact List.map_congr_left fun k hk => if_neg (by have := List.mem_range.1 hk; omega)
    · simp only [if_true, true_and, false_and, reduceCtorEq, if_false, Nat.add_left_cancel_iff]
      rw [ih, ← zeros]
      congr 1
      exact List.map_congr_left fun k hk => if_neg (by have := List.mem_range.1 hk; omega)

theorem map_val_basisVec (bs : List Bool) : (basisVec bs).map val = basisRow bs := by
  rw [basisVec_eq, basisRow, List.map_map]
  exact List.map_congr_left fun x _ => by simp only [Function.comp, apply_ite val, val_one, val_zero]

theorem basisVec_nrm (bs : List Bool) : ∀ x ∈ basisVec bs, Nrm x := by
  intro x hx
  simp only [basisVec, List.mem_map] at hx
  obtain ⟨k, _, rfl⟩ := hx
  split <;> rfl

theorem ket_shapeOK (bs : List Bool) : (Gate.ket bs).shapeOK = true :=
  Gate.shapeOK_of (by simp [IsMat, Gate.eval, Gate.evalW, Gate.isDagger, Gate.arrayW, Gate.dom, Gate.cod, basisVec, pow2])
    (by simpa [AllEnt, Gate.eval, Gate.evalW, Gate.isDagger, Gate.arrayW] using basisVec_nrm bs)

theorem bra_shapeOK (bs : List Bool) : (Gate.bra bs).shapeOK = true :=
  Gate.shapeOK_of (by simp [IsMat, Gate.eval, Gate.evalW, Gate.isDagger, Gate.arrayW, Gate.dom, Gate.cod, basisVec, pow2])
    (by simpa [AllEnt, Gate.eval, Gate.evalW, Gate.isDagger, Gate.arrayW] using basisVec_nrm bs)

theorem val_invSqrt2Pow : ∀ n, val (invSqrt2Pow n) = rpow (val invSqrt2) n
  | 0 => val_one
  | n + 1 => by
    rw [show invSqrt2Pow (n + 1) = invSqrt2 * invSqrt2Pow n from rfl, val_mul, val_invSqrt2Pow n]; rfl

/-- The spider of a bit (phase `b/2`) carries `±1`. -/
theorem val_bitPhase (b : Bool) : val (zetaPow (if b then 4 else 0)) = bitVal b := by
  cases b
  · exact val_one
  · rw [show zetaPow (if true then 4 else 0) = -1 by decide, val_neg, val_one]; rfl

theorem zxKetBra_normal (isBra : Bool) (bs : List Bool) : (zxKetBra isBra bs).normal = true := by
  cases isBra <;>
    simp [ZXDiag.normal, zxKetBra, List.all_append, List.all_map, Function.comp_def, ZXBox.normal, isNormal_invSqrt2Pow]

theorem sem_ket (bs : List Bool) :
    ((zxKetBra false bs).sem).mapD val =
      bs.zipIdx.map (fun p => (ZXB.x 0 1 (bitVal p.1), p.2)) ++
        [(.scalar (rpow (val invSqrt2) bs.length), bs.length)] := by
  simp [zxKetBra, ZXDiag.sem, ZXD.mapD, ZXBox.sem, ZXB.map, Function.comp_def, val_invSqrt2Pow, val_bitPhase]

theorem sem_bra (bs : List Bool) :
    ((zxKetBra true bs).sem).mapD val =
      bs.map (fun b => (ZXB.x 1 0 (bitVal b), 0)) ++ [(.scalar (rpow (val invSqrt2) bs.length), 0)] := by
  have fst : ∀ f : Bool → ZXB Q8 × Nat, bs.zipIdx.map (fun x => f x.1) = bs.map f := fun f => by
    rw [show (fun x : Bool × Nat => f x.1) = f ∘ Prod.fst from rfl, ← List.map_map, List.zipIdx_map_fst]
  simp [zxKetBra, ZXDiag.sem, ZXD.mapD, ZXBox.sem, ZXB.map, Function.comp_def, val_invSqrt2Pow, val_bitPhase]
  exact fst fun b => (ZXB.x 1 0 (bitVal b), 0)

/-- **C16, kets and bras of every bitstring**: the image under `gate2zx` denotes the basis vector exactly. -/
theorem ket_zx_eval (bs : List Bool) : ZXDiag.eval 0 (zxKetBra false bs) = [basisVec bs] := by
  apply eq_of_val (ZXDiag.eval_allEnt 0 (zxKetBra_normal false bs)) (by simpa [AllEnt] using basisVec_nrm bs)
  rw [ZXDiag.eval, mapM_evalZX val_isHom, sem_ket, evalZX_ket _ Cyc8.two_val_invSqrt2_sq]
  simp [mapM, map_val_basisVec]

theorem bra_zx_eval (bs : List Bool) : ZXDiag.eval bs.length (zxKetBra true bs) = (basisVec bs).map ([·]) := by
  apply eq_of_val (ZXDiag.eval_allEnt _ (zxKetBra_normal true bs)) (by simpa [AllEnt] using basisVec_nrm bs)
  rw [ZXDiag.eval, mapM_evalZX val_isHom, sem_bra, evalZX_bra _ Cyc8.two_val_invSqrt2_sq, ← map_val_basisVec]
  simp [mapM]

theorem gate2zx_ketbra_sound (fixed : Bool) (bs : List Bool) :
    zxEvalOf fixed (.ket bs) = .ok (Gate.ket bs).eval ∧ zxEvalOf fixed (.bra bs) = .ok (Gate.bra bs).eval :=
  ⟨congrArg Except.ok (ket_zx_eval bs), congrArg Except.ok (bra_zx_eval bs)⟩

theorem zxKetBra_typed (bs : List Bool) :
    ZXDiag.codFrom 0 (zxKetBra false bs) = some bs.length ∧ ZXDiag.codFrom bs.length (zxKetBra true bs) = some 0 := by
  constructor
  · rw [codFrom_sem, ← codFrom_map val, sem_ket, codFrom_states]
    simp [ZXD.codFrom, ZXB.dom, ZXB.cod]
  · rw [codFrom_sem, ← codFrom_map val, sem_bra, codFrom_effects]
    simp [ZXD.codFrom, ZXB.dom, ZXB.cod]

theorem msmul_one_nrm {A : M8} (h : AllEnt Nrm A) : msmul 1 A = A := by
  have one_mul : ∀ x : Cyc8, Nrm x → 1 * x = x := fun x hx =>
    val_inj (isNormal_mul (x := 1) rfl hx) hx (by rw [val_mul, val_one, _root_.one_mul])
  unfold msmul smul
  conv_rhs => rw [← List.map_id A]
  refine List.map_congr_left fun r hr => ?_
  conv_rhs => rw [id, ← List.map_id r]
  exact List.map_congr_left fun x hx => one_mul x (h r hr x hx)

theorem ket_zxOK (bs : List Bool) : (Gate.ket bs).zxOK 1 1 = true := by
  refine Gate.zxOK_of_eval ?_ ?_
  · simp only [Gate.zxTyped, gate2zx, ket_shapeOK, zxKetBra_normal, (zxKetBra_typed bs).1, Gate.dom, Gate.cod,
      beq_self_eq_true]
    decide
  · simp only [zxEvalOf, gate2zx, Gate.dom]
    rw [ket_zx_eval, msmul_one_nrm (Gate.shapeOK_spec (ket_shapeOK bs)).2]
    rfl

theorem bra_zxOK (bs : List Bool) : (Gate.bra bs).zxOK 1 1 = true := by
  refine Gate.zxOK_of_eval ?_ ?_
  · simp only [Gate.zxTyped, gate2zx, bra_shapeOK, zxKetBra_normal, (zxKetBra_typed bs).2, Gate.dom, Gate.cod,
      beq_self_eq_true]
    decide
  · simp only [zxEvalOf, gate2zx, Gate.dom]
    rw [bra_zx_eval, msmul_one_nrm (Gate.shapeOK_spec (bra_shapeOK bs)).2]
    rfl

/-! ### C11: Ket† = Bra, ⟨bs|bs⟩ = 1 -/

theorem transpose_col {α : Type} : ∀ v : List α, v ≠ [] → transpose (v.map ([·])) = [v]
  | [a], _ => rfl
  | a :: b :: t, _ => by
    have ih := transpose_col (b :: t) (by simp)
    simp only [List.map_cons] at ih ⊢
    rw [transpose, ih]
    · rfl
    · simp

theorem conj_basisVec (bs : List Bool) : (basisVec bs).map Cyc8.conj = basisVec bs := by
  rw [basisVec, List.map_map]
  exact List.map_congr_left fun k _ => by simp only [Function.comp, apply_ite Cyc8.conj]; rfl

theorem ket_dagger_eval (bs : List Bool) : dagger [basisVec bs] = (basisVec bs).map ([·]) := by
  conv_rhs => rw [← conj_basisVec]
  simp [dagger, transpose, Conj.conj, Function.comp_def]

theorem bra_dagger_eval (bs : List Bool) : dagger ((basisVec bs).map ([·])) = [basisVec bs] := by
  have hne : basisVec bs ≠ [] := by
    have := pow2_pos bs.length
    simp [basisVec]; omega
  rw [dagger, transpose_col _ hne]
  simp [Conj.conj, conj_basisVec]

theorem ket_mul_bra (bs : List Bool) : mul [basisVec bs] ((basisVec bs).map ([·])) = [[1]] := by
  have hv : AllEnt Nrm [basisVec bs] := by simpa [AllEnt] using basisVec_nrm bs
  have hc : AllEnt Nrm ((basisVec bs).map ([·])) := by simpa [AllEnt] using basisVec_nrm bs
  apply eq_of_val (hv.mul nrm_closed hc) (by simp [AllEnt, Nrm]; rfl)
  have e1 : mapM val [basisVec bs] = tab 1 (pow2 bs.length) fun _ k => if k = bitsIndex bs then 1 else 0 := by
    simp [mapM, basisVec, tab, apply_ite val, val_one, val_zero]
  have e2 : mapM val ((basisVec bs).map ([·])) =
      tab (pow2 bs.length) 1 fun k _ => if k = bitsIndex bs then 1 else 0 := by
    simp [mapM, basisVec, tab, apply_ite val, val_one, val_zero]
  rw [mapM_mul val_isHom, e1, e2, mul_tab (pow2_pos _)]
  simp [tab, mapM, val_one, bitsIndex_lt]
/-- Every ket is an isometry, every bra a co-isometry, and Ket ↔ Bra is the adjoint. -/
theorem ket_ok (bs : List Bool) : (Gate.ket bs).isoOK = true ∧ (Gate.ket bs).dagOK = true := by
  simp only [Gate.isoOK, Gate.dagOK, ket_shapeOK, Bool.true_and, beq_iff_eq]
  show mul [basisVec bs] (dagger [basisVec bs]) = idQ 0 ∧ (basisVec bs).map ([·]) = dagger [basisVec bs]
  rw [ket_dagger_eval]
  exact ⟨ket_mul_bra bs, rfl⟩

theorem bra_ok (bs : List Bool) : (Gate.bra bs).coisoOK = true ∧ (Gate.bra bs).dagOK = true := by
  simp only [Gate.coisoOK, Gate.dagOK, bra_shapeOK, Bool.true_and, beq_iff_eq]
  show mul (dagger ((basisVec bs).map ([·]))) ((basisVec bs).map ([·])) = idQ 0 ∧
    [basisVec bs] = dagger ((basisVec bs).map ([·]))
  rw [bra_dagger_eval]
  exact ⟨ket_mul_bra bs, rfl⟩

end Cyc8

end DV.Gates
