/-
  Proofs/Eq.lean — equality (`__eq__`), printed form (`__repr__`) and hash of diagrams, boxes,
  types and sums in the free categories.

  * `Diagram.eqv` is the code's `Diagram.__eq__` (monoidal.py:438-442): `dom, cod, boxes, offsets`;
    `Box.eqvDiagram` (Model/Repr.lean) is the asymmetric `Box.__eq__` against a plain diagram
    (monoidal.py:701-707); `Val` packages "a Python value is either a `Box` instance or a plain
    `Diagram`" and `Val.eqv` dispatches exactly as Python does.
  * Every `__hash__` in scope is `hash(repr(self))`, so `repr_congr` IS hash consistency
    (`hash_congr`): equal values print alike, hence hash alike, whatever the string hash is.
  * `reprT…_inj`: the printed constructor syntax (as a syntax tree) determines the value up to
    `==`.  That the flat string determines the syntax tree is Python's parser's side and needs
    token hygiene (Proofs/ReprString.lean).
-/
import Proofs.SumLaws
import Model.Repr
import Std.Data.String.ToInt

namespace DV

/-! ### `Diagram.__eq__` is an equivalence; on well-typed values it is `=` -/

theorem Diagram.eqv_symm {a b : Diagram} (h : a.eqv b = true) : b.eqv a = true := by
  rw [Diagram.eqv_iff] at h ⊢
  exact ⟨h.1.symm, h.2.1.symm, h.2.2.1.symm, h.2.2.2.symm⟩

theorem Diagram.eqv_trans {a b c : Diagram} (h1 : a.eqv b = true) (h2 : b.eqv c = true) :
    a.eqv c = true := by
  rw [Diagram.eqv_iff] at h1 h2 ⊢
  exact ⟨h1.1.trans h2.1, h1.2.1.trans h2.2.1, h1.2.2.1.trans h2.2.2.1, h1.2.2.2.trans h2.2.2.2⟩

/-- Reading the same boxes at the same offsets from the same type gives the same layers. -/
theorem chain_layers_unique {s c c' : Ty} {xs ys : List Layer} (hx : Chain s xs c)
    (hy : Chain s ys c') (hb : xs.map (·.box) = ys.map (·.box))
    (ho : xs.map (fun l => (l.left.length : Int)) = ys.map (fun l => (l.left.length : Int))) :
    xs = ys := by
  induction xs generalizing s ys with
  | nil => cases ys with
    | nil => rfl
    | cons y ys => simp at hb
  | cons x xs ih =>
    cases ys with
    | nil => simp at hb
    | cons y ys =>
      simp only [List.map_cons, List.cons.injEq] at hb ho
      obtain ⟨hb1, hb2⟩ := hb
      obtain ⟨ho1, ho2⟩ := ho
      have hlen : x.left.length = y.left.length := by omega
      have hdom : x.left ++ (x.box.dom ++ x.right) = y.left ++ (y.box.dom ++ y.right) := by
        have := hx.1.symm.trans hy.1
        simpa [Layer.dom, List.append_assoc] using this
      obtain ⟨hl, hrest⟩ := List.append_inj hdom hlen
      rw [hb1] at hrest
      have hr : x.right = y.right := List.append_cancel_left hrest
      have hxy : x = y := by
        cases x; cases y
        simp only at hl hb1 hr
        rw [hl, hb1, hr]
      subst hxy
      rw [ih hx.2 hy.2 hb2 ho2]

/-- The code's `==` ignores `layers`; on well-typed values nothing is lost: `==` is `=`. -/
theorem Diagram.eq_of_eqv {a b : Diagram} (ha : a.WF) (hb : b.WF) (h : a.eqv b = true) : a = b := by
  rw [Diagram.eqv_iff] at h
  obtain ⟨h1, h2, h3, h4⟩ := h
  apply Diagram.ext_layers ha hb
  have hl : a.layers.boxes = b.layers.boxes := by
    have ca : Chain a.dom a.layers.boxes a.layers.cod := by rw [← ha.ldom]; exact ha.chain
    have cb : Chain a.dom b.layers.boxes b.layers.cod := by rw [h1, ← hb.ldom]; exact hb.chain
    exact chain_layers_unique ca cb (by rw [← ha.boxes, ← hb.boxes, h3])
      (by rw [← ha.offsets, ← hb.offsets, h4])
  cases hla : a.layers; cases hlb : b.layers
  have e1 := ha.ldom; have e2 := ha.lcod; have e3 := hb.ldom; have e4 := hb.lcod
  simp_all

theorem Diagram.eqv_iff_eq {a b : Diagram} (ha : a.WF) (hb : b.WF) : a.eqv b = true ↔ a = b :=
  ⟨Diagram.eq_of_eqv ha hb, Diagram.eqv_of_eq⟩

/-! ### Mixed comparisons: a Python value is a `Box` instance or a plain `Diagram` -/

inductive Val where
  | box (b : Box)
  | diag (d : Diagram)
  deriving DecidableEq, Repr

/-- What the value is as a diagram (`Box.__init__`, monoidal.py:692-696). -/
def Val.toDiagram : Val → Diagram
  | .box b => Diagram.ofBox b
  | .diag d => d

def Val.WF (v : Val) : Prop := v.toDiagram.WF

/-- `u == v` as Python dispatches it:
    * box, box: `cat.Box.__eq__` (cat.py:600-604) — name, dom, cod, data, dagger flag (the class tag
      `kind` is determined by the name in Python: `Swap(x, y)`, `Cup(…)`, `Cap(…)` carry derived
      names; the model compares it directly);
    * box, diagram and diagram, box: `monoidal.Box.__eq__` (monoidal.py:701-707) both ways — `Box`
      is a subclass of `Diagram`, so for `diagram == box` Python calls the reflected
      `box.__eq__(diagram)` first;
    * diagram, diagram: `Diagram.__eq__` (monoidal.py:438-442). -/
def Val.eqv : Val → Val → Bool
  | .box a, .box b => a == b
  | .box a, .diag d => a.eqvDiagram d
  | .diag d, .box b => b.eqvDiagram d
  | .diag a, .diag b => a.eqv b

/-- A well-typed one-box diagram on the box's own domain has offset 0 and the box's codomain. -/
theorem Diagram.one_box_canonical {d : Diagram} {b : Box} (hd : d.WF) (hb : d.boxes = [b])
    (hdom : d.dom = b.dom) : d.offsets = [0] ∧ d.cod = b.cod := by
  have h3 := hd.boxes
  rw [hb] at h3
  cases hl : d.layers.boxes with
  | nil => simp [hl] at h3
  | cons l ls =>
    cases ls with
    | cons l' ls' => simp [hl] at h3
    | nil =>
      simp only [hl, List.map_cons, List.map_nil, List.cons.injEq, and_true] at h3
      have hc : Chain d.layers.dom [l] d.layers.cod := by rw [← hl]; exact hd.chain
      rw [hd.ldom, hd.lcod] at hc
      obtain ⟨h1, h2⟩ := chain_single.mp hc
      rw [hdom, h3] at h1
      have hlen := congrArg List.length h1
      simp [Layer.dom] at hlen
      have hl0 : l.left = [] := List.eq_nil_of_length_eq_zero (by omega)
      have hr0 : l.right = [] := List.eq_nil_of_length_eq_zero (by omega)
      refine ⟨?_, ?_⟩
      · rw [hd.offsets, hl]; simp [hl0]
      · rw [← h2]; simp [Layer.cod, hl0, hr0, h3]

/-- On well-typed values the asymmetric `Box.__eq__` agrees with comparing the wrapped one-box
    diagram field by field ("a box equals the one-box diagram that wraps it"). -/
theorem Box.eqvDiagram_eq_eqv {b : Box} {d : Diagram} (hd : d.WF) :
    b.eqvDiagram d = (Diagram.ofBox b).eqv d := by
  rw [Bool.eq_iff_iff, Box.eqvDiagram_iff, Diagram.eqv_iff]
  simp only [Diagram.ofBox]
  constructor
  · rintro ⟨h1, h2, h3⟩
    exact ⟨h2.symm, h3.symm, h1.symm, (Diagram.one_box_canonical hd h1 h2).1.symm⟩
  · rintro ⟨h1, h2, h3, _⟩
    exact ⟨h3.symm, h1.symm, h2.symm⟩

theorem Val.eqv_eq_toDiagram {u v : Val} (hu : u.WF) (hv : v.WF) :
    u.eqv v = u.toDiagram.eqv v.toDiagram := by
  cases u with
  | box a => cases v with
    | box b =>
      simp only [Val.eqv, Val.toDiagram]
      rw [Bool.eq_iff_iff, Diagram.eqv_iff]
      simp only [Diagram.ofBox, beq_iff_eq]
      constructor
      · intro h; subst h; simp
      · intro h; simp at h; exact h.2.2
    | diag d => exact Box.eqvDiagram_eq_eqv hv
  | diag d => cases v with
    | box b =>
      simp only [Val.eqv, Val.toDiagram]
      have hd : d.WF := hu
      rw [Box.eqvDiagram_eq_eqv hd, Bool.eq_iff_iff]
      exact ⟨Diagram.eqv_symm, Diagram.eqv_symm⟩
    | diag e => rfl

/-- "A box equals the one-box diagram that wraps it", both ways round. -/
theorem Val.box_eqv_wrap (b : Box) :
    (Val.box b).eqv (Val.diag (Diagram.ofBox b)) = true ∧
    (Val.diag (Diagram.ofBox b)).eqv (Val.box b) = true := by
  simp [Val.eqv, Box.eqvDiagram_iff, Diagram.ofBox]

/-! ### Sums: `Sum.__eq__` (cat.py:666-670) -/

theorem eqvList_iff {xs ys : List Diagram} :
    eqvList xs ys = true ↔ xs.length = ys.length ∧
      ∀ i (h1 : i < xs.length) (h2 : i < ys.length), (xs[i]).eqv (ys[i]) = true := by
  induction xs generalizing ys with
  | nil => cases ys <;> simp [eqvList]
  | cons x xs ih =>
    cases ys with
    | nil => simp [eqvList]
    | cons y ys =>
      simp only [eqvList, Bool.and_eq_true, ih, List.length_cons, Nat.add_right_cancel_iff]
      constructor
      · rintro ⟨h1, h2, h3⟩
        refine ⟨h2, ?_⟩
        intro i hi1 hi2
        cases i with
        | zero => simpa using h1
        | succ i => simpa using h3 i (by simpa using hi1) (by simpa using hi2)
      · rintro ⟨h1, h2⟩
        refine ⟨by simpa using h2 0 (by simp) (by simp), h1, ?_⟩
        intro i hi1 hi2
        have := h2 (i + 1) (by simpa using hi1) (by simpa using hi2)
        simp only [List.getElem_cons_succ] at this
        exact this

theorem eqvList_refl (xs : List Diagram) : eqvList xs xs = true :=
  eqvList_iff.mpr ⟨rfl, fun _ _ _ => Diagram.eqv_refl _⟩

theorem eqvList_symm {xs ys : List Diagram} (h : eqvList xs ys = true) : eqvList ys xs = true := by
  rw [eqvList_iff] at h ⊢
  exact ⟨h.1.symm, fun i h1 h2 => Diagram.eqv_symm (h.2 i h2 h1)⟩

theorem eqvList_trans {xs ys zs : List Diagram} (h1 : eqvList xs ys = true)
    (h2 : eqvList ys zs = true) : eqvList xs zs = true := by
  rw [eqvList_iff] at h1 h2 ⊢
  exact ⟨h1.1.trans h2.1, fun i hx hz =>
    Diagram.eqv_trans (h1.2 i hx (h1.1 ▸ hx)) (h2.2 i (h1.1 ▸ hx) hz)⟩

theorem eqvList_eq {xs ys : List Diagram} (hx : ∀ t ∈ xs, t.WF) (hy : ∀ t ∈ ys, t.WF)
    (h : eqvList xs ys = true) : xs = ys := by
  rw [eqvList_iff] at h
  exact List.ext_getElem h.1 fun i h1 h2 =>
    Diagram.eq_of_eqv (hx _ (List.getElem_mem h1)) (hy _ (List.getElem_mem h2)) (h.2 i h1 h2)

theorem Sum.eqv_iff {a b : Sum} :
    a.eqv b = true ↔ a.dom = b.dom ∧ a.cod = b.cod ∧ eqvList a.terms b.terms = true := by
  simp [Sum.eqv, and_assoc]

theorem Sum.eqv_refl (a : Sum) : a.eqv a = true :=
  Sum.eqv_iff.mpr ⟨rfl, rfl, eqvList_refl _⟩

theorem Sum.eqv_iff_eq {a b : Sum} (ha : a.WF) (hb : b.WF) : a.eqv b = true ↔ a = b := by
  constructor
  · intro h
    rw [Sum.eqv_iff] at h
    have := eqvList_eq (fun t ht => (ha t ht).1) (fun t ht => (hb t ht).1) h.2.2
    cases a; cases b; simp_all
  · rintro rfl; exact Sum.eqv_refl _

/-! ### `repr` respects `==`: hash consistency -/

theorem reprTDiagram_congr {a b : Diagram} (h : a.eqv b = true) :
    reprTDiagram a = reprTDiagram b := by
  rw [Diagram.eqv_iff] at h
  obtain ⟨h1, h2, h3, h4⟩ := h
  simp [reprTDiagram, reprTFull, h1, h2, h3, h4]

/-- Equal diagrams print alike. -/
theorem repr_congr {a b : Diagram} (h : a.eqv b = true) : reprDiagram a = reprDiagram b := by
  simp [reprDiagram, reprTDiagram_congr h]

/-- `__hash__` is `hash(repr(self))` (monoidal.py:453), so equal diagrams hash alike, for any
    string hash `H`. -/
theorem hash_congr {α} (H : String → α) {a b : Diagram} (h : a.eqv b = true) :
    H (reprDiagram a) = H (reprDiagram b) := by rw [repr_congr h]

/-- `repr` of a Python value: `Box.__repr__` for box instances, `Diagram.__repr__` otherwise. -/
def Val.reprT : Val → RT
  | .box b => reprTBox b
  | .diag d => reprTDiagram d
def Val.repr (v : Val) : String := v.reprT.render

/-- The printed form of a `Box` instance is the printed form of the one-box diagram wrapping it
    (the short-cut of monoidal.py:447-448). -/
theorem Val.reprT_eq_toDiagram (v : Val) : v.reprT = reprTDiagram v.toDiagram := by
  cases v with
  | box b => simp [Val.reprT, Val.toDiagram, reprTDiagram, Diagram.ofBox]
  | diag d => rfl

theorem Val.repr_congr {u v : Val} (hu : u.WF) (hv : v.WF) (h : u.eqv v = true) :
    u.repr = v.repr := by
  rw [Val.eqv_eq_toDiagram hu hv] at h
  simp [Val.repr, Val.reprT_eq_toDiagram, reprTDiagram_congr h]

theorem Val.hash_congr {α} (H : String → α) {u v : Val} (hu : u.WF) (hv : v.WF)
    (h : u.eqv v = true) : H u.repr = H v.repr := by rw [Val.repr_congr hu hv h]

theorem reprTSum_congr_list {xs ys : List Diagram} (h : eqvList xs ys = true) :
    xs.map reprTDiagram = ys.map reprTDiagram := by
  rw [eqvList_iff] at h
  refine List.ext_getElem (by simp [h.1]) fun i h1 h2 => ?_
  rw [List.getElem_map, List.getElem_map]
  exact reprTDiagram_congr (h.2 i (by simpa using h1) (by simpa using h2))

theorem Sum.repr_congr {a b : Sum} (h : a.eqv b = true) : reprSum a = reprSum b := by
  rw [Sum.eqv_iff] at h
  obtain ⟨h1, h2, h3⟩ := h
  have := reprTSum_congr_list h3
  unfold reprSum reprTSum
  cases ha : a.terms with
  | nil =>
    cases hb : b.terms with
    | nil => simp [h1, h2]
    | cons y ys => simp [ha, hb, eqvList] at h3
  | cons x xs =>
    cases hb : b.terms with
    | nil => simp [ha, hb, eqvList] at h3
    | cons y ys =>
      rw [ha, hb] at this
      simp only [this]

/-! ### The printed form loses nothing (syntax-tree level) -/

mutual
/-- Every opaque token (name / data repr) in the tree satisfies `ok`. -/
def RT.AllTok (ok : String → Prop) : RT → Prop
  | .tok s => ok s
  | .call _ args => RT.AllTokList ok args
  | .kw _ v => v.AllTok ok
  | .list xs => RT.AllTokList ok xs
  | .callm _ args _ => RT.AllTokList ok args
def RT.AllTokList (ok : String → Prop) : List RT → Prop
  | [] => True
  | x :: xs => x.AllTok ok ∧ RT.AllTokList ok xs
end

/-- Boxes the Python classes can produce: generators are free; `Swap`, `Cup`, `Cap` have the
    placeholder name `"-"` the model gives them (their Python name is derived from `dom`/`cod`), no
    data, no dagger flag and the shapes of monoidal.py:721-735, rigid.py:337-387. -/
def Box.Canon (b : Box) : Prop :=
  match b.kind with
  | .gen => True
  | .swap => ∃ l r, b = Box.swap l r
  | .cup => ∃ l r, b = Box.cup l r
  | .cap => ∃ l r, b = Box.cap l r

def Diagram.Canon (d : Diagram) : Prop := ∀ b ∈ d.boxes, b.Canon

theorem Box.Canon.dag {b : Box} (h : b.Canon) : b.dag.Canon := by
  cases b with
  | mk kind name dom cod dagger data =>
    cases kind
    · simp [Box.Canon, Box.dag]
    · obtain ⟨l, r, h⟩ := h
      simp only [Box.swap, Box.mk.injEq, true_and] at h
      obtain ⟨rfl, rfl, rfl, rfl, rfl⟩ := h
      exact ⟨r, l, by simp [Box.dag, Box.swap]⟩
    · obtain ⟨l, r, h⟩ := h
      simp only [Box.cup, Box.mk.injEq, true_and] at h
      obtain ⟨rfl, rfl, rfl, rfl, rfl⟩ := h
      exact ⟨l, r, by simp [Box.dag, Box.cap]⟩
    · obtain ⟨l, r, h⟩ := h
      simp only [Box.cap, Box.mk.injEq, true_and] at h
      obtain ⟨rfl, rfl, rfl, rfl, rfl⟩ := h
      exact ⟨l, r, by simp [Box.dag, Box.cup]⟩

theorem Diagram.Canon.then {a b d : Diagram} (ha : a.Canon) (hb : b.Canon) (h : a.then b = .ok d) :
    d.Canon := by
  obtain ⟨_, rfl⟩ := Diagram.then_ok' h
  intro x hx
  simp only [Diagram.thenD, List.mem_append] at hx
  exact hx.elim (ha x) (hb x)

theorem Diagram.Canon.tensor {a b d : Diagram} (ha : a.WF) (hb : b.WF) (hca : a.Canon)
    (hcb : b.Canon) (h : a.tensor b = .ok d) : d.Canon := by
  rw [Diagram.tensor_eq_tensorD ha hb] at h
  cases h
  intro x hx
  simp only [Diagram.tensorD, List.mem_append] at hx
  exact hx.elim (hca x) (hcb x)

theorem Diagram.Canon.dagger {d : Diagram} (hd : d.WF) (hc : d.Canon) : d.dagger.Canon := by
  intro x hx
  simp only [Diagram.dagger, Diagram.ofLayers, LArrow.dag, List.map_map, List.mem_map,
    List.mem_reverse, Function.comp] at hx
  obtain ⟨l, hl, rfl⟩ := hx
  apply Box.Canon.dag
  apply hc
  rw [hd.boxes]
  exact List.mem_map.mpr ⟨l, hl, rfl⟩

/-- Python int literals: distinct ints print differently. -/
theorem RT.int_inj {i j : Int} (h : RT.int i = RT.int j) : i = j := by
  simp only [RT.int, RT.tok.injEq, Int.toString_eq_repr] at h
  exact Int.repr_injective h

theorem reprTTyEntry_inj {x y : Ob} (h : reprTTyEntry x = reprTTyEntry y) : x = y := by
  cases x with
  | mk n z => cases y with
    | mk n' z' =>
      unfold reprTTyEntry reprTOb at h
      by_cases hz : z = 0 <;> by_cases hz' : z' = 0
      · simp_all
      · simp [hz, hz'] at h
      · simp [hz, hz'] at h
      · simp only [hz, hz', if_false, RT.call.injEq, List.cons.injEq, RT.tok.injEq, RT.kw.injEq,
          true_and, and_true] at h
        rw [h.1, RT.int_inj h.2]

theorem map_inj_on {α β} {f : α → β} {xs ys : List α}
    (hf : ∀ x ∈ xs, ∀ y ∈ ys, f x = f y → x = y) (h : xs.map f = ys.map f) : xs = ys := by
  induction xs generalizing ys with
  | nil => cases ys <;> simp_all
  | cons x xs ih =>
    cases ys with
    | nil => simp at h
    | cons y ys =>
      simp only [List.map_cons, List.cons.injEq] at h
      rw [hf x (by simp) y (by simp) h.1,
        ih (fun a ha b hb => hf a (by simp [ha]) b (by simp [hb])) h.2]

theorem reprTTy_inj {s t : Ty} (h : reprTTy s = reprTTy t) : s = t := by
  simp only [reprTTy, RT.call.injEq, true_and] at h
  exact map_inj_on (fun x _ y _ => reprTTyEntry_inj) h

theorem reprTData_inj {d e : String} (h : reprTData d = reprTData e) : d = e := by
  unfold reprTData at h
  by_cases hd : d = "-" <;> by_cases he : e = "-" <;> simp_all

theorem reprTGen_inj {n n' : String} {d d' c c' : Ty} {x x' : String}
    (h : reprTGenArgs n d c x = reprTGenArgs n' d' c' x') : n = n' ∧ d = d' ∧ c = c' ∧ x = x' := by
  simp only [reprTGenArgs, List.cons_append, List.nil_append, List.cons.injEq,
    RT.tok.injEq] at h
  exact ⟨h.1, reprTTy_inj h.2.1, reprTTy_inj h.2.2.1, reprTData_inj h.2.2.2⟩

/-- The constructor name a tree starts with (`""` for atoms, keywords, lists). -/
def RT.fn : RT → String
  | .call fn _ => fn
  | .callm fn _ _ => fn
  | _ => ""

def Kind.reprName : Kind → String
  | .gen => "Box" | .swap => "Swap" | .cup => "Cup" | .cap => "Cap"

def Kind.ofReprName : String → Kind
  | "Swap" => .swap | "Cup" => .cup | "Cap" => .cap | _ => .gen

theorem Kind.reprName_inj {k k' : Kind} (h : k.reprName = k'.reprName) : k = k' := by
  have inv : ∀ k : Kind, Kind.ofReprName k.reprName = k := fun k => by cases k <;> rfl
  rw [← inv k, h, inv]

theorem reprTBox_gen {b : Box} (hk : b.kind = .gen) :
    reprTBox b = if b.dagger then .callm "Box" (reprTGenArgs b.name b.cod b.dom b.data) "dagger"
      else .call "Box" (reprTGenArgs b.name b.dom b.cod b.data) := by
  rw [reprTBox, hk]

theorem reprTBox_fn (b : Box) : (reprTBox b).fn = b.kind.reprName := by
  cases hk : b.kind
  · rw [reprTBox_gen hk]; split <;> rfl
  all_goals rw [reprTBox, hk]; rfl

/-- `Swap`, `Cup`, `Cap`: a class name and the two objects. -/
theorem reprTPair_inj {fn : String} {l r l' r' : Ob}
    (h : RT.call fn [reprTTy [l], reprTTy [r]] = .call fn [reprTTy [l'], reprTTy [r']]) :
    l = l' ∧ r = r' := by
  simp only [RT.call.injEq, List.cons.injEq, and_true, true_and] at h
  cases reprTTy_inj h.1
  cases reprTTy_inj h.2
  exact ⟨rfl, rfl⟩

/-- `repr(box)` determines the box (among boxes the Python classes can produce): the class name
    gives the kind, `.dagger()` the flag, the arguments the other fields. -/
theorem reprTBox_inj {a b : Box} (ha : a.Canon) (hb : b.Canon) (h : reprTBox a = reprTBox b) :
    a = b := by
  have hk : a.kind = b.kind := Kind.reprName_inj (by rw [← reprTBox_fn, h, reprTBox_fn])
  unfold Box.Canon at ha hb
  rw [← hk] at hb
  cases hka : a.kind <;> simp only [hka] at ha hb
  · rw [reprTBox_gen hka, reprTBox_gen (hk ▸ hka)] at h
    cases a with | mk ka na da ca ga xa =>
    cases b with | mk kb nb db cb gb xb =>
    simp only at hk h
    subst hk
    cases ga <;> cases gb <;> simp only [if_true, if_false, Bool.false_eq_true] at h
    · obtain ⟨rfl, rfl, rfl, rfl⟩ := reprTGen_inj (RT.call.inj h).2
      rfl
    · cases h
    · cases h
    · obtain ⟨rfl, rfl, rfl, rfl⟩ := reprTGen_inj (RT.callm.inj h).2.1
      rfl
  all_goals
    obtain ⟨l, r, rfl⟩ := ha
    obtain ⟨l', r', rfl⟩ := hb
    obtain ⟨rfl, rfl⟩ := reprTPair_inj h
    rfl

theorem Kind.reprName_ne (k : Kind) : k.reprName ≠ "Id" ∧ k.reprName ≠ "Diagram" := by
  cases k <;> decide

/-- The three printed shapes of a diagram, monoidal.py:444-451. -/
theorem reprTDiagram_cases (d : Diagram) :
    (d.boxes = [] ∧ reprTDiagram d = .call "Id" [reprTTy d.dom]) ∨
    (∃ x, d.boxes = [x] ∧ d.dom = x.dom ∧ reprTDiagram d = reprTBox x) ∨
    reprTDiagram d = reprTFull d := by
  unfold reprTDiagram
  split
  · exact .inl ⟨‹_›, rfl⟩
  · split
    · exact .inr (.inl ⟨_, ‹_›, ‹_›, rfl⟩)
    · exact .inr (.inr rfl)
  · exact .inr (.inr rfl)

theorem Diagram.WF.id_fields {d : Diagram} (hd : d.WF) (hbx : d.boxes = []) :
    d.cod = d.dom ∧ d.offsets = [] := by
  have hl : d.layers.boxes = [] := by
    have := hd.boxes; rw [hbx] at this
    exact List.map_eq_nil_iff.mp this.symm
  have hc := hd.chain
  simp only [LArrow.WF, hl, Chain] at hc
  exact ⟨by rw [← hd.lcod, ← hd.ldom, hc], by rw [hd.offsets, hl]; rfl⟩

/-- `repr(diagram)` determines the diagram up to `==`: the three shapes start with different
    constructor names (`Id`, a box class, `Diagram`), so neither short-cut of monoidal.py:444-448
    conflates distinct well-typed values. -/
theorem reprTDiagram_inj {a b : Diagram} (ha : a.WF) (hb : b.WF) (hca : a.Canon) (hcb : b.Canon)
    (h : reprTDiagram a = reprTDiagram b) : a.eqv b = true := by
  have hfn := congrArg RT.fn h
  rw [Diagram.eqv_iff]
  rcases reprTDiagram_cases a with ⟨ha0, ea⟩ | ⟨x, hax, hdx, ea⟩ | ea <;>
    rcases reprTDiagram_cases b with ⟨hb0, eb⟩ | ⟨y, hby, hdy, eb⟩ | eb <;>
    rw [ea, eb] at h hfn
  -- `Id` / `Id`
  · have hd := reprTTy_inj (List.cons.inj (RT.call.inj h).2).1
    obtain ⟨c1, o1⟩ := ha.id_fields ha0
    obtain ⟨c2, o2⟩ := hb.id_fields hb0
    exact ⟨hd, by rw [c1, c2, hd], by rw [ha0, hb0], by rw [o1, o2]⟩
  -- `Id` / box
  · rw [reprTBox_fn] at hfn; exact absurd hfn.symm y.kind.reprName_ne.1
  -- `Id` / `Diagram(…)`
  · exact absurd hfn (show "Id" ≠ "Diagram" by decide)
  -- box / `Id`
  · rw [reprTBox_fn] at hfn; exact absurd hfn x.kind.reprName_ne.1
  -- box / box
  · cases reprTBox_inj (hca x (by simp [hax])) (hcb y (by simp [hby])) h
    obtain ⟨o1, c1⟩ := Diagram.one_box_canonical ha hax hdx
    obtain ⟨o2, c2⟩ := Diagram.one_box_canonical hb hby hdy
    exact ⟨hdx.trans hdy.symm, c1.trans c2.symm, hax.trans hby.symm, o1.trans o2.symm⟩
  -- box / `Diagram(…)`
  · rw [reprTBox_fn] at hfn; exact absurd hfn x.kind.reprName_ne.2
  -- `Diagram(…)` / `Id`
  · exact absurd hfn (show "Diagram" ≠ "Id" by decide)
  -- `Diagram(…)` / box
  · rw [reprTBox_fn] at hfn; exact absurd hfn.symm y.kind.reprName_ne.2
  -- `Diagram(…)` / `Diagram(…)`
  · simp only [reprTFull, RT.call.injEq, List.cons.injEq, RT.kw.injEq, RT.list.injEq, true_and,
      and_true] at h
    obtain ⟨h1, h2, h3, h4⟩ := h
    exact ⟨reprTTy_inj h1, reprTTy_inj h2,
      map_inj_on (fun x hx y hy => reprTBox_inj (hca x hx) (hcb y hy)) h3,
      map_inj_on (fun x _ y _ e => RT.int_inj e) h4⟩

/-- The same for Python values (box instances and plain diagrams mixed). -/
theorem Val.reprT_inj {u v : Val} (hu : u.WF) (hv : v.WF) (hcu : u.toDiagram.Canon)
    (hcv : v.toDiagram.Canon) (h : u.reprT = v.reprT) : u.eqv v = true := by
  rw [Val.eqv_eq_toDiagram hu hv]
  rw [Val.reprT_eq_toDiagram, Val.reprT_eq_toDiagram] at h
  exact reprTDiagram_inj hu hv hcu hcv h

/-- `repr(sum)` determines the sum up to `==`.  An empty sum prints its `dom` and `cod`; a non-empty one
    prints only its terms, and `dom`, `cod` are recovered from the first term through `Sum.WF`. -/
theorem reprTSum_inj {a b : Sum} (ha : a.WF) (hb : b.WF) (hca : ∀ t ∈ a.terms, t.Canon)
    (hcb : ∀ t ∈ b.terms, t.Canon) (h : reprTSum a = reprTSum b) : a.eqv b = true := by
  have list_inj : ∀ {xs ys : List Diagram}, (∀ t ∈ xs, t.WF ∧ t.Canon) → (∀ t ∈ ys, t.WF ∧ t.Canon) →
      xs.map reprTDiagram = ys.map reprTDiagram → eqvList xs ys = true := by
    intro xs ys hx hy h
    have hlen : xs.length = ys.length := by simpa using congrArg List.length h
    refine eqvList_iff.mpr ⟨hlen, fun i h1 h2 => ?_⟩
    have hi : (xs.map reprTDiagram)[i]'(by simpa using h1) = (ys.map reprTDiagram)[i]'(by simpa using h2) := by
      simp only [h]
    rw [List.getElem_map, List.getElem_map] at hi
    exact reprTDiagram_inj (hx _ (List.getElem_mem h1)).1 (hy _ (List.getElem_mem h2)).1
      (hx _ (List.getElem_mem h1)).2 (hy _ (List.getElem_mem h2)).2 hi
  unfold reprTSum at h
  rw [Sum.eqv_iff]
  split at h
  · rename_i ha0
    split at h
    · rename_i hb0
      simp only [RT.call.injEq, List.cons.injEq, RT.kw.injEq, and_true, true_and] at h
      exact ⟨reprTTy_inj h.1, reprTTy_inj h.2, by rw [ha0, hb0]; rfl⟩
    · simp at h
  · rename_i x xs hax
    split at h
    · simp at h
    · rename_i y ys hby
      simp only [RT.call.injEq, List.cons.injEq, RT.list.injEq, and_true, true_and] at h
      have hl : eqvList a.terms b.terms = true := by
        rw [hax, hby]
        apply list_inj
        · intro t ht; rw [← hax] at ht; exact ⟨(ha t ht).1, hca t ht⟩
        · intro t ht; rw [← hby] at ht; exact ⟨(hb t ht).1, hcb t ht⟩
        · simpa using h
      rw [hax, hby] at hl
      simp only [eqvList, Bool.and_eq_true] at hl
      have hx := ha x (by simp [hax])
      have hy := hb y (by simp [hby])
      have e := Diagram.eqv_iff.mp hl.1
      refine ⟨by rw [← hx.2.1, ← hy.2.1, e.1], by rw [← hx.2.2, ← hy.2.2, e.2.1], ?_⟩
      rw [hax, hby]; simp [eqvList, hl.1, hl.2]

end DV
