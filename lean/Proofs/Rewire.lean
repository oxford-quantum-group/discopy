/-
  Proofs/Rewire.lean — `rewire(op, a, b)` (gates.py:603-638) is "op on the qubits a and b" for all `a, b < 4`, on the
  generic integer matrix.

  The adjacent pairs are evaluated.  The others conjugate `op ⊗ 1` with a permutation matrix `P`; since
  `P[i][j] = 1` exactly when `j = π i`, the product `P† K P` is `K` re-indexed by `π⁻¹` (`perm_conj_tab`), so no
  matrix product is evaluated: only `P` itself, the index map and the comparison with `actsOn`.
-/
import Proofs.MatAlg
import Proofs.GatesTable

namespace DV.Gates
open Finset

/-- `dagger_tab` (Proofs/MatAlg.lean) once more for `Int`: there `dagger` conjugates with the `star` of a star ring,
    whereas `rewireMat` over `Int` uses the model's own instance `Conj Int := ⟨id⟩`. -/
theorem dagger_tab_int {m : Nat} (hm : 0 < m) (n : Nat) (f : Nat → Nat → Int) :
    dagger (tab m n f) = tab n m fun j i => f i j := by
  unfold dagger tab
  rw [transpose_table f (List.range n) (List.range m) (by simp; omega)]
  simp [Function.comp_def, Conj.conj]

/-- Conjugation by a permutation matrix re-indexes: if `P[i][j] = 1` exactly when `j = π i` and `ρ` inverts `π` below
    `N`, then `(P† K P)[i][j] = K[ρ i][ρ j]`. -/
theorem perm_conj_tab {N : Nat} (hN : 0 < N) (K : Nat → Nat → Int) (π ρ : Nat → Nat)
    (h1 : ∀ t, t < N → ∀ j, j < N → (j = π t ↔ t = ρ j)) (h2 : ∀ j, j < N → ρ j < N) :
    mul (dagger (tab N N fun i j => if j = π i then (1 : Int) else 0))
      (mul (tab N N K) (tab N N fun i j => if j = π i then (1 : Int) else 0)) =
    tab N N fun i j => K (ρ i) (ρ j) := by
  have pick : ∀ (F : Nat → Int) (j : Nat), j < N →
      ∑ t ∈ range N, F t * (if j = π t then 1 else 0) = F (ρ j) := by
    intro F j hj
    rw [Finset.sum_eq_single (ρ j)]
    · rw [if_pos ((h1 _ (h2 j hj) j hj).2 rfl), mul_one]
    · intro t ht hne
      rw [if_neg fun h => hne ((h1 t (mem_range.1 ht) j hj).1 h), mul_zero]
    · intro h
      exact absurd (mem_range.2 (h2 j hj)) h
  rw [dagger_tab_int hN, mul_tab hN, mul_tab hN]
  apply tab_congr
  intro i hi j hj
  simp only [pick _ j hj]
  simp only [mul_comm (ite _ _ _)]
  exact pick (fun t => K t (ρ j)) i hi

/-- The permutation branch of `rewire` (gates.py:627-638) on the generic `op` with `p`-dimensional rest: the
    permutation matrix is given by its index map `πl` with inverse `ρl`, and `op ⊗ 1_p` is re-indexed by `ρl`. -/
theorem rewire_perm_case (perm : List Nat) (p : Nat) (hp : 0 < p) (πl ρl : List Nat) (spec : Mat Int)
    (hP : permMat perm = tab (4 * p) (4 * p) fun i j => if j = πl.getD i 0 then (1 : Int) else 0)
    (h1 : ∀ t, t < 4 * p → ∀ j, j < 4 * p → (j = πl.getD t 0 ↔ t = ρl.getD j 0))
    (h2 : ∀ j, j < 4 * p → ρl.getD j 0 < 4 * p)
    (hS : (tab (4 * p) (4 * p) fun i j =>
      ent genericOp (ρl.getD i 0 / p) (ρl.getD j 0 / p) * (if ρl.getD i 0 % p = ρl.getD j 0 % p then 1 else 0)) = spec) :
    mul (dagger (permMat perm)) (mul (kron genericOp (identity p)) (permMat perm)) = spec := by
  have hG : IsMat 4 4 genericOp := by decide
  rw [hP, hG.eq_tab, identity_eq_tab, kron_tab, perm_conj_tab (by omega) _ _ _ h1 h2, hS]

/-- For all `(a, b)` with `a, b < 4`: `rewire(op, a, b)` is refused iff `a = b` and otherwise
    evaluates to "op acting on qubits a and b" of `max(a, b) + 1` qubits. -/
theorem rewire_table :
    ∀ p ∈ pairs 4, rewireMat genericOp p.1 p.2 =
      if p.1 = p.2 then .error .value
      else .ok (actsOn genericOp (max p.1 p.2 + 1) p.1 p.2) := by
  have direct : ∀ p ∈ (pairs 4).filter (fun p => p.1 = p.2 || p.2 = p.1 + 1 || p.1 = p.2 + 1),
      rewireMat genericOp p.1 p.2 =
        if p.1 = p.2 then .error .value else .ok (actsOn genericOp (max p.1 p.2 + 1) p.1 p.2) := by
    decide +kernel
  have others : ∀ p ∈ pairs 4, (p.1 = p.2 || p.2 = p.1 + 1 || p.1 = p.2 + 1) = false →
      p ∈ [(0, 2), (2, 0), (0, 3), (3, 0), (1, 3), (3, 1)] := by decide
  -- The six permutation cases.  The two lists are the index map `π` of the permutation matrix (`πl[i]` = the column
  -- of the `1` in row `i` of `permMat (rewirePerm …)`, read off by evaluating it) and its inverse; nothing is taken
  -- on trust: the four `decide`s check that the matrix is the table of `πl`, that `ρl` inverts `πl` and stays in
  -- range, and that the re-indexed `op ⊗ 1` is `actsOn`.
  have r02 : rewireMat genericOp 0 2 = .ok (actsOn genericOp 3 0 2) :=
    congrArg Except.ok (rewire_perm_case (rewirePerm 3 0 2 false) 2 (by decide)
      [0, 2, 1, 3, 4, 6, 5, 7] [0, 2, 1, 3, 4, 6, 5, 7] _
      (by decide +kernel) (by decide +kernel) (by decide +kernel) (by decide +kernel))
  have r20 : rewireMat genericOp 2 0 = .ok (actsOn genericOp 3 2 0) :=
    congrArg Except.ok (rewire_perm_case (rewirePerm 3 0 2 true) 2 (by decide)
      [0, 2, 4, 6, 1, 3, 5, 7] [0, 4, 1, 5, 2, 6, 3, 7] _
      (by decide +kernel) (by decide +kernel) (by decide +kernel) (by decide +kernel))
  have r03 : rewireMat genericOp 0 3 = .ok (actsOn genericOp 4 0 3) :=
    congrArg Except.ok (rewire_perm_case (rewirePerm 4 0 3 false) 4 (by decide)
      [0, 4, 2, 6, 1, 5, 3, 7, 8, 12, 10, 14, 9, 13, 11, 15] [0, 4, 2, 6, 1, 5, 3, 7, 8, 12, 10, 14, 9, 13, 11, 15] _
      (by decide +kernel) (by decide +kernel) (by decide +kernel) (by decide +kernel))
  have r30 : rewireMat genericOp 3 0 = .ok (actsOn genericOp 4 3 0) :=
    congrArg Except.ok (rewire_perm_case (rewirePerm 4 0 3 true) 4 (by decide)
      [0, 4, 2, 6, 8, 12, 10, 14, 1, 5, 3, 7, 9, 13, 11, 15] [0, 8, 2, 10, 1, 9, 3, 11, 4, 12, 6, 14, 5, 13, 7, 15] _
      (by decide +kernel) (by decide +kernel) (by decide +kernel) (by decide +kernel))
  have r13 : rewireMat genericOp 1 3 = .ok (actsOn genericOp 4 1 3) :=
    congrArg Except.ok (rewire_perm_case (rewirePerm 4 1 3 false) 4 (by decide)
      [0, 8, 2, 10, 1, 9, 3, 11, 4, 12, 6, 14, 5, 13, 7, 15] [0, 4, 2, 6, 8, 12, 10, 14, 1, 5, 3, 7, 9, 13, 11, 15] _
      (by decide +kernel) (by decide +kernel) (by decide +kernel) (by decide +kernel))
  have r31 : rewireMat genericOp 3 1 = .ok (actsOn genericOp 4 3 1) :=
    congrArg Except.ok (rewire_perm_case (rewirePerm 4 1 3 true) 4 (by decide)
      [0, 8, 2, 10, 4, 12, 6, 14, 1, 9, 3, 11, 5, 13, 7, 15] [0, 8, 2, 10, 4, 12, 6, 14, 1, 9, 3, 11, 5, 13, 7, 15] _
      (by decide +kernel) (by decide +kernel) (by decide +kernel) (by decide +kernel))
  intro p hp
  cases h : (p.1 = p.2 || p.2 = p.1 + 1 || p.1 = p.2 + 1)
  · have := others p hp h
    simp only [List.mem_cons, List.not_mem_nil, or_false] at this
    rcases this with rfl | rfl | rfl | rfl | rfl | rfl
    · exact r02
    · exact r20
    · exact r03
    · exact r30
    · exact r13
    · exact r31
  · exact direct p (List.mem_filter.2 ⟨hp, h⟩)

end DV.Gates
