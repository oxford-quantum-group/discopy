/-
  Proofs/CQSwap.lean — `CQMap.swap` (cqmap.py:188-193, Model/CQ.lean `CQMap.swap`) is the
  wire-permutation tensor, wire by wire, for classical and quantum parts of ANY lengths and
  dimensions (heterogeneous: `C(Dim(2, 3)) @ Q(Dim(5))` against `Q(Dim(3, 2))`, empty parts, …).

  The model keeps the three blocks (classical, quantum, conjugate quantum copy) of an index of the
  underlying tensor flattened; `flatIdx` is the row-major (numpy C order) flattening of a
  multi-index with one entry per WIRE, `IsIdx ds xs` says that `xs` is such a multi-index over
  the wire dimensions `ds`.  `CQMap.swap_blocks` reads the model's swap at wire multi-indices,
  `CQMap.swap_utensor` reads the flattened `array` (the `utensor` of cqmap.py:119-122) at the
  multi-index over `classical @ quantum @ quantum`: the entry is 1 exactly when the output carries,
  in each of the three blocks, the wires of `right` first and then the wires of `left`, each in
  order and with the value it had on the input — and 0 otherwise.
-/
import Proofs.CQ

namespace DV.CQ

-- the combinatorial lemmas on `flatIdx`/`IsIdx` below do not mention the ring
set_option linter.unusedSectionVars false

variable {R : Type} [CommRing R] [StarRing R]

/-- Row-major flattening of a multi-index (one entry per wire) over the dimensions `ds`. -/
def flatIdx : List Nat → List Nat → Nat
  | _ :: ds, x :: xs => x * prodL ds + flatIdx ds xs
  | _, _ => 0

/-- `xs` is a multi-index over the wires of dimensions `ds`. -/
def IsIdx : List Nat → List Nat → Prop
  | [], [] => True
  | d :: ds, x :: xs => x < d ∧ IsIdx ds xs
  | _, _ => False

theorem IsIdx.length : ∀ {ds xs : List Nat}, IsIdx ds xs → xs.length = ds.length
  | [], [], _ => rfl
  | _ :: _, _ :: _, h => by simp [IsIdx.length h.2]
  | [], _ :: _, h => h.elim
  | _ :: _, [], h => h.elim

theorem flatIdx_lt : ∀ {ds xs : List Nat}, IsIdx ds xs → flatIdx ds xs < prodL ds
  | [], [], _ => by simp [flatIdx, prodL]
  | d :: ds, x :: xs, h => by
    show x * prodL ds + flatIdx ds xs < d * prodL ds
    exact pair_lt h.1 (flatIdx_lt h.2)
  | [], _ :: _, h => h.elim
  | _ :: _, [], h => h.elim

theorem IsIdx.append : ∀ {ds es xs ys : List Nat}, IsIdx ds xs → IsIdx es ys →
    IsIdx (ds ++ es) (xs ++ ys)
  | [], _, [], _, _, h => h
  | _ :: _, _, _ :: _, _, h, h' => ⟨h.1, IsIdx.append h.2 h'⟩
  | [], _, _ :: _, _, h, _ => h.elim
  | _ :: _, _, [], _, h, _ => h.elim

/-- A multi-index over `ds ++ es` is a multi-index over `ds` followed by one over `es`. -/
theorem IsIdx.split : ∀ {ds es zs : List Nat}, IsIdx (ds ++ es) zs →
    ∃ xs ys, zs = xs ++ ys ∧ IsIdx ds xs ∧ IsIdx es ys
  | [], _, zs, h => ⟨[], zs, rfl, trivial, h⟩
  | _ :: _, _, [], h => h.elim
  | d :: ds, es, z :: zs, h => by
    have h' : z < d ∧ IsIdx (ds ++ es) zs := h
    obtain ⟨xs, ys, rfl, hx, hy⟩ := IsIdx.split h'.2
    exact ⟨z :: xs, ys, rfl, ⟨h'.1, hx⟩, hy⟩

/-- Flattening is compatible with juxtaposition of wires: the left block is the high part. -/
theorem flatIdx_append : ∀ {ds xs : List Nat} (es ys : List Nat), IsIdx ds xs →
    flatIdx (ds ++ es) (xs ++ ys) = flatIdx ds xs * prodL es + flatIdx es ys
  | [], [], es, ys, _ => by
    show flatIdx es ys = 0 * prodL es + flatIdx es ys
    rw [Nat.zero_mul, Nat.zero_add]
  | d :: ds, x :: xs, es, ys, h => by
    show x * prodL (ds ++ es) + flatIdx (ds ++ es) (xs ++ ys) =
      (x * prodL ds + flatIdx ds xs) * prodL es + flatIdx es ys
    rw [flatIdx_append es ys h.2, prodL_append, Nat.add_mul, Nat.mul_assoc, Nat.add_assoc]
  | [], _ :: _, _, _, h => h.elim
  | _ :: _, [], _, _, h => h.elim

/-- Distinct multi-indices have distinct flat positions. -/
theorem flatIdx_inj : ∀ {ds xs ys : List Nat}, IsIdx ds xs → IsIdx ds ys →
    flatIdx ds xs = flatIdx ds ys → xs = ys
  | [], [], [], _, _, _ => rfl
  | d :: ds, x :: xs, y :: ys, hx, hy, h => by
    have h : x * prodL ds + flatIdx ds xs = y * prodL ds + flatIdx ds ys := h
    have h1 := congrArg (· / prodL ds) h
    have h2 := congrArg (· % prodL ds) h
    simp only [pair_div (flatIdx_lt hx.2), pair_div (flatIdx_lt hy.2),
      pair_mod (flatIdx_lt hx.2), pair_mod (flatIdx_lt hy.2)] at h1 h2
    rw [h1, flatIdx_inj hx.2 hy.2 h2]
  | [], _ :: _, _, h, _, _ => h.elim
  | [], [], _ :: _, _, h, _ => h.elim
  | _ :: _, [], _, h, _, _ => h.elim
  | _ :: _, _ :: _, [], _, h, _ => h.elim

theorem flatIdx_eq_iff {ds xs ys : List Nat} (hx : IsIdx ds xs) (hy : IsIdx ds ys) :
    flatIdx ds xs = flatIdx ds ys ↔ xs = ys :=
  ⟨flatIdx_inj hx hy, fun h => by rw [h]⟩

/-- `Tensor.swap` (tensor.py:231-237, `Mat.swap`) read at a pair of block indices: input
    `(x, y)`, output `(y', x')`. -/
theorem Mat.swap_pair {a b x y x' y' : Nat} (hy : y < b) (hx' : x' < a) :
    (Mat.swap a b : Mat R).f (x * b + y) (y' * a + x') = iv (x = x' ∧ y = y') := by
  show iv ((x * b + y) / b = (y' * a + x') % a ∧ (x * b + y) % b = (y' * a + x') / a) = _
  rw [pair_div hy, pair_mod hy, pair_div hx', pair_mod hx']

/-- One block of the swap at wire multi-indices: the output block `z` (over `es ++ ds`) must be
    the wires of the right type followed by those of the left type. -/
theorem Mat.swap_wires {ds es xs ys zs : List Nat} (hx : IsIdx ds xs) (hy : IsIdx es ys)
    (hz : IsIdx (es ++ ds) zs) :
    (Mat.swap (prodL ds) (prodL es) : Mat R).f (flatIdx (ds ++ es) (xs ++ ys))
      (flatIdx (es ++ ds) zs) = iv (zs = ys ++ xs) := by
  obtain ⟨z1, z2, rfl, h1, h2⟩ := hz.split
  rw [flatIdx_append es ys hx, flatIdx_append ds z2 h1,
    Mat.swap_pair (flatIdx_lt hy) (flatIdx_lt h2)]
  apply iv_congr
  rw [flatIdx_eq_iff hx h2, flatIdx_eq_iff hy h1]
  constructor
  · rintro ⟨rfl, rfl⟩; rfl
  · intro h
    obtain ⟨e1, e2⟩ := List.append_inj h (by rw [h1.length, hy.length])
    exact ⟨e2.symm, e1.symm⟩

namespace CQMap

/-- What `cq_swap_blocks` (Props/C10.lean) states.  `CQMap.swap(l, r)` read at wire multi-indices: on the input the wires of
    `l` then those of `r` in each of the three blocks (classical, quantum, conjugate quantum copy);
    the entry is 1 iff each output block is the wires of `r` followed by the wires of `l`. -/
theorem swap_blocks (l r : CQTy) {xc yc xq yq xp yp zc zq zp : List Nat}
    (hxc : IsIdx l.c xc) (hyc : IsIdx r.c yc) (hxq : IsIdx l.q xq) (hyq : IsIdx r.q yq)
    (hxp : IsIdx l.q xp) (hyp : IsIdx r.q yp)
    (hzc : IsIdx (r.c ++ l.c) zc) (hzq : IsIdx (r.q ++ l.q) zq) (hzp : IsIdx (r.q ++ l.q) zp) :
    (CQMap.swap l r : CQMap R).f
        (flatIdx (l.c ++ r.c) (xc ++ yc)) (flatIdx (l.q ++ r.q) (xq ++ yq))
        (flatIdx (l.q ++ r.q) (xp ++ yp))
        (flatIdx (r.c ++ l.c) zc) (flatIdx (r.q ++ l.q) zq) (flatIdx (r.q ++ l.q) zp) =
      iv (zc = yc ++ xc ∧ zq = yq ++ xq ∧ zp = yp ++ xp) := by
  show (Mat.swap (prodL l.c) (prodL r.c)).f _ _ * (Mat.swap (prodL l.q) (prodL r.q)).f _ _ *
    (Mat.swap (prodL l.q) (prodL r.q)).f _ _ = _
  rw [Mat.swap_wires hxc hyc hzc, Mat.swap_wires hxq hyq hzq, Mat.swap_wires hxp hyp hzp,
    iv_and, iv_and, mul_assoc]

/-- The flattened index of the underlying tensor over `classical @ quantum @ quantum`
    (cqmap.py:128-129) is the model's `flat` of the three block indices. -/
theorem flatIdx_udim (t : CQTy) {ic iq ip : List Nat} (hc : IsIdx t.c ic) (hq : IsIdx t.q iq)
    (_hp : IsIdx t.q ip) :
    flatIdx t.udim (ic ++ iq ++ ip) = flat t.Q (flatIdx t.c ic) (flatIdx t.q iq) (flatIdx t.q ip) := by
  show flatIdx (t.c ++ t.q ++ t.q) (ic ++ iq ++ ip) = _
  rw [flatIdx_append t.q ip (hc.append hq), flatIdx_append t.q iq hc]
  rfl

/-- What `cq_swap_spec` (Props/C10.lean) states.  The underlying tensor of `CQMap.swap(l, r)` — the `array` numpy holds,
    indexed by one value per wire of `classical @ quantum @ quantum` — is the permutation tensor of
    the block exchange in each of the three blocks. -/
theorem swap_utensor (l r : CQTy) {xc yc xq yq xp yp z : List Nat}
    (hxc : IsIdx l.c xc) (hyc : IsIdx r.c yc) (hxq : IsIdx l.q xq) (hyq : IsIdx r.q yq)
    (hxp : IsIdx l.q xp) (hyp : IsIdx r.q yp) (hz : IsIdx (r.tensor l).udim z) :
    (CQMap.swap l r : CQMap R).toMat.f
        (flatIdx (l.tensor r).udim ((xc ++ yc) ++ (xq ++ yq) ++ (xp ++ yp)))
        (flatIdx (r.tensor l).udim z) =
      iv (z = (yc ++ xc) ++ (yq ++ xq) ++ (yp ++ xp)) := by
  have hz' : IsIdx ((r.c ++ l.c) ++ (r.q ++ l.q) ++ (r.q ++ l.q)) z := hz
  obtain ⟨zcq, zp, rfl, hcq, hzp⟩ := hz'.split
  obtain ⟨zc, zq, rfl, hzc, hzq⟩ := hcq.split
  rw [flatIdx_udim (l.tensor r) (hxc.append hyc) (hxq.append hyq) (hxp.append hyp),
    flatIdx_udim (r.tensor l) hzc hzq hzp]
  refine ((CQMap.swap l r).toMat_f (flatIdx_lt (hxq.append hyq)) (flatIdx_lt (hxp.append hyp))
    (flatIdx_lt hzq) (flatIdx_lt hzp)).trans ?_
  refine (swap_blocks l r hxc hyc hxq hyq hxp hyp hzc hzq hzp).trans ?_
  apply iv_congr
  constructor
  · rintro ⟨rfl, rfl, rfl⟩; rfl
  · intro h
    have hl : (zc ++ zq).length = ((yc ++ xc) ++ (yq ++ xq)).length := by
      simp only [List.length_append, hzc.length, hzq.length, hxc.length, hyc.length,
        hxq.length, hyq.length]
    obtain ⟨e1, e2⟩ := List.append_inj h hl
    have hl2 : zc.length = (yc ++ xc).length := by
      simp only [List.length_append, hzc.length, hxc.length, hyc.length]
    obtain ⟨e3, e4⟩ := List.append_inj e1 hl2
    exact ⟨e3, e4, e2⟩

end CQMap

end DV.CQ
