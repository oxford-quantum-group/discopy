/-
  Proofs/ParamJet.lean — a concrete, non-trivial instance of the hypotheses of the per-gate
  rules (PhaseHyp): first-order jets over ℤ/17, i.e. dual numbers a + bε with ε² = 0 and the
  derivation D(a + bε) = bε (the Euler derivation ε·∂/∂ε), with
      I = 4 (4² = 16 = −1),  ζ = 2 (ζ² = I),  ζ' = 9 (ζ'² = 81 = 13 = −I),  h = 9 (2·9 = 1),
      ν = 1 + Iε,  ν' = 1 − Iε,  p' = ε,  pi = 1      (D ν = Iε = I·pi·p'·ν).
  Used only by the `example`s of Props/C15.lean: the theorems are not vacuous.
-/
import Proofs.ParamGates
import Mathlib.Algebra.DualNumber
import Mathlib.Data.ZMod.Basic

set_option linter.unnecessarySeqFocus false

namespace DV.Param.Jet
open DV.Param

abbrev F := ZMod 17
abbrev KJ := DualNumber F

instance : HasConj KJ := ⟨id⟩

def jetD : Deriv KJ where
  D x := TrivSqZeroExt.inr x.snd
  add a b := by ext <;> simp
  mul a b := by
    ext <;> simp [TrivSqZeroExt.fst_mul, TrivSqZeroExt.snd_mul] <;> ring

def I : KJ := TrivSqZeroExt.inl 4
def ζ : KJ := TrivSqZeroExt.inl 2
def ζ' : KJ := TrivSqZeroExt.inl 9
def h : KJ := TrivSqZeroExt.inl 9
def eps : KJ := TrivSqZeroExt.inr 1
def ν : KJ := TrivSqZeroExt.inl 1 + TrivSqZeroExt.inr 4
def ν' : KJ := TrivSqZeroExt.inl 1 - TrivSqZeroExt.inr 4

theorem phaseHyp : PhaseHyp jetD I 1 eps ν ν' where
  I_sq := rfl
  inv := rfl
  D_nu := rfl
  cI := rfl
  cpi := rfl

theorem ζ_sq : ζ * ζ = I := rfl
theorem ζ'_sq : ζ' * ζ' = -I := rfl
theorem two_h : 2 * h = 1 := rfl

/-- The derivation is not trivial: D ν ≠ 0. -/
theorem D_ν_ne_zero : jetD.D ν ≠ 0 :=
  fun hz => absurd (congrArg TrivSqZeroExt.snd hz) (by decide)

end DV.Param.Jet
