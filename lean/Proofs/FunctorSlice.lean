/-
  Proofs/FunctorSlice.lean — C04: the image of a slice is the slice of the image,
  `F(d[i:j]) = F(d)[i':j']` with `i' = Σ_{k<i} |F(box_k).boxes|` — for EVERY pair of Python slice
  bounds (omitted, negative, out of range, `i > j`), normalised by `pyLo` / `pyHi`.
-/
import Proofs.FunctorDagger

namespace DV

/-! ### `arrow[i:j]` in closed form on a well-typed layer arrow -/

/-- Slicing always succeeds on a well-typed diagram, and the result is made of the layers
    `pyLo .. pyHi`. -/
theorem Diagram.slice_spec {d : Diagram} (hd : d.WF) (i j : Option Int) :
    ∃ m1 m2, Chain d.dom (d.layers.boxes.take (pyLo d.layers.boxes.length i)) m1 ∧
      Chain m1 ((d.layers.boxes.drop (pyLo d.layers.boxes.length i)).take
        (pyHi d.layers.boxes.length j - pyLo d.layers.boxes.length i)) m2 ∧
      Chain m2 ((d.layers.boxes.drop (pyLo d.layers.boxes.length i)).drop
        (pyHi d.layers.boxes.length j - pyLo d.layers.boxes.length i)) d.cod ∧
      d.slice i j = .ok (Diagram.ofLayers ⟨m1, m2, (d.layers.boxes.drop (pyLo d.layers.boxes.length i)).take
        (pyHi d.layers.boxes.length j - pyLo d.layers.boxes.length i)⟩) := by
  have hch : Chain d.dom d.layers.boxes d.cod := by
    have := hd.chain; rwa [LArrow.WF, hd.ldom, hd.lcod] at this
  obtain ⟨m1, h1, h3⟩ := chain_take_drop (pyLo d.layers.boxes.length i) hch
  obtain ⟨m2, h2, h4⟩ := chain_take_drop
    (pyHi d.layers.boxes.length j - pyLo d.layers.boxes.length i) h3
  refine ⟨m1, m2, h1, h2, h4, ?_⟩
  unfold Diagram.slice
  rw [LArrow.slice_spec i j (by rw [hd.ldom]; exact h1) h2 (by rw [hd.lcod]; exact h3)]

/-! ### Slicing a three-fold composite at its seams gives the middle part -/

theorem Diagram.WF.boxes_length {d : Diagram} (h : d.WF) : d.boxes.length = d.layers.boxes.length := by
  rw [h.boxes]; simp

theorem min_sub_left {j p m q : Nat} (h : j - p = m) : min j (p + m + q) - p = m := by
  rcases Nat.le_total j (p + m + q) with hle | hle
  · rw [Nat.min_eq_left hle]; exact h
  · -- then `m + q ≤ j - p = m`
    have := Nat.sub_le_sub_right hle p
    rw [h, Nat.add_assoc, Nat.add_sub_cancel_left] at this
    rw [Nat.min_eq_right hle, Nat.add_assoc, Nat.add_sub_cancel_left]
    exact Nat.le_antisymm this (Nat.le_add_right m q)

/-- `(p >> m >> q)[len(p) : j] == m` whenever `j - len(p) = len(m)` (so `j = len(p) + len(m)`, or
    any `j ≤ len(p)` when `m` has no boxes). -/
theorem Diagram.slice_thenD3 {p m q : Diagram} (hp : p.WF) (hm : m.WF) (hq : q.WF)
    (h1 : p.cod = m.dom) (h2 : m.cod = q.dom) (j : Nat)
    (hj : j - p.boxes.length = m.boxes.length) :
    ((p.thenD m).thenD q).slice (some (p.boxes.length : Int)) (some (j : Int)) = .ok m := by
  have hpl := hp.boxes_length
  have hml := hm.boxes_length
  have hmq : Chain m.dom (m.layers.boxes ++ q.layers.boxes) q.cod :=
    chain_append.mpr ⟨m.cod, hm.chain', by rw [h2]; exact hq.chain'⟩
  unfold Diagram.slice
  have hlen : ((p.thenD m).thenD q).layers.boxes.length =
      p.layers.boxes.length + m.layers.boxes.length + q.layers.boxes.length := by
    simp only [Diagram.thenD, List.length_append]
  have hlo : pyLo ((p.thenD m).thenD q).layers.boxes.length (some (p.boxes.length : Int)) =
      p.layers.boxes.length := by
    rw [pyLo, pyIdx_nat, hlen, hpl, Nat.add_assoc]; exact Nat.min_eq_left (Nat.le_add_right ..)
  have hhi : pyHi ((p.thenD m).thenD q).layers.boxes.length (some (j : Int)) -
      p.layers.boxes.length = m.layers.boxes.length := by
    rw [pyHi, pyIdx_nat, hlen]; exact min_sub_left (by rw [← hpl, ← hml]; exact hj)
  have hb : ((p.thenD m).thenD q).layers.boxes =
      p.layers.boxes ++ (m.layers.boxes ++ q.layers.boxes) := by
    simp [Diagram.thenD]
  have htake : ((p.thenD m).thenD q).layers.boxes.take p.layers.boxes.length = p.layers.boxes := by
    rw [hb]; simp
  have hdrop : ((p.thenD m).thenD q).layers.boxes.drop p.layers.boxes.length =
      m.layers.boxes ++ q.layers.boxes := by
    rw [hb]; simp
  have hspec := LArrow.slice_spec (a := ((p.thenD m).thenD q).layers)
    (some (p.boxes.length : Int)) (some (j : Int)) (m1 := m.dom) (m2 := m.cod)
    (by rw [hlo, htake]
        show Chain p.layers.dom p.layers.boxes m.dom
        rw [hp.ldom, ← h1]; exact hp.chain')
    (by rw [hlo, hhi, hdrop]; simpa using hm.chain')
    (by rw [hlo, hdrop]
        show Chain m.dom _ q.layers.cod
        rw [hq.lcod]; exact hmq)
  rw [hspec, hlo, hhi, hdrop]
  simp only [List.take_left']
  have : (⟨m.dom, m.cod, m.layers.boxes⟩ : LArrow) = m.layers := by
    rw [← hm.ldom, ← hm.lcod]
  rw [this, ← hm.eq_ofLayers]

/-! ### Folds of layer images: splitting, lengths -/

theorem foldT_boxes_length (res : Diagram) (Ls : List Diagram) :
    (foldT res Ls).boxes.length = res.boxes.length + (Ls.map (·.boxes.length)).sum := by
  induction Ls generalizing res with
  | nil => simp [foldT]
  | cons L Ls ih =>
    show (foldT (res.thenD L) Ls).boxes.length = _
    rw [ih]; simp [Diagram.thenD]; omega

theorem Functor.Img.boxes_length {F : Functor} {l : Layer} {L : Diagram} (h : F.Img l L) :
    L.boxes.length = F.boxLen l.box := by
  obtain ⟨lt, rt, x, _, _, hx, _, _, _, rfl⟩ := h
  simp [Functor.boxLen, hx, layerD, Diagram.tensorD, Diagram.id]

theorem Functor.Imgs.boxes_length {F : Functor} {ls : List Layer} {Ls : List Diagram}
    (h : F.Imgs ls Ls) : Ls.map (·.boxes.length) = ls.map (fun l => F.boxLen l.box) := by
  induction h with
  | nil => rfl
  | cons himg _ ih => simp [himg.boxes_length, ih]

theorem Functor.Imgs.take {F : Functor} {ls : List Layer} {Ls : List Diagram} (h : F.Imgs ls Ls)
    (k : Nat) : F.Imgs (ls.take k) (Ls.take k) := by
  induction h generalizing k with
  | nil => simpa using Functor.Imgs.nil
  | cons himg _ ih =>
    cases k with
    | zero => simpa using Functor.Imgs.nil
    | succ k => simpa using Functor.Imgs.cons himg (ih k)

theorem Functor.Imgs.drop {F : Functor} {ls : List Layer} {Ls : List Diagram} (h : F.Imgs ls Ls)
    (k : Nat) : F.Imgs (ls.drop k) (Ls.drop k) := by
  induction h generalizing k with
  | nil => simpa using Functor.Imgs.nil
  | cons himg hrest ih =>
    cases k with
    | zero => simpa using Functor.Imgs.cons himg hrest
    | succ k => simpa using ih k

/-- The image of a diagram made of the layers `ls` is the fold of the layer images. -/
theorem Functor.apply_ofLayers (F : Functor) {s c S : Ty} {ls : List Layer} {Ls : List Diagram}
    (hch : Chain s ls c) (hS : F.ty s = .ok S) (hi : F.Imgs ls Ls) :
    F.apply (Diagram.ofLayers ⟨s, c, ls⟩) = .ok (foldT (Diagram.id S) Ls) := by
  unfold Functor.apply
  simp only [Diagram.ofLayers, hS]
  exact F.loop_of_fold hch (Diagram.id_wf S) (by simpa [Diagram.id] using hS) hi

/-! ### Sums of image lengths -/

theorem Functor.imgIdx_add (F : Functor) (bs : List Box) (a k : Nat) :
    F.imgIdx bs (a + k) = F.imgIdx bs a + F.imgIdx (bs.drop a) k := by
  unfold Functor.imgIdx
  rw [List.take_add, List.map_append, List.sum_append]

theorem Functor.imgIdx_mono (F : Functor) (bs : List Box) {a b : Nat} (h : a ≤ b) :
    F.imgIdx bs a ≤ F.imgIdx bs b := by
  obtain ⟨k, rfl⟩ := Nat.exists_eq_add_of_le h
  rw [F.imgIdx_add]; omega

theorem Functor.imgIdx_sub (F : Functor) (bs : List Box) (a b : Nat) :
    F.imgIdx bs b - F.imgIdx bs a = F.imgIdx (bs.drop a) (b - a) := by
  by_cases h : a ≤ b
  · obtain ⟨k, rfl⟩ := Nat.exists_eq_add_of_le h
    rw [F.imgIdx_add, Nat.add_sub_cancel_left, Nat.add_sub_cancel_left]
  · have h0 : b - a = 0 := by omega
    have := F.imgIdx_mono bs (a := b) (b := a) (by omega)
    have z : F.imgIdx (bs.drop a) 0 = 0 := by simp [Functor.imgIdx]
    rw [h0, z]
    omega

/-- No re-indexed bound exceeds the one at `len(boxes)` (bounds beyond the end count every box). -/
theorem Functor.imgIdx_le_all (F : Functor) (bs : List Box) (k : Nat) :
    F.imgIdx bs k ≤ F.imgIdx bs bs.length := by
  by_cases h : k ≤ bs.length
  · exact F.imgIdx_mono bs h
  · unfold Functor.imgIdx
    rw [List.take_of_length_le (by omega), List.take_of_length_le (Nat.le_refl _)]
    exact Nat.le_refl _

/-! ### The slice law -/

/-- C04: `F(d[i:j]) = F(d)[i':j']` for all Python bounds `i`, `j`, where `i'`, `j'` count the boxes
    of the images of the first `pyLo n i`, `pyHi n j` boxes.  Both slices always exist. -/
theorem Functor.apply_slice (F : Functor) {d fd : Diagram} (hd : d.WF)
    (hok : ∀ b ∈ d.boxes, F.okOn b) (hfd : F.apply d = .ok fd) (i j : Option Int) :
    ∃ s fs, d.slice i j = .ok s ∧ F.apply s = .ok fs ∧
      fd.slice (some (F.imgIdx d.boxes (pyLo d.boxes.length i) : Nat))
               (some (F.imgIdx d.boxes (pyHi d.boxes.length j) : Nat)) = .ok fs := by
  obtain ⟨fdw, fddom, fdcod⟩ := F.apply_props hd hok hfd
  obtain ⟨t, Ls, ht, himgs, hfold⟩ := F.apply_fold hd hok hfd
  cases ht.symm.trans fddom
  -- the three parts of the diagram
  have hn : d.boxes.length = d.layers.boxes.length := hd.boxes_length
  rw [hn]
  generalize hI : pyLo d.layers.boxes.length i = I
  generalize hJ : pyHi d.layers.boxes.length j = J
  obtain ⟨m1, m2, c1, c2, c3, hslice⟩ := Diagram.slice_spec hd i j
  rw [hI] at c1 c2 c3 hslice
  rw [hJ] at c2 c3 hslice
  have iA := himgs.take I
  have iB := (himgs.drop I).take (J - I)
  have iC := (himgs.drop I).drop (J - I)
  -- the three parts of the image
  obtain ⟨pw, pdom, pcod⟩ := iA.foldT_props c1 (Diagram.id_wf fd.dom)
    (by simpa [Diagram.id] using fddom)
  generalize hP : foldT (Diagram.id fd.dom) (Ls.take I) = P at pw pdom pcod
  obtain ⟨mw, mdom, mcod⟩ := iB.foldT_props c2 (Diagram.id_wf P.cod)
    (by simpa [Diagram.id] using pcod)
  generalize hM : foldT (Diagram.id P.cod) ((Ls.drop I).take (J - I)) = M at mw mdom mcod
  obtain ⟨qw, qdom, qcod⟩ := iC.foldT_props c3 (Diagram.id_wf M.cod)
    (by simpa [Diagram.id] using mcod)
  generalize hQ : foldT (Diagram.id M.cod) ((Ls.drop I).drop (J - I)) = Q at qw qdom qcod
  have hPM : P.cod = M.dom := by rw [mdom]; rfl
  have hMQ : M.cod = Q.dom := by rw [qdom]; rfl
  have hsplit : fd = (P.thenD M).thenD Q := by
    have e : Ls = Ls.take I ++ ((Ls.drop I).take (J - I) ++ (Ls.drop I).drop (J - I)) := by
      rw [List.take_append_drop, List.take_append_drop]
    rw [hfold, e, foldT_app, foldT_app, hP, foldT_from pw, hM,
      foldT_from (Diagram.thenD_wf pw mw hPM)]
    show (P.thenD M).thenD (foldT (Diagram.id M.cod) _) = _
    rw [hQ]
  refine ⟨_, M, hslice, ?_, ?_⟩
  · rw [F.apply_ofLayers c2 pcod iB, hM]
  · -- the bounds are the seams
    have hlenP : P.boxes.length = F.imgIdx d.boxes I := by
      rw [← hP, foldT_boxes_length, iA.boxes_length]
      simp [Diagram.id, Functor.imgIdx, hd.boxes, List.map_take, Function.comp_def]
    have hlenM : M.boxes.length = F.imgIdx (d.boxes.drop I) (J - I) := by
      rw [← hM, foldT_boxes_length, iB.boxes_length]
      simp [Diagram.id, Functor.imgIdx, hd.boxes, List.map_take, List.map_drop, Function.comp_def]
    have hj : F.imgIdx d.boxes J - P.boxes.length = M.boxes.length := by
      rw [hlenP, hlenM, F.imgIdx_sub]
    rw [hsplit, ← hlenP]
    exact Diagram.slice_thenD3 pw mw qw hPM hMQ _ hj

/-- What a slice is made of: boxes `pyLo .. pyHi` of the diagram (so the law above is about the
    expected sub-diagram). -/
theorem Diagram.slice_boxes {d s : Diagram} (hd : d.WF) (i j : Option Int)
    (h : d.slice i j = .ok s) : s.boxes = pySlice d.boxes i j ∧ s.offsets = pySlice d.offsets i j := by
  obtain ⟨m1, m2, _, _, _, hs⟩ := Diagram.slice_spec hd i j
  rw [hs] at h
  cases h
  have e1 : d.boxes.length = d.layers.boxes.length := hd.boxes_length
  have e2 : d.offsets.length = d.layers.boxes.length := by rw [hd.offsets]; simp
  constructor
  · simp only [Diagram.ofLayers, pySlice, e1]
    rw [hd.boxes, List.map_take, List.map_drop]
  · simp only [Diagram.ofLayers, pySlice, e2]
    rw [hd.offsets, List.map_take, List.map_drop]

end DV
