/-
  Proofs/TkImportTrace.lean — the import places every gate on the units tket names (C13):
  on importable commands the loop of the model of `from_tk` is defined, and following wire
  identities through the description it builds gives the command list of the tket circuit
  (`ImpSpec.run`).
-/
import Proofs.TkImportWT

namespace DV.Tk
open DV

/-! ### offsets of the swap diagrams -/

def offs (ls : Layers) : List Nat := ls.map (·.2)

theorem offs_append (a b : Layers) : offs (a ++ b) = offs a ++ offs b := by simp [offs]

theorem offs_shift (k : Nat) (ls : Layers) : offs (shiftLayers k ls) = (offs ls).map (· + k) := by
  simp [offs, shiftLayers, Function.comp_def]

theorem offs_oneSwap (l : W) (right : List W) : offs (oneSwap l right) = List.range' 0 right.length := by
  simp only [offs, oneSwap, List.map_map, Function.comp_def]
  rw [List.zipIdx_eq_zip_range', List.map_snd_zip]
  simp

theorem offs_swapBoxes_one (l : W) (right : List W) : offs (swapBoxes [l] right) = List.range' 0 right.length := by
  simp only [swapBoxes, shiftLayers, List.map_nil, List.nil_append]
  exact offs_oneSwap l right

theorem range'_map_add (s n k : Nat) : (List.range' s n).map (· + k) = List.range' (s + k) n := by
  have := List.map_add_range' (a := k) s n 1
  simpa [Nat.add_comm] using this

theorem offs_swapBoxes_past_one (left : List W) (r : W) :
    offs (swapBoxes left [r]) = (List.range' 0 left.length).reverse := by
  induction left with
  | nil => simp [swapBoxes, offs]
  | cons l tl ih =>
    simp only [swapBoxes, offs_append, offs_shift, ih, offs_oneSwap, List.length_cons, List.length_nil]
    rw [List.map_reverse, range'_map_add]
    simp [List.range'_succ]

theorem slice_length {α} (xs : List α) (a b : Nat) (hb : b ≤ xs.length) : (slice xs a b).length = b - a := by
  simp [slice, List.length_drop, List.length_take, Nat.min_eq_left hb]

theorem take_slice {α} (xs : List α) (a b : Nat) (h : a ≤ b) : xs.take a ++ slice xs a b = xs.take b := by
  unfold slice
  have : xs.take a = (xs.take b).take a := by rw [List.take_take, Nat.min_eq_left h]
  rw [this, List.take_append_drop]

theorem slice_drop {α} (xs : List α) (n a b : Nat) : slice (xs.drop n) a b = slice xs (n + a) (n + b) := by
  unfold slice
  rw [List.take_drop, List.drop_drop]

theorem framedSwap_dom (cod : List W) (a m b : Nat) (h1 : a ≤ m) (h2 : m ≤ b) :
    (((D.id (cod.take a)).tensor (D.swap (slice cod a m) (slice cod m b))).tensor (D.id (cod.drop b))).dom = cod := by
  rw [(framed_layers _ _ _).2.1]
  simp only [D.swap]
  rw [← List.append_assoc, take_slice _ _ _ h1, take_slice _ _ _ h2, List.take_append_drop]

theorem offs_moveRight (cod : List W) (s t : Nat) (hst : s < t) (ht : t ≤ cod.length) :
    offs (moveRight cod s t).layers = List.range' s (t - 1 - s) ∧ (moveRight cod s t).dom = cod := by
  refine ⟨?_, framedSwap_dom cod s (s + 1) t (by omega) (by omega)⟩
  have h1 : (slice cod s (s + 1)).length = 1 := by rw [slice_length _ _ _ (by omega)]; omega
  obtain ⟨l, hl1⟩ := List.length_eq_one_iff.mp h1
  have h2 : (slice cod (s + 1) t).length = t - 1 - s := by rw [slice_length _ _ _ ht]; omega
  have hts : (cod.take s).length = s := take_length_le (by omega)
  unfold moveRight
  rw [(framed_layers _ _ _).1]
  simp only [D.swap, hl1, offs_shift, offs_swapBoxes_one, h2, hts, range'_map_add, Nat.zero_add]

theorem offs_moveLeft (cod : List W) (s t : Nat) (hts : t ≤ s) (hs : s < cod.length) :
    offs (moveLeft cod s t).layers = (List.range' t (s - t)).reverse ∧ (moveLeft cod s t).dom = cod := by
  refine ⟨?_, framedSwap_dom cod t s (s + 1) hts (by omega)⟩
  have h1 : (slice cod s (s + 1)).length = 1 := by rw [slice_length _ _ _ (by omega)]; omega
  obtain ⟨r, hr⟩ := List.length_eq_one_iff.mp h1
  have h2 : (slice cod t s).length = s - t := by rw [slice_length _ _ _ (by omega)]
  have htt : (cod.take t).length = t := take_length_le (by omega)
  unfold moveLeft
  rw [(framed_layers _ _ _).1]
  simp only [D.swap, hr, offs_shift, offs_swapBoxes_past_one, h2, htt, List.map_reverse, range'_map_add,
    Nat.zero_add]

/-! ### the typed `make_units_adjacent` builds the swaps of the position model -/

theorem D.id_then (t : List W) (x : D) (h : x.dom = t) : (D.id t).then x = .ok ⟨t, x.cod, x.layers⟩ := by
  simp [D.then, D.id, h]

theorem muaT_pair (units : List W) (a b : Nat) (ha : a < units.length) (hb : b < units.length) (hab : a ≠ b) :
    ∃ sw, makeUnitsAdjacentT units [a, b] = .ok ((makeUnitsAdjacent [a, b]).1, sw) ∧ sw.dom = units ∧
      offs sw.layers = (makeUnitsAdjacent [a, b]).2 := by
  rw [makeUnitsAdjacent_pair]
  have e : (D.id units).cod = units := rfl
  simp only [makeUnitsAdjacentT, muaLoopT, Nat.add_zero, e, Nat.lt_succ_iff]
  by_cases h1 : b ≤ a
  · obtain ⟨ho, hd⟩ := offs_moveRight units b (a + 1) (by omega) (by omega)
    simp only [h1, if_true, D.id_then _ _ hd]
    exact ⟨_, rfl, rfl, ho⟩
  · by_cases h2 : b > a + 1
    · obtain ⟨ho, hd⟩ := offs_moveLeft units b (a + 1) (by omega) hb
      simp only [h1, h2, if_true, if_false, D.id_then _ _ hd]
      exact ⟨_, rfl, rfl, ho⟩
    · obtain rfl : b = a + 1 := by omega
      simp only [h1, h2, if_false, Nat.sub_self, List.range'_zero, List.reverse_nil]
      exact ⟨_, rfl, rfl, rfl⟩

/-! ### following wire identities -/

def Tr.runFrom (t : Tr) (ls : Layers) : Tr := ls.foldl Tr.step t

theorem Tr.runFrom_append (t : Tr) (a b : Layers) : t.runFrom (a ++ b) = (t.runFrom a).runFrom b := by
  simp [Tr.runFrom, List.foldl_append]

theorem Tr.run_append (a b : Layers) : Tr.run (a ++ b) = (Tr.run a).runFrom b := Tr.runFrom_append {} a b

/-- Swap boxes only exchange ids. -/
theorem Tr.runFrom_swaps (t : Tr) (ls : Layers) (h : allSwaps ls = true) :
    t.runFrom ls = { t with arr := (offs ls).foldl swapAt t.arr } := by
  induction ls generalizing t with
  | nil => rfl
  | cons l ls ih =>
    obtain ⟨b, off⟩ := l
    have h1 : isSwapBox b = true ∧ allSwaps ls = true := by
      simpa only [allSwaps, List.all_cons, Bool.and_eq_true] using h
    cases b with
    | swap x y =>
      have := ih { t with arr := swapAt t.arr off } h1.2
      simp only [Tr.runFrom, List.foldl_cons, Tr.step, offs, List.map_cons] at this ⊢
      exact this
    | _ => exact absurd h1.1 (by simp [isSwapBox])

theorem offs_daggerSwaps (a : D) : offs a.daggerSwaps.layers = (offs a.layers).reverse := by
  simp [D.daggerSwaps, offs, List.map_reverse, Function.comp_def]

theorem allSwaps_daggerSwaps (a : D) (h : allSwaps a.layers = true) : allSwaps a.daggerSwaps.layers = true := by
  have e : ∀ b, isSwapBox (daggerSwapBox b) = isSwapBox b := by intro b; cases b <;> rfl
  simpa only [D.daggerSwaps, allSwaps, List.all_reverse, List.all_map, Function.comp_def, e] using h

/-- A list is the list of its entries: what the swaps do to arbitrary wires is what they do to
    positions, relabelled. -/
theorem foldl_swapAt_relabel {α} (os : List Nat) (xs : List α) (g : Nat → α)
    (hg : (List.range xs.length).map g = xs) : os.foldl swapAt xs = (arrangement xs.length os).map g := by
  unfold arrangement
  rw [← foldl_swapAt_map, hg]

theorem map_getD_range {α} (xs : List α) (d : α) : (List.range xs.length).map (fun i => xs[i]?.getD d) = xs := by
  apply List.ext_getElem
  · simp
  · intro i _ h
    simp [h]

theorem map_idAt_range (σ : List Nat) : (List.range σ.length).map (idAt σ) = σ := map_getD_range σ 0

def wAt (t : List W) (i : Nat) : W := t[i]?.getD .q

theorem units_length (inp : TkIn) : inp.units.length = inp.nq + inp.nbits := by simp [TkIn.units]

theorem units_getElem?_q (inp : TkIn) (i : Nat) (h : i < inp.nq) : inp.units[i]? = some .q := by
  simp [TkIn.units, List.getElem?_append_left, h]

theorem units_getElem?_b (inp : TkIn) (i : Nat) (h1 : inp.nq ≤ i) (h2 : i < inp.nq + inp.nbits) :
    inp.units[i]? = some .b := by
  unfold TkIn.units
  rw [List.getElem?_append_right (by simp; omega)]
  simp only [List.length_replicate]
  rw [List.getElem?_replicate]; simp; omega

theorem wAt_units_q (inp : TkIn) (i : Nat) (h : i < inp.nq) : wAt inp.units i = .q := by
  simp [wAt, units_getElem?_q inp i h]

theorem wAt_units_b (inp : TkIn) (i : Nat) (h1 : inp.nq ≤ i) (h2 : i < inp.nq + inp.nbits) : wAt inp.units i = .b := by
  simp [wAt, units_getElem?_b inp i h1 h2]

/-- A well-typed chain of swaps permutes the type as it permutes positions. -/
theorem scanCod_swaps (t : List W) (ls : Layers) (h : wellTyped t ls = true) (hs : allSwaps ls = true) :
    scanCod t ls = (offs ls).foldl swapAt t := by
  induction ls generalizing t with
  | nil => rfl
  | cons l ls ih =>
    obtain ⟨b, off⟩ := l
    have h1 : isSwapBox b = true ∧ allSwaps ls = true := by
      simpa only [allSwaps, List.all_cons, Bool.and_eq_true] using hs
    cases b with
    | swap x y =>
      obtain ⟨A, C, rfl, rfl, h2⟩ := wellTyped_cons.mp h
      simp only [scanCod, offs, List.map_cons, List.foldl_cons, applyBox_frame]
      rw [ih _ h2 h1.2]
      congr 1
      exact (swapAt_split A C x y).symm
    | _ => exact absurd h1.1 (by simp [isSwapBox])

structure SwapsOn (sw : D) (units : List W) (os : List Nat) : Prop where
  wt : sw.WT
  swaps : allSwaps sw.layers = true
  dom : sw.dom = units
  offs : offs sw.layers = os
  inRange : ∀ o ∈ os, o + 1 < units.length

theorem SwapsOn.cod {sw : D} {units : List W} {os : List Nat} (h : SwapsOn sw units os) :
    sw.cod = os.foldl swapAt units := by
  rw [← h.wt.2, scanCod_swaps _ _ h.wt.1 h.swaps, h.dom, h.offs]

theorem SwapsOn.id (units : List W) : SwapsOn (D.id units) units [] :=
  ⟨D.WT_id _, rfl, rfl, rfl, fun _ h => by cases h⟩

/-- The swaps of a `Measure` (tk.py:326-330): the bit wire `nq + bi` is brought next to the qubit `q`. -/
theorem measureSwaps_on (units : List W) (nq q bi : Nat) (hq : q < nq) (h : nq + bi < units.length) :
    SwapsOn (measureSwaps units nq q bi) units (List.range' (q + 1) (nq + bi - (q + 1))).reverse := by
  have e : measureSwaps units nq q bi = moveLeft units (nq + bi) (q + 1) := by
    simp only [measureSwaps, moveLeft, slice_drop, Nat.add_assoc]
  obtain ⟨ho, hdom⟩ := offs_moveLeft units (nq + bi) (q + 1) (by omega) h
  obtain ⟨m1, m2⟩ := framedSwap_WT (units.take (q + 1)) (units.drop (nq + bi + 1))
    (slice units (q + 1) (nq + bi)) (slice units (nq + bi) (nq + bi + 1))
  rw [e]
  refine ⟨m1, m2, hdom, ho, fun o ho' => ?_⟩
  simp only [List.mem_reverse, List.mem_range'_1] at ho'
  omega

/-! ### a tket SWAP exchanges two ids -/

theorem idAt_getElem? (σ : List Nat) (i : Nat) (h : i < σ.length) : σ[i]? = some (idAt σ i) := by
  simp [idAt, List.getElem?_eq_getElem h]

theorem exchange_eq_map (σ : List Nat) (a b : Nat) (ha : a < σ.length) (hb : b < σ.length) :
    exchange σ a b = ((List.range σ.length).map (transp a b)).map (idAt σ) := by
  apply List.ext_getElem?
  intro j
  by_cases hj : j < σ.length
  · simp only [exchange, transp, List.getElem?_set, List.length_set, List.getElem?_map, List.getElem?_range hj,
      idAt_getElem? σ j hj, Option.map_some, ha, hb, if_true]
    by_cases hjb : b = j
    · subst hjb
      by_cases hba : b = a
      · simp [hba]
      · simp [hba]
    · by_cases hja : a = j
      · subst hja; simp [hjb]
      · simp [hjb, hja, Ne.symm hjb, Ne.symm hja]
  · simp [exchange, hj]

/-! ### the boxes `box_from_tk` returns -/

theorem lookupGate_cases (name : String) (tbl : List (String × Nat)) (box : TBox)
    (h : lookupGate name tbl = .ok box) : box = .swap .q .q ∨ ∃ n, box = .gate name n := by
  induction tbl with
  | nil => cases h
  | cons e tbl ih =>
    obtain ⟨g, n⟩ := e
    unfold lookupGate at h
    by_cases hg : name = g
    · rw [if_pos hg] at h
      cases h
      by_cases hs : g = "Swap(qubit, qubit)"
      · exact .inl (if_pos hs)
      · exact .inr ⟨n, by rw [if_neg hs, hg]⟩
    · rw [if_neg hg] at h
      by_cases hc : name = "C" ++ g
      · rw [if_pos hc] at h
        by_cases hs : g = "Swap(qubit, qubit)"
        · rw [if_pos hs] at h; cases h
        · by_cases hn : n = 1
          · rw [if_neg hs, if_pos hn] at h; cases h; exact .inr ⟨2, by rw [hc]⟩
          · rw [if_neg hs, if_neg hn] at h; cases h
      · rw [if_neg hc] at h
        exact ih h

/-- What `box_from_tk` can return, and the command `Tr.step` records for it. -/
theorem boxFromTk_cases {c : Cmd} {box : TBox} (h : boxFromTk c = .ok box) :
    box = .swap .q .q ∨ (∃ n, box = .gate c.op n ∧ gatePar c = none) ∨
      (∃ p, c.par = some p ∧ box = .rot c.op (p / 2) ∧ gatePar c = some p) := by
  unfold boxFromTk at h
  have rot : ∀ cls, c.op = cls → (cls = "Rx" ∨ cls = "Rz" ∨ cls = "CRz") → rotFromTk cls c.par = .ok box →
      ∃ p, c.par = some p ∧ box = .rot c.op (p / 2) ∧ gatePar c = some p := by
    intro cls hc hcls hr
    unfold rotFromTk halfPar at hr
    cases hp : c.par with
    | none => simp [hp] at hr
    | some p =>
      simp only [hp] at hr
      cases hr
      exact ⟨p, rfl, by rw [hc], by simp [gatePar, hc, hcls, hp]⟩
  by_cases h1 : c.op = "Rx"
  · rw [if_pos h1] at h; exact .inr (.inr (rot _ h1 (.inl rfl) h))
  by_cases h2 : c.op = "Rz"
  · rw [if_neg h1, if_pos h2] at h; exact .inr (.inr (rot _ h2 (.inr (.inl rfl)) h))
  by_cases h3 : c.op = "CRz"
  · rw [if_neg h1, if_neg h2, if_pos h3] at h; exact .inr (.inr (rot _ h3 (.inr (.inr rfl)) h))
  by_cases h4 : c.op = "SWAP"
  · rw [if_neg h1, if_neg h2, if_neg h3, if_pos h4] at h; cases h; exact .inl rfl
  rw [if_neg h1, if_neg h2, if_neg h3, if_neg h4] at h
  rcases lookupGate_cases _ _ _ h with hb | ⟨n, hb⟩
  · exact .inl hb
  · exact .inr (.inl ⟨n, hb, by simp [gatePar, h1, h2, h3]⟩)

theorem importable_measure {inp : TkIn} {c : Cmd} (hop : c.op = "Measure") (h : Cmd.importable inp c = true) :
    ∃ q b, c.qs = [q] ∧ c.bs = [b] ∧ q < inp.nq ∧
      (inp.ps.has b = true ∨ b - psBelow inp.ps b < inp.nbits) := by
  unfold Cmd.importable at h
  simp only [hop, if_true] at h
  match hq : c.qs, hb : c.bs, h with
  | [q], [b], h =>
    simp only [Bool.and_eq_true, Bool.or_eq_true, decide_eq_true_eq] at h
    exact ⟨q, b, rfl, rfl, h.1, h.2⟩

/-- What `importable` says about a command that is not a `Measure`. -/
theorem importable_gate {inp : TkIn} {c : Cmd} (hop : c.op ≠ "Measure") (h : Cmd.importable inp c = true) :
    ∃ box, boxFromTk c = .ok box ∧ box.dom.length = c.qs.length ∧
      ((∃ a, c.qs = [a] ∧ a < inp.nq) ∨ (∃ a b, c.qs = [a, b] ∧ a ≠ b ∧ a < inp.nq ∧ b < inp.nq)) ∧
      (∀ q ∈ c.qs, q < inp.nq) ∧ (∀ p, c.par = some p → p % 2 = 0) := by
  unfold Cmd.importable at h
  simp only [hop, if_false, Bool.and_eq_true] at h
  obtain ⟨⟨⟨h1, h2⟩, h3⟩, h4⟩ := h
  cases hb : boxFromTk c with
  | error e => simp [hb] at h1
  | ok box =>
    simp only [hb, beq_iff_eq] at h1
    rw [List.all_eq_true] at h2
    refine ⟨box, rfl, h1, ?_, fun q hq => by simpa using h2 q hq, ?_⟩
    · match hq : c.qs, h3 with
      | [a], _ =>
        exact .inl ⟨a, rfl, by simpa using h2 a (by simp [hq])⟩
      | [a, b], h3 =>
        exact .inr ⟨a, b, rfl, by simpa using h3, by simpa using h2 a (by simp [hq]),
          by simpa using h2 b (by simp [hq])⟩
    · intro p hp
      simpa [hp] using h4

/-- The command a non-swap box of `box_from_tk` records. -/
theorem emit_step {c : Cmd} {box : TBox} (hb : boxFromTk c = .ok box) (hns : box ≠ .swap .q .q)
    (hpar : ∀ p, c.par = some p → p % 2 = 0) (off : Nat) (t : Tr) :
    Tr.step t (box, off) =
      { t with cmds := t.cmds ++ [⟨c.op, gatePar c, (t.arr.drop off).take box.dom.length, []⟩] } := by
  rcases boxFromTk_cases hb with h | ⟨n, h, hp⟩ | ⟨p, hp, h, hg⟩
  · exact absurd h hns
  · subst h
    simp [Tr.step, Tr.emit, TBox.dom, hp]
  · subst h
    have : 2 * (p / 2) = p := by have := hpar p hp; omega
    simp [Tr.step, Tr.emit, TBox.dom, hg, this]

theorem boxFromTk_dom {c : Cmd} {box : TBox} (h : boxFromTk c = .ok box) :
    box.dom = List.replicate box.dom.length .q ∧ box.cod = box.dom := by
  rcases boxFromTk_cases h with h | ⟨n, h, _⟩ | ⟨p, _, h, _⟩ <;> subst h <;> simp [TBox.dom, TBox.cod]

theorem drop_take_one {α} {xs : List α} {i : Nat} {x : α} (h : xs[i]? = some x) : (xs.drop i).take 1 = [x] := by
  conv => lhs; rw [split_one h]
  simp [take_length_le (Nat.le_of_lt (List.getElem?_eq_some_iff.mp h).1)]

/-- The typed loop succeeds; what its swaps do to arbitrary wires `xs` (given as the list of the
    values of `g`): the wires of the gate come to the returned offset, in order; and conjugating
    the swap there exchanges the two. -/
theorem mua_spec (units : List W) (qs : List Nat) {m : Nat} (hm : m ≤ units.length)
    (hqs : (∃ a, qs = [a] ∧ a < m) ∨ (∃ a b, qs = [a, b] ∧ a ≠ b ∧ a < m ∧ b < m)) :
    ∃ r os, makeUnitsAdjacentT units qs = .ok r ∧ SwapsOn r.2 units os ∧ r.1 + qs.length ≤ units.length ∧
      (∀ {α} (xs : List α) (g : Nat → α), (List.range xs.length).map g = xs → xs.length = units.length →
        ((os.foldl swapAt xs).drop r.1).take qs.length = qs.map g) ∧
      (∀ a b, qs = [a, b] → ∀ σ : List Nat, σ.length = units.length →
        (os ++ [r.1] ++ os.reverse).foldl swapAt σ = exchange σ a b) := by
  rcases hqs with ⟨a, rfl, ha⟩ | ⟨a, b, rfl, hab, ha, hb⟩
  · have ha := Nat.lt_of_lt_of_le ha hm
    refine ⟨(a, D.id units), [], rfl, SwapsOn.id units, ha, ?_, fun _ _ h => by cases h⟩
    intro α xs g hg hl
    have : xs[a]? = some (g a) := by
      rw [← hg, List.getElem?_map, List.getElem?_range (by omega)]; rfl
    exact drop_take_one this
  · have ha := Nat.lt_of_lt_of_le ha hm
    have hb := Nat.lt_of_lt_of_le hb hm
    obtain ⟨sw, hsw, hdom, ho⟩ := muaT_pair units a b ha hb hab
    obtain ⟨hw, hs, _⟩ : sw.WT ∧ allSwaps sw.layers = true ∧ sw.dom = (D.id units).dom :=
      muaLoopT_WT _ 0 _ (D.id units) (_, sw) (D.WT_id _) rfl hsw
    obtain ⟨A, C, hsp, hA⟩ := makeUnitsAdjacent_split units.length a b ha hb hab
    have hoff : (makeUnitsAdjacent [a, b]).1 + 2 ≤ units.length := by
      have := arrangement_length units.length (makeUnitsAdjacent [a, b]).2
      rw [hsp] at this
      simp only [List.length_append, List.length_cons, List.length_nil] at this
      omega
    have hin := makeUnitsAdjacent_inRange _ a b ha hb
    refine ⟨_, _, hsw, ⟨hw, hs, hdom, ho, hin⟩, hoff, ?_, ?_⟩
    · intro α xs g hg hl
      rw [foldl_swapAt_relabel _ xs g hg, hl, ← List.map_drop, ← List.map_take]
      exact congrArg (List.map g) (makeUnitsAdjacent_adjacent units.length a b ha hb hab)
    · intro a' b' h' σ hσ
      cases h'
      rw [foldl_swapAt_relabel _ σ _ (map_idAt_range σ), hσ, arrangement_conj _ _ _ a b hin
        (by simp [hsp, ← hA]) (by simp [hsp, ← hA]), ← hσ, exchange_eq_map σ a b (by omega) (by omega)]

theorem boxLayer_fits {cod : List W} {box : TBox} {off : Nat} (h : boxFits cod box off = true) :
    (boxLayer cod box off).dom = cod ∧ (boxLayer cod box off).layers = [(box, off)] ∧
      (box.cod = box.dom → (boxLayer cod box off).cod = cod) := by
  obtain ⟨A, C, rfl, rfl⟩ := boxFits_iff.mp h
  refine ⟨?_, ?_, fun hb => ?_⟩ <;>
    simp [boxLayer, D.tensor, D.id, D.box, shiftLayers, List.drop_append, *]

/-- `circuit >> swaps >> Id @ box @ Id >> swaps[::-1]` is defined when the circuit ends in the
    wires the swaps start from and the box fits where they lead; it ends in the same wires. -/
theorem place_spec {circuit sw : D} {units : List W} {os : List Nat} {box : TBox} {off : Nat}
    (hc : circuit.WT) (hcod : circuit.cod = units) (hs : SwapsOn sw units os)
    (hfit : boxFits (os.foldl swapAt units) box off = true) (hbox : box.cod = box.dom) :
    ∃ d, place circuit sw box off = .ok d ∧ d.WT ∧ d.cod = units ∧
      d.layers = circuit.layers ++ (sw.layers ++ (box, off) :: sw.daggerSwaps.layers) := by
  rw [← hs.cod] at hfit
  obtain ⟨hd, hl, hc'⟩ := boxLayer_fits hfit
  have h : place circuit sw box off = .ok ⟨circuit.dom, sw.dom,
      circuit.layers ++ sw.layers ++ [(box, off)] ++ sw.daggerSwaps.layers⟩ := by
    simp only [place, D.then, hcod, hs.dom, hd, hc' hbox, hl, D.daggerSwaps, if_true]
  refine ⟨_, h, (place_WT hc hs.wt hs.swaps h).1, hs.dom, ?_⟩
  simp only [List.append_assoc, List.singleton_append]

/-- Following ids through the swaps, a box that records a command, the swaps undone: the
    command is recorded on the ids the swaps bring to its place, the arrangement is as before. -/
theorem runFrom_placed_emit {sw : D} {units : List W} {os : List Nat} (hs : SwapsOn sw units os)
    {box : TBox} {off : Nat} (f : List Nat → Cmd)
    (hstep : ∀ t : Tr, Tr.step t (box, off) = { t with cmds := t.cmds ++ [f t.arr] })
    (T : Tr) (hT : T.arr.length = units.length) :
    T.runFrom (sw.layers ++ (box, off) :: sw.daggerSwaps.layers) =
      { T with cmds := T.cmds ++ [f (os.foldl swapAt T.arr)] } := by
  rw [Tr.runFrom_append, Tr.runFrom_swaps _ _ hs.swaps]
  simp only [Tr.runFrom, List.foldl_cons, hstep]
  have := Tr.runFrom_swaps { T with arr := (offs sw.layers).foldl swapAt T.arr
                                    cmds := T.cmds ++ [f ((offs sw.layers).foldl swapAt T.arr)] }
    sw.daggerSwaps.layers (allSwaps_daggerSwaps _ hs.swaps)
  simp only [Tr.runFrom] at this
  rw [this, offs_daggerSwaps, hs.offs]
  show ({ T with arr := os.reverse.foldl swapAt (os.foldl swapAt T.arr), cmds := _ } : Tr) = _
  rw [← List.foldl_append, foldl_swapAt_reverse _ _ (by rw [hT]; exact hs.inRange)]

/-- The same with a swap box (a tket SWAP): one adjacent swap conjugated by the swaps. -/
theorem runFrom_placed_swap {sw : D} {units : List W} {os : List Nat} (hs : SwapsOn sw units os)
    (x y : W) (off : Nat) (T : Tr) :
    T.runFrom (sw.layers ++ (.swap x y, off) :: sw.daggerSwaps.layers) =
      { T with arr := (os ++ [off] ++ os.reverse).foldl swapAt T.arr } := by
  rw [Tr.runFrom_append, Tr.runFrom_swaps _ _ hs.swaps]
  simp only [Tr.runFrom, List.foldl_cons, Tr.step]
  have := Tr.runFrom_swaps { T with arr := swapAt ((offs sw.layers).foldl swapAt T.arr) off }
    sw.daggerSwaps.layers (allSwaps_daggerSwaps _ hs.swaps)
  simp only [Tr.runFrom] at this
  rw [this, offs_daggerSwaps, hs.offs]
  simp only [List.foldl_append, List.foldl_cons, List.foldl_nil]

/-- The loop of `from_tk` against the specification: the circuit so far is well-typed, ends in
    the units, and following ids through it gives the arrangement and the commands of `s`; no
    `Bra` has been placed yet, the dicts of post-selected measurements agree. -/
structure LoopInv (inp : TkIn) (acc : Acc) (s : ImpSpec) : Prop where
  wt : acc.circuit.WT
  cod : acc.circuit.cod = inp.units
  tr : Tr.run acc.circuit.layers = ⟨s.σ, inp.units.length, s.cmds, []⟩
  len : s.σ.length = inp.units.length
  bras : acc.bras = s.bras

/-- A `Measure` into a bit that is not post-selected is placed and recorded on the qubit and
    on the bit wire of the bit's rank. -/
theorem stepMeasure_spec {inp : TkIn} {acc : Acc} {s : ImpSpec} {q b : Nat} (hq : q < inp.nq)
    (hb : inp.ps.has b = true ∨ b - psBelow inp.ps b < inp.nbits) (inv : LoopInv inp acc s) :
    ∃ acc', stepMeasure inp acc q b = .ok acc' ∧
      LoopInv inp acc' (if inp.ps.has b then { s with bras := s.bras.set q ((inp.ps.get b).getD 0) }
        else { s with cmds := s.cmds ++
                [⟨"Measure", none, [idAt s.σ q], [idAt s.σ (inp.nq + (b - psBelow inp.ps b))]⟩] }) := by
  unfold stepMeasure
  by_cases hps : inp.ps.has b = true
  · simp only [hps, if_true]
    exact ⟨_, rfl, inv.wt, inv.cod, inv.tr, inv.len, by simp [inv.bras]⟩
  · have hbi : b - psBelow inp.ps b < inp.nbits := hb.resolve_left hps
    have hps' : inp.ps.has b = false := by simpa using hps
    have hlen := units_length inp
    have hN : inp.nq + (b - psBelow inp.ps b) < inp.units.length := by omega
    have hs := measureSwaps_on inp.units inp.nq q (b - psBelow inp.ps b) hq hN
    -- after the swaps the qubit and the bit wire are neighbours, whatever the wires carry
    have hmove : ∀ {α} {xs : List α} {x y : α}, xs[q]? = some x → xs[inp.nq + (b - psBelow inp.ps b)]? = some y →
        ∃ A C, (List.range' (q + 1) (inp.nq + (b - psBelow inp.ps b) - (q + 1))).reverse.foldl swapAt xs =
          A ++ [x, y] ++ C ∧ A.length = q :=
      fun hx hy => foldl_swapAt_moveLeft (by omega) hx hy
    obtain ⟨A, C, hsp, hA⟩ := hmove (units_getElem?_q inp q hq) (units_getElem?_b inp _ (by omega) (by omega))
    obtain ⟨d, hd, w, hc, hl⟩ := place_spec (box := .measure 1 false true) inv.wt inv.cod hs
      (boxFits_iff.mpr ⟨A, C, hsp, hA⟩) rfl
    simp only [hps', Bool.false_eq_true, if_false, inv.cod, hd]
    refine ⟨_, rfl, w, hc, ?_, inv.len, inv.bras⟩
    obtain ⟨A', C', hsp', hA'⟩ := hmove (idAt_getElem? s.σ q (by rw [inv.len]; omega))
      (idAt_getElem? s.σ _ (by rw [inv.len]; exact hN))
    rw [hl, Tr.run_append, inv.tr,
      runFrom_placed_emit hs (fun arr => ⟨"Measure", none, (arr.drop q).take 1, (arr.drop (q + 1)).take 1⟩)
        (fun t => rfl) _ inv.len, hsp', ← hA']
    simp

/-- Any other command: the swaps of `make_units_adjacent`, the box on the units named. -/
theorem stepGate_spec {inp : TkIn} {acc : Acc} {s : ImpSpec} {c : Cmd} (hop : c.op ≠ "Measure")
    (himp : Cmd.importable inp c = true) (inv : LoopInv inp acc s) :
    ∃ acc', stepGate inp acc c = .ok acc' ∧ LoopInv inp acc' (ImpSpec.step inp s c) := by
  obtain ⟨box, hb, hk, hqs, hall, hpar⟩ := importable_gate hop himp
  have hlen := units_length inp
  obtain ⟨r, os, hr, hs, hoff, mids, mex⟩ := mua_spec inp.units c.qs (show inp.nq ≤ inp.units.length by omega) hqs
  obtain ⟨bd, bc⟩ := boxFromTk_dom hb
  -- the wires at the place of the box are qubits
  have hfit : boxFits (os.foldl swapAt inp.units) box r.1 = true := by
    have hq : c.qs.map (wAt inp.units) = List.replicate c.qs.length .q := by
      rw [List.eq_replicate_iff]
      refine ⟨List.length_map _, fun w hw => ?_⟩
      obtain ⟨a, ha, rfl⟩ := List.mem_map.mp hw
      exact wAt_units_q inp a (hall a ha)
    simp only [boxFits, Bool.and_eq_true, beq_iff_eq, decide_eq_true_eq, foldl_swapAt_length]
    exact ⟨by rw [hk, mids inp.units (wAt inp.units) (map_getD_range _ _) rfl, hq, bd, hk], by rw [hk]; exact hoff⟩
  obtain ⟨d, hd, w, hc, hl⟩ := place_spec inv.wt inv.cod hs hfit bc
  have htr : Tr.run d.layers = (Tr.mk s.σ inp.units.length s.cmds []).runFrom
      (r.2.layers ++ (box, r.1) :: r.2.daggerSwaps.layers) := by
    rw [hl, Tr.run_append, inv.tr]
  refine ⟨⟨d, acc.bras⟩, by simp only [stepGate, hb, hr, hd], ?_⟩
  by_cases hsw : box = .swap .q .q
  · subst hsw
    rcases hqs with ⟨a, h1, _⟩ | ⟨a, b, hab, _⟩
    · rw [h1] at hk; cases hk
    have hstep : ImpSpec.step inp s c = { s with σ := exchange s.σ a b } := by
      simp only [ImpSpec.step, hop, if_false, hb, hab]
    rw [runFrom_placed_swap hs, mex a b hab s.σ inv.len] at htr
    rw [hstep]
    exact ⟨w, hc, htr, by simp [exchange, inv.len], inv.bras⟩
  · have hstep : ImpSpec.step inp s c =
        { s with cmds := s.cmds ++ [⟨c.op, gatePar c, c.qs.map (idAt s.σ), []⟩] } := by
      rcases boxFromTk_cases hb with h' | ⟨n, h', _⟩ | ⟨p, _, h', _⟩
      · exact absurd h' hsw
      · simp only [ImpSpec.step, hop, if_false, hb, h']
      · simp only [ImpSpec.step, hop, if_false, hb, h']
    rw [runFrom_placed_emit hs (fun arr => ⟨c.op, gatePar c, (arr.drop r.1).take box.dom.length, []⟩)
      (emit_step hb hsw hpar r.1) _ inv.len, hk, mids s.σ _ (map_idAt_range _) inv.len] at htr
    rw [hstep]
    exact ⟨w, hc, htr, inv.len, inv.bras⟩

theorem stepCmd_spec {inp : TkIn} {acc : Acc} {s : ImpSpec} {c : Cmd}
    (himp : Cmd.importable inp c = true) (inv : LoopInv inp acc s) :
    ∃ acc', stepCmd inp acc c = .ok acc' ∧ LoopInv inp acc' (ImpSpec.step inp s c) := by
  unfold stepCmd
  by_cases hop : c.op = "Measure"
  · obtain ⟨q, b, hq, hb, hlt, hrank⟩ := importable_measure hop himp
    simpa only [ImpSpec.step, hop, if_true, hq, hb, List.head?_cons] using stepMeasure_spec hlt hrank inv
  · simp only [hop, if_false]
    exact stepGate_spec hop himp inv

theorem loopCmds_spec {inp : TkIn} (cmds : List Cmd) {acc : Acc} {s : ImpSpec}
    (himp : ∀ c ∈ cmds, Cmd.importable inp c = true) (inv : LoopInv inp acc s) :
    ∃ acc', loopCmds inp acc cmds = .ok acc' ∧ LoopInv inp acc' (cmds.foldl (ImpSpec.step inp) s) := by
  induction cmds generalizing acc s with
  | nil => exact ⟨acc, rfl, inv⟩
  | cons c rest ih =>
    obtain ⟨a1, h1, inv1⟩ := stepCmd_spec (himp c (by simp)) inv
    obtain ⟨a2, h2, inv2⟩ := ih (fun c' hc' => himp c' (by simp [hc'])) inv1
    exact ⟨a2, by simp only [loopCmds, h1, h2], inv2⟩

/-! ### before the loop -/

/-- The preparations give position `i` the id `i`. -/
def Fresh (d : D) : Prop := Tr.run d.layers = ⟨List.range d.cod.length, d.cod.length, [], []⟩

theorem fresh_tensor_box {acc : D} (b : TBox) (w : W) (hb : b = .ket [0] ∨ b = .bits [0] false)
    (hw : b.cod = [w]) (h : Fresh acc) :
    Fresh (acc.tensor (D.box b)) ∧ (acc.tensor (D.box b)).cod = acc.cod ++ [w] := by
  have hl : (acc.tensor (D.box b)).layers = acc.layers ++ [(b, acc.cod.length)] := by
    simp [D.tensor, D.box, shiftLayers]
  have hc : (acc.tensor (D.box b)).cod = acc.cod ++ [w] := by simp [D.tensor, D.box, hw]
  refine ⟨?_, hc⟩
  unfold Fresh at h ⊢
  rw [hl, hc, Tr.run_append, h]
  have e : insertAt (List.range acc.cod.length) acc.cod.length [acc.cod.length] =
      List.range (acc.cod.length + 1) := by
    simp [insertAt, List.range_succ]
  rcases hb with rfl | rfl <;>
    simp [Tr.runFrom, Tr.step, Tr.fresh, e]

theorem fresh_replicate (b : TBox) (w : W) (hb : b = .ket [0] ∨ b = .bits [0] false) (hw : b.cod = [w])
    (m : Nat) (acc : D) (h : Fresh acc) :
    Fresh ((List.replicate m (D.box b)).foldl D.tensor acc) ∧
      ((List.replicate m (D.box b)).foldl D.tensor acc).cod = acc.cod ++ List.replicate m w := by
  induction m generalizing acc with
  | zero => simpa using h
  | succ m ih =>
    obtain ⟨h1, h2⟩ := fresh_tensor_box b w hb hw h
    obtain ⟨h3, h4⟩ := ih _ h1
    simp only [List.replicate_succ, List.foldl_cons]
    refine ⟨h3, ?_⟩
    rw [h4, h2, List.append_assoc]; rfl

theorem initCircuit_fresh (inp : TkIn) : Fresh (initCircuit inp) ∧ (initCircuit inp).cod = inp.units := by
  unfold initCircuit D.tensorAll
  rw [List.foldl_append]
  have h0 : Fresh (D.id []) := rfl
  obtain ⟨h1, h2⟩ := fresh_replicate (.ket [0]) .q (.inl rfl) rfl inp.nq _ h0
  obtain ⟨h3, h4⟩ := fresh_replicate (.bits [0] false) .b (.inr rfl) rfl inp.nbits _ h1
  refine ⟨h3, ?_⟩
  rw [h4, h2]; rfl

theorem init_inv (inp : TkIn) : LoopInv inp ⟨initCircuit inp, []⟩ ⟨List.range (inp.nq + inp.nbits), [], []⟩ := by
  obtain ⟨h1, h2⟩ := initCircuit_fresh inp
  have hl := units_length inp
  refine ⟨initCircuit_WT inp, h2, ?_, by simp [hl], rfl⟩
  unfold Fresh at h1
  rw [h1, h2, hl]

/-! ### after the loop: the final layer (tk.py:336-339) -/

/-- The ids that pass the final layer (bit wires that are not post-selected), and the
    post-selections it records, for the positions `ps`. -/
def keptOf (bras : PS) (σ : List Nat) (ps : List (W × Nat)) : List Nat :=
  ps.filterMap fun p => if bras.has p.2 then none else if p.1 = .q then none else some (idAt σ p.2)

def brasOf (bras : PS) (σ : List Nat) (ps : List (W × Nat)) : List (Nat × Nat) :=
  ps.filterMap fun p => if bras.has p.2 then some (idAt σ p.2, (bras.get p.2).getD 0) else none

theorem drop_eq_cons_idAt (σ : List Nat) (k : Nat) (h : k < σ.length) : σ.drop k = idAt σ k :: σ.drop (k + 1) := by
  rw [List.drop_eq_getElem_cons h]
  simp [idAt, List.getElem?_eq_getElem h]

/-- Following ids through the final layer, built box by box from position `k` on: `kept` are the
    ids already passed, `B` the post-selections already recorded. -/
theorem final_fold (bras : PS) (σ : List Nat) (T : Tr) (ws : List W) :
    ∀ (k : Nat) (acc : D) (kept : List Nat) (B : List (Nat × Nat)),
      k + ws.length ≤ σ.length → acc.cod.length = kept.length →
      T.runFrom acc.layers = { T with arr := kept ++ σ.drop k, bras := B } →
      T.runFrom (((ws.zipIdx k).map (finalBox bras)).foldl D.tensor acc).layers =
        { T with arr := kept ++ keptOf bras σ (ws.zipIdx k) ++ σ.drop (k + ws.length)
                 bras := B ++ brasOf bras σ (ws.zipIdx k) } := by
  induction ws with
  | nil => intro k acc kept B _ _ h; simpa [keptOf, brasOf] using h
  | cons x ws ih =>
    intro k acc kept B hk hc h
    have hk' : k < σ.length := by simp at hk; omega
    have hk1 : k + 1 + ws.length ≤ σ.length := by simp at hk; omega
    simp only [List.zipIdx_cons, List.map_cons, List.foldl_cons]
    have hd := drop_eq_cons_idAt σ k hk'
    have hboxlayers : ∀ b : TBox, (acc.tensor (D.box b)).layers = acc.layers ++ [(b, kept.length)] := by
      intro b; simp [D.tensor, D.box, shiftLayers, hc]
    have e2 : k + 1 + ws.length = k + (x :: ws).length := by simp; omega
    by_cases hb : bras.has k = true
    · have hfb : finalBox bras (x, k) = D.box (.bra [(bras.get k).getD 0]) := by simp [finalBox, hb]
      have := ih (k + 1) (acc.tensor (D.box (.bra [(bras.get k).getD 0]))) kept
        (B ++ [(idAt σ k, (bras.get k).getD 0)]) hk1
        (by simp [D.tensor, D.box, TBox.cod, hc])
        (by
          rw [hboxlayers, Tr.runFrom_append, h]
          simp [Tr.runFrom, Tr.step, hd, removeAt, List.drop_append])
      rw [hfb, this, e2]
      simp [keptOf, brasOf, hb, List.append_assoc]
    · have hb' : bras.has k = false := by simpa using hb
      cases x with
      | q =>
        have hfb : finalBox bras (W.q, k) = D.box (.discard [.q]) := by simp [finalBox, hb']
        have := ih (k + 1) (acc.tensor (D.box (.discard [.q]))) kept B hk1
          (by simp [D.tensor, D.box, TBox.cod, hc])
          (by
            rw [hboxlayers, Tr.runFrom_append, h]
            simp [Tr.runFrom, Tr.step, hd, removeAt, List.drop_append])
        rw [hfb, this, e2]
        simp [keptOf, brasOf, hb']
      | b =>
        have hfb : finalBox bras (W.b, k) = D.id [.b] := by simp [finalBox, hb']
        have := ih (k + 1) (acc.tensor (D.id [.b])) (kept ++ [idAt σ k]) B hk1
          (by simp [D.tensor, D.id, hc])
          (by
            have : (acc.tensor (D.id [.b])).layers = acc.layers := by simp [D.tensor, D.id, shiftLayers]
            rw [this, h, hd]; simp)
        rw [hfb, this, e2]
        simp [keptOf, brasOf, hb', List.append_assoc]

/-! ### the specification keeps the bit slots in place -/

structure SpecInv (inp : TkIn) (s : ImpSpec) : Prop where
  len : s.σ.length = inp.nq + inp.nbits
  fix : ∀ i, inp.nq ≤ i → idAt s.σ i = idAt (List.range (inp.nq + inp.nbits)) i
  keys : ∀ k, s.bras.has k = true → k < inp.nq

theorem idAt_exchange_other (σ : List Nat) (a b i : Nat) (ha : i ≠ a) (hb : i ≠ b) :
    idAt (exchange σ a b) i = idAt σ i := by
  simp [idAt, exchange, Ne.symm ha, Ne.symm hb]

theorem spec_step_inv {inp : TkIn} {s : ImpSpec} {c : Cmd} (himp : Cmd.importable inp c = true)
    (inv : SpecInv inp s) : SpecInv inp (ImpSpec.step inp s c) := by
  by_cases hop : c.op = "Measure"
  · obtain ⟨q, b, hq, hb, hlt, _⟩ := importable_measure hop himp
    simp only [ImpSpec.step, hop, if_true, hq, hb, List.head?_cons]
    split
    · refine ⟨inv.len, inv.fix, ?_⟩
      intro k hk
      simp only [PS.has_set, Bool.or_eq_true, decide_eq_true_eq] at hk
      rcases hk with rfl | hk
      · exact hlt
      · exact inv.keys k hk
    · exact ⟨inv.len, inv.fix, inv.keys⟩
  · obtain ⟨box, hb, hk, hqs, _, _⟩ := importable_gate hop himp
    simp only [ImpSpec.step, hop, if_false, hb]
    split
    · rename_i x y a b _ hqab
      have hab : a < inp.nq ∧ b < inp.nq := by
        rcases hqs with ⟨a', h1, _⟩ | ⟨a', b', h1, _, h3, h4⟩
        · rw [h1] at hqab; cases hqab
        · rw [h1] at hqab; cases hqab; exact ⟨h3, h4⟩
      refine ⟨by simp [exchange, inv.len], ?_, inv.keys⟩
      intro i hi
      rw [idAt_exchange_other _ _ _ _ (by omega) (by omega)]
      exact inv.fix i hi
    · exact ⟨inv.len, inv.fix, inv.keys⟩

theorem spec_run_inv {inp : TkIn} (himp : inp.importable = true) : SpecInv inp (ImpSpec.run inp) := by
  have h0 : SpecInv inp ⟨List.range (inp.nq + inp.nbits), [], []⟩ :=
    ⟨by simp, fun _ _ => rfl, by intro k hk; simp [PS.has] at hk⟩
  suffices ∀ (cmds : List Cmd) (s : ImpSpec), (∀ c ∈ cmds, Cmd.importable inp c = true) → SpecInv inp s →
      SpecInv inp (cmds.foldl (ImpSpec.step inp) s) from this _ _ (List.all_eq_true.mp himp) h0
  intro cmds
  induction cmds with
  | nil => exact fun s _ h => h
  | cons c rest ih =>
    exact fun s hc h => ih _ (fun c' hc' => hc c' (by simp [hc'])) (spec_step_inv (hc c (by simp)) h)

/-! ### the whole import -/

theorem zipIdx_replicate_mem (w : W) (m k : Nat) :
    ∀ p ∈ (List.replicate m w).zipIdx k, p.1 = w ∧ k ≤ p.2 ∧ p.2 < k + m := by
  induction m generalizing k with
  | zero => simp
  | succ m ih =>
    intro p hp
    simp only [List.replicate_succ, List.zipIdx_cons, List.mem_cons] at hp
    rcases hp with rfl | hp
    · exact ⟨rfl, by omega, by omega⟩
    · have := ih (k + 1) p hp
      exact ⟨this.1, by omega, by omega⟩

theorem filterMap_zipIdx_replicate (w : W) (f : W × Nat → Option Nat) (m k : Nat)
    (h : ∀ i, k ≤ i → i < k + m → f (w, i) = some i) :
    ((List.replicate m w).zipIdx k).filterMap f = List.range' k m := by
  induction m generalizing k with
  | zero => simp
  | succ m ih =>
    simp only [List.replicate_succ, List.zipIdx_cons, List.filterMap_cons, h k (by omega) (by omega),
      List.range'_succ]
    rw [ih (k + 1) (fun i h1 h2 => h i (by omega) (by omega))]

theorem keptOf_units (inp : TkIn) (s : ImpSpec) (inv : SpecInv inp s) :
    keptOf s.bras s.σ inp.units.zipIdx = List.range' inp.nq inp.nbits := by
  unfold keptOf TkIn.units
  rw [List.zipIdx_append, List.filterMap_append]
  have h1 : ((List.replicate inp.nq W.q).zipIdx 0).filterMap
      (fun p => if s.bras.has p.2 = true then none else if p.1 = W.q then none else some (idAt s.σ p.2)) = [] := by
    rw [List.filterMap_eq_nil_iff]
    intro p hp
    have := (zipIdx_replicate_mem _ _ _ p hp).1
    simp [this]
  rw [h1, List.nil_append]
  simp only [List.length_replicate, Nat.zero_add]
  apply filterMap_zipIdx_replicate
  intro i h1 h2
  have hk : s.bras.has i = false := Bool.eq_false_iff.mpr fun hh => by have := inv.keys i hh; omega
  have hf := inv.fix i h1
  simp only [idAt] at hf
  simp [hk, idAt, hf, List.getElem?_range h2]

theorem brasOf_units (inp : TkIn) (s : ImpSpec) :
    brasOf s.bras s.σ inp.units.zipIdx = s.braList inp := by
  unfold brasOf ImpSpec.braList
  have : inp.units.zipIdx.map (·.2) = List.range (inp.nq + inp.nbits) := by
    rw [List.zipIdx_eq_zip_range', List.map_snd_zip (by simp), units_length, List.range_eq_range']
  rw [← this, List.filterMap_map]
  rfl

/-- Following wire identities through the circuit `from_tk` builds before it attaches the scalar
    and the post-processing. -/
theorem fromTkBody_trace {inp : TkIn} {body : D} (himp : inp.importable = true) (h : fromTkBody inp = .ok body) :
    Tr.run body.layers = ⟨List.range' inp.nq inp.nbits, inp.nq + inp.nbits, (ImpSpec.run inp).cmds,
      (ImpSpec.run inp).braList inp⟩ := by
  unfold fromTkBody at h
  split at h
  · cases h
  · rename_i acc hacc
    obtain ⟨acc', hacc', inv⟩ := loopCmds_spec inp.cmds (List.all_eq_true.mp himp) (init_inv inp)
    obtain rfl : acc = acc' := by rw [hacc] at hacc'; cases hacc'; rfl
    have sinv := spec_run_inv himp
    change LoopInv inp acc (ImpSpec.run inp) at inv
    have hl : body.layers = acc.circuit.layers ++ (finalLayer acc.bras acc.circuit.cod).layers :=
      congrArg D.layers (D.then_ok h).2
    have hlen := units_length inp
    have hf := final_fold acc.bras (ImpSpec.run inp).σ (Tr.run acc.circuit.layers) inp.units 0 (D.id []) [] []
      (by simp [inv.len]) rfl (by simp [D.id, Tr.runFrom, inv.tr])
    rw [hl, Tr.run_append, inv.cod]
    unfold finalLayer D.tensorAll
    rw [hf, inv.tr, inv.bras, keptOf_units inp _ sinv, brasOf_units]
    simp [inv.len, hlen]

/-- Boxes that record neither a command nor a post-selection. -/
def quiet : TBox → Bool
  | .swap _ _ => true
  | .cgate _ _ _ => true
  | .scalar _ _ => true
  | _ => false

theorem runFrom_quiet (t : Tr) (ls : Layers) (h : ∀ l ∈ ls, quiet l.1 = true) :
    (t.runFrom ls).cmds = t.cmds ∧ (t.runFrom ls).bras = t.bras := by
  induction ls generalizing t with
  | nil => exact ⟨rfl, rfl⟩
  | cons l ls ih =>
    obtain ⟨b, off⟩ := l
    have hb := h (b, off) (by simp)
    have := ih (Tr.step t (b, off)) (fun l' hl' => h l' (by simp [hl']))
    simp only [Tr.runFrom, List.foldl_cons] at this ⊢
    rw [this.1, this.2]
    cases b <;> simp [quiet] at hb <;> simp [Tr.step]

/-- **Every gate is placed on the units tket names.**  Following wire identities through the
    imported circuit gives the commands and the post-selections of the specification. -/
theorem fromTk_trace {inp : TkIn} {d : D} (himp : inp.importable = true) (h : fromTk inp = .ok d) :
    (Tr.run d.layers).cmds = (ImpSpec.run inp).cmds ∧ (Tr.run d.layers).bras = (ImpSpec.run inp).braList inp := by
  unfold fromTk at h
  split at h
  · cases h
  · rename_i body hbody
    have hb := fromTkBody_trace himp hbody
    obtain ⟨extra, he, hq⟩ : ∃ extra, d.layers = body.layers ++ extra ∧ ∀ l ∈ extra, quiet l.1 = true := by
      obtain ⟨_, rfl⟩ := D.then_ok h
      have hpp : ∀ l ∈ inp.pp.toD.layers, quiet l.1 = true := by
        intro l hl
        simp only [PP.toD, List.mem_map] at hl
        obtain ⟨pl, _, rfl⟩ := hl
        cases pl.1 <;> rfl
      unfold addScalar
      split
      · refine ⟨shiftLayers body.cod.length [(.scalar 0 true, 0)] ++ inp.pp.toD.layers, by simp [D.tensor, D.box], ?_⟩
        intro l hl
        rcases List.mem_append.mp hl with hl | hl
        · simp only [shiftLayers, List.map_cons, List.map_nil, List.mem_singleton] at hl
          rw [hl]; rfl
        · exact hpp l hl
      · exact ⟨inp.pp.toD.layers, rfl, hpp⟩
    rw [he, Tr.run_append]
    have := runFrom_quiet (Tr.run body.layers) extra hq
    rw [this.1, this.2, hb]
    exact ⟨rfl, rfl⟩

end DV.Tk
