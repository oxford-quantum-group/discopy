/-
  Proofs/TensorSum.lean — the image of a formal sum under a tensor functor is a tensor of the image
  types (whatever the number of terms); for no term it is the zero tensor; it is defined as soon
  as every term evaluates to a tensor of those types.
-/
import Model.TensorSum
import Proofs.TensorFunctor

namespace DV
namespace TFunctor
variable {R : Type} [Add R] [Mul R] [Zero R] [One R] [Conj R] [DecidableEq R]

omit [Mul R] [One R] [Conj R] in
/-- `Tensor.__add__` keeps the type of its left operand. -/
theorem add_type {f g t : Tensor R} (h : f.add g = .ok t) : t.dom = f.dom ∧ t.cod = f.cod := by
  unfold Tensor.add at h
  split at h
  · cases h; exact ⟨rfl, rfl⟩
  · split at h
    · cases h
    · cases h; exact ⟨rfl, rfl⟩

theorem sumLoop_type (F : TFunctor R) (terms : List Diagram) :
    ∀ (acc t : Tensor R), F.sumLoop acc terms = .ok t → t.dom = acc.dom ∧ t.cod = acc.cod := by
  induction terms with
  | nil => intro acc t h; simp only [sumLoop] at h; cases h; exact ⟨rfl, rfl⟩
  | cons d ds ih =>
    intro acc t h
    simp only [sumLoop] at h
    split at h
    · cases h
    · split at h
      · cases h
      · rename_i acc' hadd
        have h1 := ih acc' t h
        have h2 := add_type hadd
        exact ⟨h1.1.trans h2.1, h1.2.trans h2.2⟩

omit [Mul R] [One R] [Conj R] in
theorem add_defined {f g : Tensor R} (hd : g.dom = f.dom) (hc : g.cod = f.cod) :
    ∃ t, f.add g = .ok t := by
  unfold Tensor.add
  split
  · exact ⟨_, rfl⟩
  · rw [if_neg (by rw [hd, hc]; exact fun h => h rfl)]
    exact ⟨_, rfl⟩

theorem sumLoop_defined (F : TFunctor R) : ∀ (terms : List Diagram) (acc : Tensor R),
    (∀ d ∈ terms, ∃ t, F.call d = .ok t ∧ t.dom = acc.dom ∧ t.cod = acc.cod) →
    ∃ t, F.sumLoop acc terms = .ok t
  | [], acc, _ => ⟨acc, rfl⟩
  | d :: ds, acc, h => by
    obtain ⟨t, ht, hd, hc⟩ := h d List.mem_cons_self
    obtain ⟨acc', hadd⟩ := add_defined (f := acc) hd hc
    simp only [sumLoop, ht, hadd]
    have h' := add_type hadd
    exact sumLoop_defined F ds acc' (fun d' hd' => by
      rw [h'.1, h'.2]; exact h d' (List.mem_cons_of_mem _ hd'))

/-- The empty sum: no term is evaluated, the start value is the answer. -/
theorem callSum_nil (F : TFunctor R) (dom cod : Ty) :
    F.callSum dom cod [] = .ok (Tensor.zeros (F.ty dom) (F.ty cod)) := rfl

end TFunctor

namespace Tensor
variable {R : Type} [Zero R]

/-- `Tensor.zeros(dom, cod)` is a well-formed tensor `dom → cod`. -/
theorem zeros_wf (dom cod : List Nat) : (Tensor.zeros (R := R) dom cod).WF :=
  mk'_wf dom cod _ (ofFn_wf _ _) rfl

/-- Every entry of `Tensor.zeros(dom, cod)` is zero. -/
theorem zeros_data (dom cod : List Nat) :
    ∀ x ∈ (Tensor.zeros (R := R) dom cod).arr.data.toList, x = 0 := by
  intro x hx
  simp only [Tensor.zeros, mk', NDArray.reshape, NDArray.zeros, NDArray.ofFn, List.toList_toArray,
    List.mem_map] at hx
  obtain ⟨_, _, rfl⟩ := hx
  rfl

end Tensor
end DV
