/-
  Proofs/Special.lean — dagger laws at box level for the special box subclasses
  (Model/Special.lean).  `dagW true` is the dagger as repaired after findings F42a-c — the one
  `SBox.dag` follows, the switch `f42Fixed` being on —, `dagW false` the dagger as it was found.
  Identity on objects for both; the repaired one involutive on every box, the one found only on the
  `Plain` boxes, with a witness against it for `circuit.Box` (F42b; those for F42a, F42c are in
  Props/C02.lean).
-/
import Model.Special

namespace DV.Special.SBox
open DV DV.Special

theorem dagW_dom (fx : Bool) (b : SBox) : (b.dagW fx).dom = b.cod := by
  cases b
  case digits ds dim dg => cases dg <;> rfl
  case scalar name re im mixed =>
    simp only [dagW]; split
    · rfl
    · split <;> rfl
  all_goals rfl

theorem dagW_cod (fx : Bool) (b : SBox) : (b.dagW fx).cod = b.dom := by
  cases b
  case digits ds dim dg => cases dg <;> rfl
  case scalar name re im mixed =>
    simp only [dagW]; split
    · rfl
    · split <;> rfl
  all_goals rfl

theorem flipKeepNone_flipKeepNone (o : Option Bool) : flipKeepNone (flipKeepNone o) = o := by
  cases o <;> simp [flipKeepNone]

theorem pyNot_pyNot {o : Option Bool} (h : o ≠ none) : pyNot (pyNot o) = o := by
  cases o <;> simp_all [pyNot]

/-- The dagger as it was found: involutive on the `Plain` boxes. -/
theorem dagW_false_involutive (b : SBox) (h : b.Plain) : (b.dagW false).dagW false = b := by
  cases b with
  | word | digits => simp only [dagW, Bool.not_not]
  | classicalGate => simp only [dagW, flipKeepNone_flipKeepNone]
  | quantumGate name n data dg | controlledGate name data dg =>
    have h : data = "-" := h
    simp only [dagW, Bool.false_eq_true, ↓reduceIte, flipKeepNone_flipKeepNone, h]
  | cbox name dom cod data dg =>
    simp only [dagW, Bool.false_eq_true, ↓reduceIte, pyNot_pyNot h]
  | rotation | controlledRot | zxScalar | spider => simp only [dagW, Int.neg_neg]
  | scalar name re im mixed =>
    by_cases him : im = 0
    · simp only [dagW, him, ↓reduceIte]
    · obtain ⟨rfl, rfl⟩ := (h : im = 0 ∨ _).resolve_left him
      simp only [dagW, him, Int.neg_eq_zero, Bool.false_eq_true, ↓reduceIte, Int.neg_neg]
  | _ => rfl

/-- The repaired dagger (notes/finding_F42.diff, now in the code): involutive on every box. -/
theorem dagW_true_involutive (b : SBox) : (b.dagW true).dagW true = b := by
  cases b with
  | word | digits => simp only [dagW, Bool.not_not]
  | classicalGate | quantumGate | controlledGate | cbox =>
    simp only [dagW, ↓reduceIte, flipKeepNone_flipKeepNone]
  | rotation | controlledRot | zxScalar | spider => simp only [dagW, Int.neg_neg]
  | scalar name re im mixed =>
    by_cases him : im = 0
    · simp only [dagW, him, ↓reduceIte]
    · simp only [dagW, him, Int.neg_eq_zero, ↓reduceIte, Int.neg_neg]
  | _ => rfl

/-- Dagger keeps the class of boxes the involution theorem is about. -/
theorem dagW_plain (fx : Bool) (b : SBox) (h : b.Plain) : (b.dagW fx).Plain := by
  cases b with
  | quantumGate name n data dg | controlledGate name data dg =>
    show (if fx then data else "-") = "-"
    rw [show data = "-" from h, ite_self]
  | cbox name dom cod data dg =>
    show (if fx then flipKeepNone dg else pyNot dg) ≠ none
    cases dg with
    | none => exact absurd rfl h
    | some v => cases fx <;> exact Option.some_ne_none _
  | scalar name re im mixed =>
    by_cases him : im = 0
    · simp only [dagW, him, ↓reduceIte]
      exact Or.inl rfl
    · obtain ⟨rfl, rfl⟩ := (h : im = 0 ∨ _).resolve_left him
      simp only [dagW, him, ↓reduceIte]
      cases fx <;> exact Or.inr ⟨rfl, rfl⟩
  | _ => trivial

/-! Refutation outside `Plain`, for the dagger as it was found (`dagW false`) -/

/-- F42b: `circuit.Box('m', bit, bit, _dagger=None)[::-1][::-1]` has `_dagger=False`. -/
theorem not_dag_dag_cbox_none :
    ((cbox "'m'" [bit] [bit] "-" none).dagW false).dagW false ≠ cbox "'m'" [bit] [bit] "-" none := by
  decide +kernel

end DV.Special.SBox
