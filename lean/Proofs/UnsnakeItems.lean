/-
  Proofs/UnsnakeItems.lean — C07: the `(box, offset)` view of a well-typed diagram and the closed
  form of `interchange` on it: one adjacent move (either preference), and a box moving up/down
  past a block of boxes that all lie to its right, the moves `unsnake` makes; the same through the
  public `interchange(i, j)`, as legal steps of the trace.
-/
import Proofs.Move
import Proofs.Normalize
import Proofs.Snake

namespace DV

/-- The public data of a diagram: its boxes with their offsets. -/
def Diagram.items (d : Diagram) : List (Box × Int) := d.boxes.zip d.offsets

theorem Diagram.items_wf {d : Diagram} (hd : d.WF) :
    d.items = d.layers.boxes.map (fun l => (l.box, (l.left.length : Int))) := by
  rw [Diagram.items, hd.boxes, hd.offsets, List.zip_map']

theorem Diagram.items_length {d : Diagram} (hd : d.WF) : d.items.length = d.boxes.length := by
  rw [Diagram.items_wf hd, hd.boxes]; simp

theorem Diagram.items_boxes {d : Diagram} (hd : d.WF) : d.boxes = d.items.map (·.1) := by
  rw [Diagram.items_wf hd, hd.boxes]; simp

theorem Diagram.items_offsets {d : Diagram} (hd : d.WF) : d.offsets = d.items.map (·.2) := by
  rw [Diagram.items_wf hd, hd.offsets]; simp

theorem Diagram.items_get {d : Diagram} (hd : d.WF) {i : Nat} {x : Box × Int}
    (h : d.items[i]? = some x) : d.boxes[i]? = some x.1 ∧ d.offsets[i]? = some x.2 := by
  rw [Diagram.items_boxes hd, Diagram.items_offsets hd]
  simp [h]

theorem Diagram.items_of_get {d : Diagram} {i : Nat} {b : Box} {o : Int}
    (hb : d.boxes[i]? = some b) (ho : d.offsets[i]? = some o) : d.items[i]? = some (b, o) :=
  List.getElem?_zip_eq_some.mpr ⟨hb, ho⟩

theorem getElem?_mid {α} (P : List α) (x : α) (S : List α) : (P ++ x :: S)[P.length]? = some x := by
  simp

theorem getElem?_mid1 {α} (P : List α) (x y : α) (S : List α) :
    (P ++ x :: y :: S)[P.length + 1]? = some y := by
  rw [List.getElem?_append_right (by omega)]
  simp

/-- Result of `interchange(i, i+1, left)` on the adjacent items `x` (upper) and `y` (lower),
    rewriting.py:57-73. -/
def swapItems (left : Bool) (x y : Box × Int) : Option ((Box × Int) × (Box × Int)) :=
  if left && decide (y.2 ≥ x.2 + x.1.cod.length) then
    some ((y.1, y.2 - x.1.cod.length + x.1.dom.length), x)
  else if x.2 ≥ y.2 + y.1.dom.length then
    some (y, (x.1, x.2 - y.1.dom.length + y.1.cod.length))
  else if y.2 ≥ x.2 + x.1.cod.length then
    some ((y.1, y.2 - x.1.cod.length + x.1.dom.length), x)
  else none

/-- One adjacent interchange in the item view: it succeeds exactly as `swapItems` says. -/
theorem Diagram.interchangeAdj_items {d : Diagram} (hd : d.WF) {left : Bool}
    {P S : List (Box × Int)} {x y y' x' : Box × Int} (h : d.items = P ++ x :: y :: S)
    (hs : swapItems left x y = some (y', x')) :
    ∃ d', d.interchangeAdj P.length left = .ok d' ∧ d'.WF ∧ d'.items = P ++ y' :: x' :: S := by
  have hit := Diagram.items_wf hd
  have hx : d.items[P.length]? = some x := by rw [h]; exact getElem?_mid P x (y :: S)
  have hy : d.items[P.length + 1]? = some y := by rw [h]; exact getElem?_mid1 P x y S
  rw [hit, List.getElem?_map, Option.map_eq_some_iff] at hx hy
  obtain ⟨l0, e2, rfl⟩ := hx
  obtain ⟨l1, e3, rfl⟩ := hy
  have e0 : d.offsets[P.length]? = some (l0.left.length : Int) := by rw [hd.offsets]; simp [e2]
  have e1 : d.offsets[P.length + 1]? = some (l1.left.length : Int) := by rw [hd.offsets]; simp [e3]
  have hadj := chain_adjacent hd.chain e2 e3
  have hlen : P.length + 1 < d.layers.boxes.length := (List.getElem?_eq_some_iff.mp e3).1
  -- the choice made by the code
  have hch : ∃ o0 o1 y0 y1, interchangeChoice left (l0.left.length : Int) l1.left.length l0 l1
      = .ok (o0, o1, y0, y1) ∧ y' = (l1.box, o1) ∧ x' = (l0.box, o0) := by
    unfold swapItems at hs
    unfold interchangeChoice
    split at hs
    · rename_i hc
      rw [if_pos hc]
      simp only [Option.some.injEq, Prod.mk.injEq] at hs
      exact ⟨_, _, _, _, rfl, hs.1.symm, hs.2.symm⟩
    · rename_i hc
      rw [if_neg hc]
      split at hs
      · rename_i hc1
        rw [if_pos hc1]
        simp only [Option.some.injEq, Prod.mk.injEq] at hs
        exact ⟨_, _, _, _, rfl, hs.1.symm, hs.2.symm⟩
      · rename_i hc1
        rw [if_neg hc1]
        split at hs
        · rename_i hc2
          rw [if_pos hc2]
          simp only [Option.some.injEq, Prod.mk.injEq] at hs
          exact ⟨_, _, _, _, rfl, hs.1.symm, hs.2.symm⟩
        · cases hs
  obtain ⟨o0, o1, y0, y1, hch, rfl, rfl⟩ := hch
  obtain ⟨q0, q1, hb0, hb1⟩ := interchangeChoice_offsets rfl rfl hch
  obtain ⟨t1, t2, t3, t4⟩ := (interchangeChoice_exch hadj rfl rfl hch).typing
  obtain ⟨d', hd'⟩ := Diagram.splice_total (o0 := o0) (o1 := o1) hd e2 e3 t3 t2 t4
  obtain ⟨w, _, _, hboxes⟩ := Diagram.splice_wf hd hlen q0 q1 hd'
  refine ⟨d', ?_, w, ?_⟩
  · unfold Diagram.interchangeAdj
    simp only [e0, e1, e2, e3, hch, hd']
  · -- the layers outside positions `P.length`, `P.length + 1` are untouched
    have hP : d.items.take P.length = P := by rw [h]; simp
    have hS : d.items.drop (P.length + 2) = S := by rw [h]; simp
    rw [Diagram.items_wf w, hboxes]
    simp only [List.map_append, List.map_take, List.map_drop, List.map_cons, List.map_nil, ← hit,
      hP, hS, hb0, hb1, ← q0, ← q1]
    simp

theorem list_concat_induction {α} {motive : List α → Prop} (nil : motive [])
    (concat : ∀ xs x, motive xs → motive (xs ++ [x])) (xs : List α) : motive xs := by
  rw [← List.reverse_reverse xs]
  induction xs.reverse with
  | nil => exact nil
  | cons x t ih => rw [List.reverse_cons]; exact concat _ _ ih

def shiftItem (δ : Int) (x : Box × Int) : Box × Int := (x.1, x.2 + δ)

/-- `a` moves up past the block `M`, every box of which lies to the right of `a`'s inputs. -/
theorem interchangeUp_items {d : Diagram} (hd : d.WF) {P M S : List (Box × Int)}
    {a : Box × Int} (h : d.items = P ++ M ++ a :: S)
    (hM : ∀ x ∈ M, x.2 ≥ a.2 + a.1.dom.length) :
    ∃ d', interchangeUp false M.length (P.length + M.length) d = .ok d' ∧ d'.WF ∧
      d'.items = P ++ a :: M.map (shiftItem (a.1.cod.length - a.1.dom.length)) ++ S := by
  induction M using list_concat_induction generalizing d S with
  | nil => exact ⟨d, rfl, hd, by simpa using h⟩
  | concat M x ih =>
    have hx := hM x (by simp)
    have hsw : swapItems false x a = some (a, (x.1, x.2 - a.1.dom.length + a.1.cod.length)) := by
      unfold swapItems; rw [if_neg (by simp), if_pos hx]
    have h1 : d.items = (P ++ M) ++ x :: a :: S := by rw [h]; simp
    obtain ⟨d1, hd1, w1, it1⟩ := Diagram.interchangeAdj_items hd h1 hsw
    obtain ⟨d2, hd2, w2, it2⟩ := ih w1 it1 (fun z hz => hM z (by simp [hz]))
    refine ⟨d2, ?_, w2, ?_⟩
    · rw [List.length_append, List.length_singleton, ← Nat.add_assoc]
      simp only [interchangeUp, if_neg (Nat.succ_ne_zero _), Nat.add_sub_cancel]
      rw [← List.length_append, hd1]
      rwa [List.length_append]
    · rw [it2]
      simp only [List.map_append, List.map_cons, List.map_nil, shiftItem, List.append_assoc,
        List.cons_append, List.nil_append]
      congr 5
      omega

/-- `a` moves down past the block `M`, every box of which lies to the right of `a`'s outputs
    (and not to its left: the code tests that first). -/
theorem interchangeDown_items {d : Diagram} (hd : d.WF) {P M S : List (Box × Int)}
    {a : Box × Int} (h : d.items = P ++ a :: (M ++ S))
    (hM : ∀ y ∈ M, ¬ (a.2 ≥ y.2 + y.1.dom.length) ∧ y.2 ≥ a.2 + a.1.cod.length) :
    ∃ d', interchangeDown false M.length P.length d = .ok d' ∧ d'.WF ∧
      d'.items = P ++ M.map (shiftItem (a.1.dom.length - a.1.cod.length)) ++ a :: S := by
  induction M generalizing d P with
  | nil => exact ⟨d, rfl, hd, by simpa using h⟩
  | cons y M ih =>
    obtain ⟨hy1, hy2⟩ := hM y (by simp)
    have hsw : swapItems false a y = some ((y.1, y.2 - a.1.cod.length + a.1.dom.length), a) := by
      unfold swapItems; rw [if_neg (by simp), if_neg hy1, if_pos hy2]
    obtain ⟨d1, hd1, w1, it1⟩ := Diagram.interchangeAdj_items hd h hsw
    have h2 : d1.items = (P ++ [(y.1, y.2 - a.1.cod.length + a.1.dom.length)]) ++ a :: (M ++ S) := by
      rw [it1]; simp
    obtain ⟨d2, hd2, w2, it2⟩ := ih w1 h2 (fun z hz => hM z (by simp [hz]))
    refine ⟨d2, ?_, w2, ?_⟩
    · simp only [List.length_cons, interchangeDown, hd1]
      rwa [List.length_append, List.length_singleton] at hd2
    · rw [it2]
      simp only [List.map_cons, shiftItem, List.append_assoc, List.cons_append, List.nil_append]
      congr 3
      omega

theorem Diagram.interchange_up_items {d : Diagram} (hd : d.WF) {P M S : List (Box × Int)}
    {a : Box × Int} (h : d.items = P ++ M ++ a :: S)
    (hM : ∀ x ∈ M, x.2 ≥ a.2 + a.1.dom.length) (hne : M ≠ []) {i : Nat}
    (hi : i = P.length + M.length) :
    ∃ d', d.interchange (i : Int) (P.length : Int) false = .ok d' ∧ istep d d' = true ∧
      d'.WF ∧ d'.items = P ++ a :: M.map (shiftItem (a.1.cod.length - a.1.dom.length)) ++ S := by
  subst hi
  have hl : P.length + M.length < d.boxes.length := by
    rw [← Diagram.items_length hd, h]; simp
  obtain ⟨d', hd', r⟩ := interchangeUp_items hd h hM
  rw [← Diagram.interchange_up_eq (Int.natCast_add _ _) hl] at hd'
  have := List.length_pos_iff.mpr hne
  exact ⟨d', hd', istep_of hd' hl (by omega) (by omega), r⟩

theorem Diagram.interchange_down_items {d : Diagram} (hd : d.WF) {P M S : List (Box × Int)}
    {a : Box × Int} (h : d.items = P ++ a :: (M ++ S))
    (hM : ∀ y ∈ M, ¬ (a.2 ≥ y.2 + y.1.dom.length) ∧ y.2 ≥ a.2 + a.1.cod.length) (hne : M ≠ [])
    {i j : Nat} (hi : i = P.length) (hj : j = P.length + M.length) :
    ∃ d', d.interchange (i : Int) (j : Int) false = .ok d' ∧ istep d d' = true ∧
      d'.WF ∧ d'.items = P ++ M.map (shiftItem (a.1.dom.length - a.1.cod.length)) ++ a :: S := by
  subst hi hj
  have hl : P.length + M.length < d.boxes.length := by
    rw [← Diagram.items_length hd, h]; simp; omega
  obtain ⟨d', hd', r⟩ := interchangeDown_items hd h hM
  rw [← Diagram.interchange_down_eq (Int.natCast_add _ _) hl] at hd'
  have := List.length_pos_iff.mpr hne
  exact ⟨d', hd', istep_of hd' (by omega) hl (by omega), r⟩

/-- One adjacent move, requested either way round. -/
theorem Diagram.interchange_adj_items {d : Diagram} (hd : d.WF) {P S : List (Box × Int)}
    {x y y' x' : Box × Int} (h : d.items = P ++ x :: y :: S)
    (hs : swapItems false x y = some (y', x')) {i j : Nat} (hi : i = P.length) (hj : j = i + 1) :
    ∃ d', d.interchange (i : Int) (j : Int) false = .ok d' ∧
      d.interchange (j : Int) (i : Int) false = .ok d' ∧ istep d d' = true ∧
      d'.WF ∧ d'.items = P ++ y' :: x' :: S := by
  subst hi hj
  have hl : P.length + 1 < d.boxes.length := by
    rw [← Diagram.items_length hd, h]; simp
  obtain ⟨d', hd', r⟩ := Diagram.interchangeAdj_items hd h hs
  have h1 := Diagram.interchange_succ_eq (left := false) (j := ((P.length + 1 : Nat) : Int))
    (Int.natCast_add _ _) hl
  have h2 := Diagram.interchange_pred_eq (left := false) (j := ((P.length + 1 : Nat) : Int))
    (Int.natCast_add _ _) hl
  rw [hd'] at h1 h2
  exact ⟨d', h1, h2, istep_of h1 (by omega) hl (by omega), r⟩

end DV
