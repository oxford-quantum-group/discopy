/-
  Proofs/Cyc8Ring.lean — the exact arithmetic of Model/Cyc8.lean IS arithmetic in the ring ℤ[ζ₈][1/2].

  `Q8` = ℚ(ζ₈) = ℚ[ζ]/(ζ⁴ + 1) as four rational coordinates: a commutative star ring (`ring` closes the
  axioms coordinatewise).  `val : Cyc8 → Q8`, `(a + bζ + cζ² + dζ³)/2^e`, is
    * a homomorphism for the model's own `+ * − conj 0 1` (including the zero/one shortcuts and the
      normalisation `norm` inside `add` and `mul`) — on ALL values, normalised or not;
    * injective on NORMALISED values (`e = 0` or one coefficient odd) — `val_inj`;
  and every operation returns a normalised value when its arguments are (`isNormal_add`, …).
  Consequently any identity between expressions in normalised values that holds in a commutative ring
  holds for the structural equality of `Cyc8` — this is how Proofs/CircuitCyc8.lean transfers the
  whole-circuit theorems of Proofs/CircuitAlg.lean to the executable model.
-/
import Mathlib.Algebra.Ring.MinimalAxioms
import Mathlib.Algebra.Star.Basic
import Mathlib.Algebra.Order.Field.Rat
import Mathlib.Tactic.Ring
import Mathlib.Tactic.FieldSimp
import Mathlib.Tactic.Linarith
import Model.Gates

namespace DV

/-- ℚ(ζ₈): `a + bζ + cζ² + dζ³`, `ζ⁴ = −1`. -/
structure Q8 where
  a : ℚ
  b : ℚ
  c : ℚ
  d : ℚ

namespace Q8

@[ext] theorem ext {x y : Q8} (h1 : x.a = y.a) (h2 : x.b = y.b) (h3 : x.c = y.c) (h4 : x.d = y.d) :
    x = y := by
  cases x; cases y; simp_all

instance : Zero Q8 := ⟨⟨0, 0, 0, 0⟩⟩
instance : One Q8 := ⟨⟨1, 0, 0, 0⟩⟩
instance : Add Q8 := ⟨fun x y => ⟨x.a + y.a, x.b + y.b, x.c + y.c, x.d + y.d⟩⟩
instance : Neg Q8 := ⟨fun x => ⟨-x.a, -x.b, -x.c, -x.d⟩⟩
instance : Mul Q8 := ⟨fun x y =>
  ⟨x.a * y.a - x.b * y.d - x.c * y.c - x.d * y.b,
   x.a * y.b + x.b * y.a - x.c * y.d - x.d * y.c,
   x.a * y.c + x.b * y.b + x.c * y.a - x.d * y.d,
   x.a * y.d + x.b * y.c + x.c * y.b + x.d * y.a⟩⟩

@[simp] theorem zero_a : (0 : Q8).a = 0 := rfl
@[simp] theorem zero_b : (0 : Q8).b = 0 := rfl
@[simp] theorem zero_c : (0 : Q8).c = 0 := rfl
@[simp] theorem zero_d : (0 : Q8).d = 0 := rfl
@[simp] theorem one_a : (1 : Q8).a = 1 := rfl
@[simp] theorem one_b : (1 : Q8).b = 0 := rfl
@[simp] theorem one_c : (1 : Q8).c = 0 := rfl
@[simp] theorem one_d : (1 : Q8).d = 0 := rfl
@[simp] theorem add_a (x y : Q8) : (x + y).a = x.a + y.a := rfl
@[simp] theorem add_b (x y : Q8) : (x + y).b = x.b + y.b := rfl
@[simp] theorem add_c (x y : Q8) : (x + y).c = x.c + y.c := rfl
@[simp] theorem add_d (x y : Q8) : (x + y).d = x.d + y.d := rfl
@[simp] theorem neg_a (x : Q8) : (-x).a = -x.a := rfl
@[simp] theorem neg_b (x : Q8) : (-x).b = -x.b := rfl
@[simp] theorem neg_c (x : Q8) : (-x).c = -x.c := rfl
@[simp] theorem neg_d (x : Q8) : (-x).d = -x.d := rfl
@[simp] theorem mul_a (x y : Q8) : (x * y).a = x.a * y.a - x.b * y.d - x.c * y.c - x.d * y.b := rfl
@[simp] theorem mul_b (x y : Q8) : (x * y).b = x.a * y.b + x.b * y.a - x.c * y.d - x.d * y.c := rfl
@[simp] theorem mul_c (x y : Q8) : (x * y).c = x.a * y.c + x.b * y.b + x.c * y.a - x.d * y.d := rfl
@[simp] theorem mul_d (x y : Q8) : (x * y).d = x.a * y.d + x.b * y.c + x.c * y.b + x.d * y.a := rfl

instance : CommRing Q8 :=
  CommRing.ofMinimalAxioms
    (by intros; ext <;> simp <;> ring)
    (by intros; ext <;> simp)
    (by intros; ext <;> simp)
    (by intros; ext <;> simp <;> ring)
    (by intros; ext <;> simp <;> ring)
    (by intros; ext <;> simp)
    (by intros; ext <;> simp <;> ring)

/-- Complex conjugation: `ζ ↦ ζ⁻¹ = −ζ³`. -/
def conj (x : Q8) : Q8 := ⟨x.a, -x.d, -x.c, -x.b⟩

instance : StarRing Q8 where
  star := conj
  star_involutive x := by ext <;> simp [conj]
  star_mul x y := by ext <;> simp [conj] <;> ring
  star_add x y := by ext <;> simp [conj] <;> ring

theorem star_def (x : Q8) : star x = conj x := rfl

instance : Nontrivial Q8 := ⟨⟨0, 1, by intro h; have := congrArg Q8.a h; simp at this⟩⟩

end Q8

namespace Cyc8

/-- The number a value stands for. -/
def val (x : Cyc8) : Q8 :=
  ⟨(x.a : ℚ) / 2 ^ x.e, (x.b : ℚ) / 2 ^ x.e, (x.c : ℚ) / 2 ^ x.e, (x.d : ℚ) / 2 ^ x.e⟩

/-- Normalised: the exponent is minimal. -/
def isNormal (x : Cyc8) : Bool := x.e == 0 || !allEven x.a x.b x.c x.d

theorem allEven_iff (a b c d : Int) :
    allEven a b c d = true ↔ a % 2 = 0 ∧ b % 2 = 0 ∧ c % 2 = 0 ∧ d % 2 = 0 := by
  simp [allEven, and_assoc]

theorem cast_half {a : Int} (h : a % 2 = 0) : ((a / 2 : Int) : ℚ) = (a : ℚ) / 2 := by
  have : a = 2 * (a / 2) := by omega
  rw [eq_div_iff (by norm_num)]
  exact_mod_cast (by omega : a / 2 * 2 = a)

theorem val_norm (a b c d : Int) (e : Nat) :
    val (norm a b c d e) =
      ⟨(a : ℚ) / 2 ^ e, (b : ℚ) / 2 ^ e, (c : ℚ) / 2 ^ e, (d : ℚ) / 2 ^ e⟩ := by
  induction e generalizing a b c d with
  | zero => rfl
  | succ e ih =>
    unfold norm
    split
    · rename_i h
      obtain ⟨ha, hb, hc, hd⟩ := (allEven_iff a b c d).1 h
      rw [ih, cast_half ha, cast_half hb, cast_half hc, cast_half hd]
      simp only [pow_succ, div_div]
      congr 1 <;> ring
    · rfl

theorem isNormal_norm (a b c d : Int) (e : Nat) : isNormal (norm a b c d e) = true := by
  induction e generalizing a b c d with
  | zero => rfl
  | succ e ih =>
    unfold norm
    split
    · exact ih _ _ _ _
    · rename_i h; simp [isNormal, h]

theorem val_zero : val 0 = 0 := by
  show val zero = 0
  ext <;> simp [val, zero, ofInt]

theorem val_one : val 1 = 1 := by
  show val one = 1
  ext <;> simp [val, one, ofInt]

theorem val_of_isZero {x : Cyc8} (h : x.isZero = true) : val x = 0 := by
  simp only [isZero, Bool.and_eq_true, beq_iff_eq] at h
  obtain ⟨⟨⟨ha, hb⟩, hc⟩, hd⟩ := h
  ext <;> simp [val, ha, hb, hc, hd]

theorem val_of_isOne {x : Cyc8} (h : x.isOne = true) : val x = 1 := by
  simp only [isOne, Bool.and_eq_true, beq_iff_eq] at h
  obtain ⟨⟨⟨⟨ha, hb⟩, hc⟩, hd⟩, he⟩ := h
  ext <;> simp [val, ha, hb, hc, hd, he]

theorem two_pow_sub {e e' : Nat} (h : e ≤ e') : ((2 : ℚ) ^ (e' - e)) = 2 ^ e' / 2 ^ e := by
  rw [pow_sub₀ _ (by norm_num) h, div_eq_mul_inv]

theorem val_add (x y : Cyc8) : val (x + y) = val x + val y := by
  show val (add x y) = _
  unfold add
  split
  · rename_i h; rw [val_of_isZero h, zero_add]
  split
  · rename_i h; rw [val_of_isZero h, add_zero]
  have hx : (2 : ℚ) ^ x.e ≠ 0 := by positivity
  have hy : (2 : ℚ) ^ y.e ≠ 0 := by positivity
  split
  · rename_i h
    rw [val_norm]
    ext <;> simp only [val, Q8.add_a, Q8.add_b, Q8.add_c, Q8.add_d] <;> push_cast <;>
      rw [two_pow_sub h] <;> field_simp
  · rename_i h
    have h : y.e ≤ x.e := by omega
    rw [val_norm]
    ext <;> simp only [val, Q8.add_a, Q8.add_b, Q8.add_c, Q8.add_d] <;> push_cast <;>
      rw [two_pow_sub h] <;> field_simp

theorem val_neg (x : Cyc8) : val (-x) = -val x := by
  show val (neg x) = _
  ext <;> simp [val, neg] <;> ring

theorem val_sub (x y : Cyc8) : val (x - y) = val x - val y := by
  show val (add x (neg y)) = _
  rw [show add x (neg y) = x + -y from rfl, val_add, val_neg]; ring

theorem val_mul (x y : Cyc8) : val (x * y) = val x * val y := by
  show val (mul x y) = _
  unfold mul
  split
  · rename_i h
    simp only [Bool.or_eq_true] at h
    rcases h with h | h
    · rw [val_of_isZero h, zero_mul]; exact val_zero
    · rw [val_of_isZero h, mul_zero]; exact val_zero
  split
  · rename_i h; rw [val_of_isOne h, one_mul]
  split
  · rename_i h; rw [val_of_isOne h, mul_one]
  rw [val_norm]
  have hx : (2 : ℚ) ^ x.e ≠ 0 := by positivity
  have hy : (2 : ℚ) ^ y.e ≠ 0 := by positivity
  ext <;> simp only [val, Q8.mul_a, Q8.mul_b, Q8.mul_c, Q8.mul_d] <;> push_cast <;>
    rw [pow_add] <;> field_simp

theorem val_conj (x : Cyc8) : val x.conj = star (val x) := by
  ext <;> simp [val, conj, Q8.star_def, Q8.conj] <;> ring

/-! ### normal forms are preserved -/

theorem isNormal_zero : isNormal 0 = true := rfl
theorem isNormal_one : isNormal 1 = true := rfl

theorem isNormal_add {x y : Cyc8} (hx : isNormal x = true) (hy : isNormal y = true) :
    isNormal (x + y) = true := by
  show isNormal (add x y) = true
  unfold add
  split; · exact hy
  split; · exact hx
  split <;> exact isNormal_norm _ _ _ _ _

theorem isNormal_mul {x y : Cyc8} (hx : isNormal x = true) (hy : isNormal y = true) :
    isNormal (x * y) = true := by
  show isNormal (mul x y) = true
  unfold mul
  split; · rfl
  split; · exact hy
  split; · exact hx
  exact isNormal_norm _ _ _ _ _

theorem allEven_neg (a b c d : Int) : allEven (-a) (-b) (-c) (-d) = allEven a b c d := by
  simp only [allEven, Int.neg_emod_two]

theorem isNormal_neg {x : Cyc8} (hx : isNormal x = true) : isNormal (-x) = true := by
  show isNormal (neg x) = true
  simp only [isNormal, neg, allEven_neg] at hx ⊢
  exact hx

theorem isNormal_sub {x y : Cyc8} (hx : isNormal x = true) (hy : isNormal y = true) :
    isNormal (x - y) = true := isNormal_add hx (isNormal_neg hy)

/-- Conjugation permutes the coefficients `b`, `c`, `d` up to sign, so "all even" is unchanged. -/
theorem isNormal_conj {x : Cyc8} (hx : isNormal x = true) : isNormal x.conj = true := by
  have e : allEven x.a (-x.d) (-x.c) (-x.b) = allEven x.a x.b x.c x.d := by
    simp only [allEven, Int.neg_emod_two]; ac_rfl
  simpa only [isNormal, conj, e] using hx

/-! ### `val` is injective on normal forms -/

theorem cast_eq_of_div_eq {a a' : Int} {e e' : Nat} (h : e ≤ e')
    (hv : (a : ℚ) / 2 ^ e = (a' : ℚ) / 2 ^ e') : a' = a * 2 ^ (e' - e) := by
  have hx : (2 : ℚ) ^ e ≠ 0 := by positivity
  have hy : (2 : ℚ) ^ e' ≠ 0 := by positivity
  have : (a' : ℚ) = (a : ℚ) * 2 ^ (e' - e) := by
    rw [two_pow_sub h]; field_simp; rw [div_eq_div_iff hx hy] at hv; linarith
  exact_mod_cast this

/-- If `x.e < y.e` every coefficient of `y` is `2^(y.e - x.e)` times one of `x`, hence even, which
    contradicts the normality of `y`; so the exponents agree, and then the coefficients do. -/
theorem val_inj_aux {x y : Cyc8} (hy : isNormal y = true) (h : val x = val y) (hle : x.e ≤ y.e) :
    x = y := by
  have ha := cast_eq_of_div_eq hle (congrArg Q8.a h)
  have hb := cast_eq_of_div_eq hle (congrArg Q8.b h)
  have hc := cast_eq_of_div_eq hle (congrArg Q8.c h)
  have hd := cast_eq_of_div_eq hle (congrArg Q8.d h)
  rcases Nat.eq_or_lt_of_le hle with he | hlt
  · rw [← he] at ha hb hc hd
    simp only [Nat.sub_self, pow_zero, mul_one] at ha hb hc hd
    cases x; cases y; simp_all
  · exfalso
    obtain ⟨k, hk⟩ : ∃ k, y.e - x.e = k + 1 := ⟨y.e - x.e - 1, by omega⟩
    rw [hk, pow_succ] at ha hb hc hd
    have e1 : y.a % 2 = 0 := by rw [ha, ← mul_assoc]; exact Int.mul_emod_left _ _
    have e2 : y.b % 2 = 0 := by rw [hb, ← mul_assoc]; exact Int.mul_emod_left _ _
    have e3 : y.c % 2 = 0 := by rw [hc, ← mul_assoc]; exact Int.mul_emod_left _ _
    have e4 : y.d % 2 = 0 := by rw [hd, ← mul_assoc]; exact Int.mul_emod_left _ _
    have : allEven y.a y.b y.c y.d = true := (allEven_iff _ _ _ _).2 ⟨e1, e2, e3, e4⟩
    have hne : y.e ≠ 0 := by omega
    simp [isNormal, this, hne] at hy

/-- **Two normalised values that denote the same number are equal.** -/
theorem val_inj {x y : Cyc8} (hx : isNormal x = true) (hy : isNormal y = true) (h : val x = val y) :
    x = y := by
  rcases Nat.le_total x.e y.e with hle | hle
  · exact val_inj_aux hy h hle
  · exact (val_inj_aux hx h.symm hle).symm

theorem val_ne_zero_of_unit {x y : Cyc8} (h : val x * val y = 1) : x ≠ 0 := by
  rintro rfl
  rw [val_zero, zero_mul] at h
  exact zero_ne_one h

/-! ### the constants of the gate layer are normalised -/

theorem isNormal_zetaPowNat : ∀ k, isNormal (zetaPowNat k) = true
  | 0 => rfl
  | k + 1 => isNormal_mul (x := zeta) rfl (isNormal_zetaPowNat k)

theorem isNormal_zetaPow (k : Int) : isNormal (zetaPow k) = true := isNormal_zetaPowNat _

theorem isNormal_invSqrt2Pow : ∀ k, isNormal (invSqrt2Pow k) = true
  | 0 => rfl
  | k + 1 => isNormal_mul (x := invSqrt2) rfl (isNormal_invSqrt2Pow k)

end Cyc8
end DV
