/-
  Proofs/TensorMatrix.lean — the statements of C08 in the words of the property: viewing a
  tensor as the matrix from its flattened domain to its flattened codomain
  (`Tensor.mat t r c = data[r * prod cod + c]`), composition is the matrix product, tensor is
  the Kronecker product, dagger is the conjugate transpose, identities are identity matrices,
  swaps are the permutation matrices exchanging the two blocks.
-/
import Proofs.TensorLaws

namespace DV
open NDArray

/-- The multi-index at flat position `r` (row-major). -/
def unflat (s : List Nat) (r : Nat) : List Nat := (idxs s).getD r []

theorem unflat_inRange {s : List Nat} {r : Nat} (h : r < prod s) : InRange s (unflat s r) := by
  have hk : r < (idxs s).length := by rw [idxs_length]; exact h
  unfold unflat
  rw [getD_of_lt _ hk]
  exact mem_idxs.1 (List.getElem_mem hk)

theorem flatIdx_unflat {s : List Nat} {r : Nat} (h : r < prod s) : flatIdx s (unflat s r) = r := by
  have hk : r < (idxs s).length := by rw [idxs_length]; exact h
  unfold unflat
  rw [getD_of_lt _ hk]
  exact flatIdx_getElem_idxs hk

theorem unflat_flatIdx {s i : List Nat} (h : InRange s i) : unflat s (flatIdx s i) = i := by
  unfold unflat
  rw [List.getD_eq_getElem?_getD, getElem?_idxs_flatIdx h]
  rfl

theorem idxs_eq_map_unflat (s : List Nat) : idxs s = (List.range (prod s)).map (unflat s) := by
  apply List.ext_getElem
  · simp [idxs_length]
  · intro k h1 h2
    simp [unflat, List.getD_eq_getElem?_getD, List.getElem?_eq_getElem h1]

theorem sumOver_eq_range {R : Type} [Add R] [Zero R] (s : List Nat) (f : List Nat → R) :
    sumOver s f = ((List.range (prod s)).map (fun k => f (unflat s k))).sum := by
  unfold sumOver
  rw [idxs_eq_map_unflat, List.map_map]
  rfl

namespace Tensor

section
variable {R : Type} [CommSemiring R]

theorem entry_eq_mat (t : Tensor R) {i k : List Nat} (hi : InRange t.dom i) :
    t.entry (i ++ k) = t.mat (flatIdx t.dom i) (flatIdx t.cod k) := by
  unfold Tensor.entry Tensor.mat
  rw [flatIdx_append _ _ hi.length_eq]

theorem mat_eq_entry (t : Tensor R) {r c : Nat} (hr : r < prod t.dom) (hc : c < prod t.cod) :
    t.mat r c = t.entry (unflat t.dom r ++ unflat t.cod c) := by
  rw [entry_eq_mat t (unflat_inRange hr), flatIdx_unflat hr, flatIdx_unflat hc]

/-- **Composition is the matrix product.** -/
theorem then_matrix (f g : Tensor R) (hf : f.WF) (hg : g.WF) (h : f.cod = g.dom) {r c : Nat}
    (hr : r < prod f.dom) (hc : c < prod g.cod) :
    (thenCore f g).mat r c
      = ((List.range (prod f.cod)).map (fun k => f.mat r k * g.mat k c)).sum := by
  rw [mat_eq_entry (thenCore f g) hr hc]
  simp only [thenCore_dom, thenCore_cod]
  rw [then_entry f g hf hg h (unflat_inRange hr) (unflat_inRange hc), sumOver_eq_range]
  congr 1
  apply List.map_congr_left
  intro k hk
  have hk' : k < prod f.cod := List.mem_range.1 hk
  rw [entry_eq_mat f (unflat_inRange hr), entry_eq_mat g (h ▸ unflat_inRange hk'),
    flatIdx_unflat hr, flatIdx_unflat hk', flatIdx_unflat hc, ← h, flatIdx_unflat hk']

/-- **Tensor is the Kronecker product.** -/
theorem tensor_kron (f g : Tensor R) (hf : f.WF) (hg : g.WF) {r1 r2 c1 c2 : Nat}
    (h1 : r1 < prod f.dom) (h2 : r2 < prod g.dom) (h3 : c1 < prod f.cod) (h4 : c2 < prod g.cod) :
    (f.tensor g).mat (r1 * prod g.dom + r2) (c1 * prod g.cod + c2) = f.mat r1 c1 * g.mat r2 c2 := by
  have := tensor_entry f g hf hg (unflat_inRange h1) (unflat_inRange h3) (unflat_inRange h2)
    (unflat_inRange h4)
  rw [entry_eq_mat _ (by exact inRange_append (unflat_inRange h1) (unflat_inRange h2)),
    entry_eq_mat f (unflat_inRange h1), entry_eq_mat g (unflat_inRange h2)] at this
  simp only [tensor_dom, tensor_cod,
    flatIdx_append _ _ (unflat_inRange h1).length_eq,
    flatIdx_append _ _ (unflat_inRange h3).length_eq,
    flatIdx_unflat h1, flatIdx_unflat h2, flatIdx_unflat h3, flatIdx_unflat h4] at this
  exact this

/-- **Identities are identity matrices.** -/
theorem id_matrix (d : List Nat) {r c : Nat} (hr : r < prod d) (hc : c < prod d) :
    (Tensor.id (R := R) d).mat r c = if r = c then 1 else 0 := by
  rw [mat_eq_entry (Tensor.id d) hr hc]
  simp only [id_dom, id_cod]
  rw [id_entry d (unflat_inRange hr) (unflat_inRange hc)]
  by_cases e : r = c
  · subst e; simp
  · have : unflat d r ≠ unflat d c := fun h => e (by
      rw [← flatIdx_unflat hr, ← flatIdx_unflat hc, h])
    simp [e, this]

/-- **Swaps are the permutation matrices exchanging the two blocks.** -/
theorem swap_matrix (l r : List Nat) {a b b' a' : Nat}
    (ha : a < prod l) (hb : b < prod r) (hb' : b' < prod r) (ha' : a' < prod l) :
    (Tensor.swap (R := R) l r).mat (a * prod r + b) (b' * prod l + a')
      = if a = a' ∧ b = b' then 1 else 0 := by
  have := swap_entry (R := R) l r (unflat_inRange ha) (unflat_inRange hb) (unflat_inRange hb')
    (unflat_inRange ha')
  rw [entry_eq_mat _ (by exact inRange_append (unflat_inRange ha) (unflat_inRange hb))] at this
  simp only [swap_dom, swap_cod,
    flatIdx_append _ _ (unflat_inRange ha).length_eq,
    flatIdx_append _ _ (unflat_inRange hb').length_eq,
    flatIdx_unflat ha, flatIdx_unflat hb, flatIdx_unflat hb', flatIdx_unflat ha'] at this
  rw [this]
  have e1 : unflat l a = unflat l a' ↔ a = a' :=
    ⟨fun h => by rw [← flatIdx_unflat ha, ← flatIdx_unflat ha', h], fun h => by rw [h]⟩
  have e2 : unflat r b = unflat r b' ↔ b = b' :=
    ⟨fun h => by rw [← flatIdx_unflat hb, ← flatIdx_unflat hb', h], fun h => by rw [h]⟩
  simp only [e1, e2]

end

section
variable {R : Type} [CommSemiring R] [StarRing R]

/-- **Dagger is the conjugate transpose.** -/
theorem dagger_matrix (f : Tensor R) (hf : f.WF) {r c : Nat} (hr : r < prod f.dom)
    (hc : c < prod f.cod) : f.dagger.mat c r = star (f.mat r c) := by
  have := dagger_entry f hf (unflat_inRange hr) (unflat_inRange hc)
  rw [entry_eq_mat _ (by exact unflat_inRange hc), entry_eq_mat f (unflat_inRange hr)] at this
  simp only [dagger_dom, dagger_cod, flatIdx_unflat hr, flatIdx_unflat hc] at this
  exact this

end
end Tensor
end DV
