/-
  Proofs/TensorSnakeMulti.lean — both snake equations for multi-wire cups and caps: the nested
  cups of `Tensor.cups(l, l[::-1])` are the Kronecker delta `a = reversed(b)` for EVERY dimension
  tuple `l` (`cups_entry`, Proofs/TensorCups.lean), which is all `snake_of_closed` needs.
-/
import Proofs.TensorCups

namespace DV
namespace Tensor
open NDArray

theorem inRange_reverse {s a : List Nat} (h : InRange s a) : InRange s.reverse a.reverse := by
  rw [inRange_iff_getD] at h ⊢
  obtain ⟨hl, hp⟩ := h
  refine ⟨by simp [hl], fun p hp' => ?_⟩
  have hp1 : p < s.length := by simpa using hp'
  have hp2 : p < a.length := by omega
  rw [getD_of_lt _ (by simpa using hp2), getD_of_lt _ hp', List.getElem_reverse,
    List.getElem_reverse]
  have := hp (s.length - 1 - p) (by omega)
  rw [getD_of_lt _ (by omega), getD_of_lt _ (by omega)] at this
  simp only [hl]
  exact this

section
variable {R : Type} [CommSemiring R] [StarRing R]

/-- **Snake equation for multi-wire cups and caps** (every dimension tuple `l`): with
    `cup = cups(l, l[::-1])` and `cap = caps(l[::-1], l)`, `(id_l ⊗ cap) ≫ (cup ⊗ id_l) = id_l`.
    (At `l[::-1]` it is the same equation for the adjoint type; the mirror image is
    `snake_multi'`.) -/
theorem snake_multi (l : List Nat) :
    ∃ cup cap : Tensor R, Tensor.cups l l.reverse = .ok cup ∧ Tensor.caps l.reverse l = .ok cap ∧
      thenCore ((Tensor.id l).tensor cap) (cup.tensor (Tensor.id l)) = Tensor.id l := by
  obtain ⟨cup, h1, hw, hd, hc, he⟩ := cups_entry (R := R) l
  obtain ⟨cup', h1', hw', hd', hc', he'⟩ := cups_entry (R := R) l.reverse
  rw [List.reverse_reverse] at h1' hd' he'
  refine ⟨cup, cup'.dagger, h1, ?_, ?_⟩
  · unfold Tensor.caps; rw [h1']
  · exact snake_of_closed l l.reverse List.reverse List.reverse (fun _ => inRange_reverse)
      (fun _ _ => List.reverse_reverse _) cup cup' hw hd hc he hw' hd' hc'
      (fun b a hb ha => he' b a hb (by simpa using ha))

/-- The mirrored snake equation for multi-wire cups and caps:
    `(caps(l, l[::-1]) ⊗ id) ≫ (id ⊗ cups(l[::-1], l)) = id_l`. -/
theorem snake_multi' (l : List Nat) :
    ∃ cap' cup' : Tensor R, Tensor.caps l l.reverse = .ok cap' ∧
      Tensor.cups l.reverse l = .ok cup' ∧
      thenCore (cap'.tensor (Tensor.id l)) ((Tensor.id l).tensor cup') = Tensor.id l := by
  obtain ⟨cup, h1, hw, hd, hc, he⟩ := cups_entry (R := R) l
  obtain ⟨cup', h1', hw', hd', hc', he'⟩ := cups_entry (R := R) l.reverse
  rw [List.reverse_reverse] at h1' hd' he'
  refine ⟨cup.dagger, cup', ?_, h1', ?_⟩
  · unfold Tensor.caps; rw [h1]
  · exact snake_of_closed' l l.reverse List.reverse List.reverse (fun _ => inRange_reverse)
      (fun _ _ => List.reverse_reverse _) cup cup' hw hd hc he hw' hd' hc'
      (fun b a hb ha => he' b a hb (by simpa using ha))

end
end Tensor
end DV
