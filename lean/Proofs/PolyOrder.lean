/-
  Proofs/PolyOrder.lean — the normal form of the executable polynomials of Model/Param.lean.
  Core Lean only (no Mathlib needed).  Two parts:

   * the monomial order `Mono.cmp` is a strict total order on exponent vectors read up to trailing
     zeros, and `Mono.trim` picks the canonical representative (`Mono.Trimmed`);
   * `TermsWF` / `Poly.WF` — terms strictly increasing for `Mono.cmp`, monomials trimmed, no zero
     coefficient — and its closure under every operation of the model (`addTerm_wf`, `add_wf`,
     `mul_wf`, `neg_wf`, `const_wf`, `var_wf`, `pow_wf`, `subst_wf`, `deriv_wf`, `ofTerms_wf`).

  `Mono.get m i` = exponent of x_i (0 beyond the end).  Everything is phrased through it:
    cmp m n = .lt  ↔  LexLt (get m) (get n)       cmp m n = .eq ↔ get m = get n
    cmp m n = .gt  ↔  LexLt (get n) (get m)
-/
import Model.Param

namespace DV.Param

/-- Exponent of `x_i` in a monomial. -/
def Mono.get (m : Mono) (i : Nat) : Nat := m.getD i 0

@[simp] theorem Mono.get_nil (i : Nat) : Mono.get [] i = 0 := by simp [Mono.get]
@[simp] theorem Mono.get_cons_zero (a : Nat) (m : Mono) : Mono.get (a :: m) 0 = a := by
  simp [Mono.get]
@[simp] theorem Mono.get_cons_succ (a : Nat) (m : Mono) (i : Nat) :
    Mono.get (a :: m) (i + 1) = Mono.get m i := by
  simp [Mono.get]

/-- Lexicographic "first difference is smaller". -/
def LexLt (f g : Nat → Nat) : Prop := ∃ i, (∀ j, j < i → f j = g j) ∧ f i < g i

theorem LexLt.irrefl_of_eq {f g : Nat → Nat} (h : LexLt f g) (e : ∀ i, f i = g i) : False := by
  obtain ⟨i, _, hi⟩ := h
  rw [e i] at hi
  exact Nat.lt_irrefl _ hi

theorem LexLt.asymm {f g : Nat → Nat} (h : LexLt f g) (h' : LexLt g f) : False := by
  obtain ⟨i, hi, hlt⟩ := h
  obtain ⟨k, hk, hlt'⟩ := h'
  rcases Nat.lt_trichotomy i k with c | c | c
  · have := hk i c; omega
  · subst c; omega
  · have := hi k c; omega

theorem LexLt.trans {f g h : Nat → Nat} (h1 : LexLt f g) (h2 : LexLt g h) : LexLt f h := by
  obtain ⟨i, hi, hlt⟩ := h1
  obtain ⟨k, hk, hlt'⟩ := h2
  rcases Nat.lt_trichotomy i k with c | c | c
  · refine ⟨i, fun j hj => ?_, ?_⟩
    · rw [hi j hj, hk j (Nat.lt_trans hj c)]
    · rw [← hk i c]; exact hlt
  · subst c
    exact ⟨i, fun j hj => by rw [hi j hj, hk j hj], Nat.lt_trans hlt hlt'⟩
  · refine ⟨k, fun j hj => ?_, ?_⟩
    · rw [hi j (Nat.lt_trans hj c), hk j hj]
    · rw [hi k c]; exact hlt'

theorem LexLt.congr_left {f f' g : Nat → Nat} (e : ∀ i, f i = f' i) (h : LexLt f g) : LexLt f' g := by
  obtain ⟨i, hi, hlt⟩ := h
  exact ⟨i, fun j hj => by rw [← e j, hi j hj], by rw [← e i]; exact hlt⟩

theorem LexLt.congr_right {f g g' : Nat → Nat} (e : ∀ i, g i = g' i) (h : LexLt f g) : LexLt f g' := by
  obtain ⟨i, hi, hlt⟩ := h
  exact ⟨i, fun j hj => by rw [← e j, hi j hj], by rw [← e i]; exact hlt⟩

theorem LexLt.cons {a : Nat} {m n : Mono} (h : LexLt (Mono.get m) (Mono.get n)) :
    LexLt (Mono.get (a :: m)) (Mono.get (a :: n)) := by
  obtain ⟨i, hi, hlt⟩ := h
  refine ⟨i + 1, fun j hj => ?_, by simpa using hlt⟩
  cases j with
  | zero => simp
  | succ j => simpa using hi j (by omega)

/-! ### `isZero` -/

theorem Mono.isZero_iff (m : Mono) : Mono.isZero m = true ↔ ∀ i, Mono.get m i = 0 := by
  induction m with
  | nil => simp [Mono.isZero]
  | cons a m ih =>
    simp only [Mono.isZero, Bool.and_eq_true, beq_iff_eq, ih]
    constructor
    · rintro ⟨ha, h⟩ i
      cases i with
      | zero => simpa using ha
      | succ i => simpa using h i
    · intro h
      exact ⟨by simpa using h 0, fun i => by simpa using h (i + 1)⟩

theorem Mono.first_nonzero (m : Mono) (h : Mono.isZero m = false) :
    LexLt (Mono.get []) (Mono.get m) := by
  induction m with
  | nil => simp [Mono.isZero] at h
  | cons a m ih =>
    by_cases ha : a = 0
    · subst ha
      exact LexLt.congr_left (fun i => by cases i <;> simp)
        (LexLt.cons (a := 0) (ih (by simpa [Mono.isZero] using h)))
    · exact ⟨0, fun j hj => absurd hj (Nat.not_lt_zero _), by simpa using Nat.pos_of_ne_zero ha⟩

/-! ### specification of `cmp` -/

/-- What each outcome of `Mono.cmp` means. -/
def CmpSpec (m n : Mono) : Ordering → Prop
  | .lt => LexLt (Mono.get m) (Mono.get n)
  | .eq => ∀ i, Mono.get m i = Mono.get n i
  | .gt => LexLt (Mono.get n) (Mono.get m)

theorem Mono.cmp_spec (m n : Mono) : CmpSpec m n (Mono.cmp m n) := by
  induction m generalizing n with
  | nil =>
    unfold Mono.cmp
    by_cases h : Mono.isZero n = true
    · rw [if_pos h]
      intro i
      rw [(Mono.isZero_iff n).mp h i]; simp
    · rw [if_neg h]
      exact Mono.first_nonzero n (by simpa using h)
  | cons a m ih =>
    cases n with
    | nil =>
      unfold Mono.cmp
      by_cases h : Mono.isZero (a :: m) = true
      · rw [if_pos h]
        intro i
        rw [(Mono.isZero_iff _).mp h i]; simp
      · rw [if_neg h]
        exact Mono.first_nonzero _ (by simpa using h)
    | cons b n =>
      unfold Mono.cmp
      by_cases h1 : a < b
      · rw [if_pos h1]
        exact ⟨0, fun j hj => absurd hj (Nat.not_lt_zero _), by simpa using h1⟩
      · rw [if_neg h1]
        by_cases h2 : b < a
        · rw [if_pos h2]
          exact ⟨0, fun j hj => absurd hj (Nat.not_lt_zero _), by simpa using h2⟩
        · rw [if_neg h2]
          have hab : a = b := by omega
          subst hab
          have := ih n
          cases hc : Mono.cmp m n with
          | lt => rw [hc] at this; exact LexLt.cons this
          | gt => rw [hc] at this; exact LexLt.cons this
          | eq =>
            rw [hc] at this
            intro i
            cases i with
            | zero => simp
            | succ i => simpa using this i

theorem CmpSpec.unique {m n : Mono} : ∀ {o o' : Ordering}, CmpSpec m n o → CmpSpec m n o' → o = o'
  | .lt, .lt, _, _ => rfl
  | .eq, .eq, _, _ => rfl
  | .gt, .gt, _, _ => rfl
  | .lt, .eq, h, h' => (h.irrefl_of_eq h').elim
  | .lt, .gt, h, h' => (h.asymm h').elim
  | .eq, .lt, h, h' => (h'.irrefl_of_eq h).elim
  | .eq, .gt, h, h' => (h'.irrefl_of_eq (fun i => (h i).symm)).elim
  | .gt, .lt, h, h' => (h'.asymm h).elim
  | .gt, .eq, h, h' => (h.irrefl_of_eq (fun i => (h' i).symm)).elim

theorem Mono.cmp_iff_spec (m n : Mono) (o : Ordering) : Mono.cmp m n = o ↔ CmpSpec m n o :=
  ⟨fun e => e ▸ Mono.cmp_spec m n, fun h => (Mono.cmp_spec m n).unique h⟩

theorem Mono.cmp_lt_iff (m n : Mono) : Mono.cmp m n = .lt ↔ LexLt (Mono.get m) (Mono.get n) :=
  Mono.cmp_iff_spec m n .lt

theorem Mono.cmp_gt_iff (m n : Mono) : Mono.cmp m n = .gt ↔ LexLt (Mono.get n) (Mono.get m) :=
  Mono.cmp_iff_spec m n .gt

theorem Mono.cmp_eq_iff (m n : Mono) : Mono.cmp m n = .eq ↔ ∀ i, Mono.get m i = Mono.get n i :=
  Mono.cmp_iff_spec m n .eq

theorem Mono.cmp_lt_trans {a b c : Mono} (h1 : Mono.cmp a b = .lt) (h2 : Mono.cmp b c = .lt) :
    Mono.cmp a c = .lt :=
  (Mono.cmp_lt_iff a c).mpr (((Mono.cmp_lt_iff a b).mp h1).trans ((Mono.cmp_lt_iff b c).mp h2))

theorem Mono.cmp_gt_swap {a b : Mono} (h : Mono.cmp a b = .gt) : Mono.cmp b a = .lt :=
  (Mono.cmp_lt_iff b a).mpr ((Mono.cmp_gt_iff a b).mp h)

/-- `cmp` only looks at the exponents. -/
theorem Mono.cmp_congr_right {a b b' : Mono} (e : ∀ i, Mono.get b i = Mono.get b' i)
    (h : Mono.cmp a b = .lt) : Mono.cmp a b' = .lt :=
  (Mono.cmp_lt_iff a b').mpr (((Mono.cmp_lt_iff a b).mp h).congr_right e)

theorem Mono.cmp_congr_left {a a' b : Mono} (e : ∀ i, Mono.get a i = Mono.get a' i)
    (h : Mono.cmp a b = .lt) : Mono.cmp a' b = .lt :=
  (Mono.cmp_lt_iff a' b).mpr (((Mono.cmp_lt_iff a b).mp h).congr_left e)

/-! ### trimmed monomials -/

/-- Normal form of a monomial: no trailing zero. -/
def Mono.Trimmed : Mono → Prop
  | [] => True
  | a :: m => (m = [] → a ≠ 0) ∧ Mono.Trimmed m

theorem Mono.trimmed_zero {m : Mono} (ht : Mono.Trimmed m) (h : ∀ i, Mono.get m i = 0) : m = [] := by
  induction m with
  | nil => rfl
  | cons a m ih =>
    obtain ⟨h1, h2⟩ := ht
    have hm : m = [] := ih h2 (fun i => by simpa using h (i + 1))
    exact absurd (by simpa using h 0) (h1 hm)

theorem Mono.trimmed_ext {m n : Mono} (hm : Mono.Trimmed m) (hn : Mono.Trimmed n)
    (h : ∀ i, Mono.get m i = Mono.get n i) : m = n := by
  induction m generalizing n with
  | nil => exact (Mono.trimmed_zero hn (fun i => by rw [← h i]; simp)).symm
  | cons a m ih =>
    cases n with
    | nil => exact Mono.trimmed_zero hm (fun i => by rw [h i]; simp)
    | cons b n =>
      have hab : a = b := by simpa using h 0
      have : m = n := ih hm.2 hn.2 (fun i => by simpa using h (i + 1))
      rw [hab, this]

theorem Mono.trim_cons (a : Nat) (m : Mono) :
    Mono.trim (a :: m) = if Mono.trim m = [] then (if a = 0 then [] else [a]) else a :: Mono.trim m := by
  unfold Mono.trim
  rw [List.reverse_cons, List.dropWhile_append]
  by_cases h : (List.dropWhile (fun x => x == 0) m.reverse).isEmpty = true
  · have h' : List.dropWhile (fun x => x == 0) m.reverse = [] := List.isEmpty_iff.mp h
    rw [if_pos h, h']
    by_cases ha : a = 0
    · simp [ha]
    · simp [ha]
  · have h' : List.dropWhile (fun x => x == 0) m.reverse ≠ [] := fun e => h (List.isEmpty_iff.mpr e)
    rw [if_neg h]
    have : (List.dropWhile (fun x => x == 0) m.reverse).reverse ≠ [] := by
      simpa using h'
    rw [if_neg this]
    simp

theorem Mono.trim_trimmed (m : Mono) : Mono.Trimmed (Mono.trim m) := by
  induction m with
  | nil => simp [Mono.trim, Mono.Trimmed]
  | cons a m ih =>
    rw [Mono.trim_cons]
    by_cases h : Mono.trim m = []
    · rw [if_pos h]
      by_cases ha : a = 0
      · rw [if_pos ha]; trivial
      · rw [if_neg ha]; exact ⟨fun _ => ha, trivial⟩
    · rw [if_neg h]
      exact ⟨fun e => absurd e h, ih⟩

theorem Mono.get_trim (m : Mono) (i : Nat) : Mono.get (Mono.trim m) i = Mono.get m i := by
  induction m generalizing i with
  | nil => simp [Mono.trim]
  | cons a m ih =>
    rw [Mono.trim_cons]
    by_cases h : Mono.trim m = []
    · rw [if_pos h]
      have hz : ∀ k, Mono.get m k = 0 := fun k => by rw [← ih k, h]; simp
      by_cases ha : a = 0
      · rw [if_pos ha]
        cases i with
        | zero => simp [ha]
        | succ i => simp [hz i]
      · rw [if_neg ha]
        cases i with
        | zero => simp
        | succ i => simp [hz i]
    · rw [if_neg h]
      cases i with
      | zero => simp
      | succ i => simpa using ih i

theorem Mono.get_mul (m n : Mono) (i : Nat) :
    Mono.get (Mono.mul m n) i = Mono.get m i + Mono.get n i := by
  induction m generalizing n i with
  | nil => simp [Mono.mul]
  | cons a m ih =>
    cases n with
    | nil => simp [Mono.mul]
    | cons b n =>
      simp only [Mono.mul]
      cases i with
      | zero => simp
      | succ i => simpa using ih n i

/-! ### well-formed term lists -/

/-- Normal form of a term list: strictly increasing monomials (`Mono.cmp`), trimmed, no zero
    coefficient.  This is the invariant stated in the doc-comment of `Poly`. -/
def TermsWF (l : List (Mono × Int)) : Prop :=
  l.Pairwise (fun s t => Mono.cmp s.1 t.1 = .lt) ∧ ∀ t ∈ l, Mono.Trimmed t.1 ∧ t.2 ≠ 0

def Poly.WF (p : Poly) : Prop := TermsWF p.terms

theorem TermsWF.nil : TermsWF [] := ⟨List.Pairwise.nil, fun _ h => absurd h List.not_mem_nil⟩

theorem TermsWF.tail {t : Mono × Int} {l : List (Mono × Int)} (h : TermsWF (t :: l)) : TermsWF l :=
  ⟨(List.pairwise_cons.mp h.1).2, fun x hx => h.2 x (List.mem_cons_of_mem _ hx)⟩

theorem TermsWF.cons {t : Mono × Int} {l : List (Mono × Int)} (hl : TermsWF l)
    (ht : Mono.Trimmed t.1) (hc : t.2 ≠ 0) (hlt : ∀ x ∈ l, Mono.cmp t.1 x.1 = .lt) :
    TermsWF (t :: l) :=
  ⟨List.pairwise_cons.mpr ⟨hlt, hl.1⟩, fun x hx => by
    rcases List.mem_cons.mp hx with e | e
    · subst e; exact ⟨ht, hc⟩
    · exact hl.2 x e⟩

namespace Poly

theorem mem_addTerm {m : Mono} {c : Int} {l : List (Mono × Int)} {t : Mono × Int}
    (h : t ∈ addTerm m c l) : t.1 = m ∨ ∃ t' ∈ l, t'.1 = t.1 := by
  induction l with
  | nil =>
    unfold addTerm at h
    split at h
    · exact absurd h List.not_mem_nil
    · left; rw [List.mem_singleton.mp h]
  | cons x p ih =>
    obtain ⟨n, d⟩ := x
    unfold addTerm at h
    split at h
    · split at h
      · exact Or.inr ⟨t, h, rfl⟩
      · rcases List.mem_cons.mp h with e | e
        · left; rw [e]
        · exact Or.inr ⟨t, e, rfl⟩
    · split at h
      · exact Or.inr ⟨t, List.mem_cons_of_mem _ h, rfl⟩
      · rcases List.mem_cons.mp h with e | e
        · exact Or.inr ⟨(n, d), List.mem_cons_self, by rw [e]⟩
        · exact Or.inr ⟨t, List.mem_cons_of_mem _ e, rfl⟩
    · rcases List.mem_cons.mp h with e | e
      · exact Or.inr ⟨(n, d), List.mem_cons_self, by rw [e]⟩
      · rcases ih e with r | ⟨t', ht', e'⟩
        · exact Or.inl r
        · exact Or.inr ⟨t', List.mem_cons_of_mem _ ht', e'⟩

theorem addTerm_wf {m : Mono} (c : Int) {l : List (Mono × Int)} (hm : Mono.Trimmed m)
    (hl : TermsWF l) : TermsWF (addTerm m c l) := by
  induction l with
  | nil =>
    unfold addTerm
    split
    · exact TermsWF.nil
    · rename_i hc
      exact TermsWF.nil.cons hm (by simpa using hc) (fun _ h => absurd h List.not_mem_nil)
  | cons x p ih =>
    obtain ⟨n, d⟩ := x
    have hp : TermsWF p := hl.tail
    have hnp : ∀ x ∈ p, Mono.cmp n x.1 = .lt := (List.pairwise_cons.mp hl.1).1
    have hn := hl.2 (n, d) List.mem_cons_self
    unfold addTerm
    split
    · rename_i hlt
      split
      · exact hl
      · rename_i hc
        refine hl.cons hm (by simpa using hc) (fun x hx => ?_)
        rcases List.mem_cons.mp hx with e | e
        · rw [e]; exact hlt
        · exact Mono.cmp_lt_trans hlt (hnp x e)
    · split
      · exact hp
      · rename_i hc
        exact hp.cons hn.1 (by simpa using hc) hnp
    · rename_i hgt
      refine (ih hp).cons hn.1 hn.2 (fun x hx => ?_)
      rcases mem_addTerm hx with e | ⟨t', ht', e⟩
      · rw [e]; exact Mono.cmp_gt_swap hgt
      · rw [← e]; exact hnp t' ht'

theorem addL_wf {p q : List (Mono × Int)} (hp : ∀ t ∈ p, Mono.Trimmed t.1) (hq : TermsWF q) :
    TermsWF (addL p q) := by
  induction p with
  | nil => exact hq
  | cons t p ih =>
    exact addTerm_wf _ (hp t List.mem_cons_self) (ih (fun x hx => hp x (List.mem_cons_of_mem _ hx)))

theorem smulMono_wf (m : Mono) (c : Int) (q : List (Mono × Int)) : TermsWF (smulMono m c q) := by
  induction q with
  | nil => exact TermsWF.nil
  | cons t q ih => exact addTerm_wf _ (Mono.trim_trimmed _) ih

theorem mulL_wf (p q : List (Mono × Int)) : TermsWF (mulL p q) := by
  induction p with
  | nil => exact TermsWF.nil
  | cons t p ih => exact addL_wf (fun x hx => ((smulMono_wf t.1 t.2 q).2 x hx).1) ih

theorem ofTerms_wf (ts : List (Mono × Int)) : (ofTerms ts).WF := by
  unfold ofTerms Poly.WF
  induction ts with
  | nil => exact TermsWF.nil
  | cons t ts ih => exact addTerm_wf _ (Mono.trim_trimmed _) ih

theorem const_wf (c : Int) : (const c).WF := by
  unfold const Poly.WF
  split
  · exact TermsWF.nil
  · rename_i hc
    exact TermsWF.nil.cons trivial (by simpa using hc) (fun _ h => absurd h List.not_mem_nil)

theorem zero_wf : (0 : Poly).WF := const_wf 0
theorem one_wf : (1 : Poly).WF := const_wf 1

theorem trimmed_replicate_one (i : Nat) : Mono.Trimmed (List.replicate i 0 ++ [1]) := by
  induction i with
  | zero => exact ⟨fun _ => by decide, trivial⟩
  | succ i ih =>
    rw [List.replicate_succ, List.cons_append]
    exact ⟨fun e => by simp at e, ih⟩

theorem var_wf (i : Nat) : (var i).WF :=
  TermsWF.nil.cons (trimmed_replicate_one i) (by show (1 : Int) ≠ 0; decide) (fun _ h => absurd h List.not_mem_nil)

theorem add_wf {p q : Poly} (hp : p.WF) (hq : q.WF) : (p + q).WF :=
  addL_wf (fun t ht => (hp.2 t ht).1) hq

theorem mul_wf (p q : Poly) : (p * q).WF := mulL_wf p.terms q.terms

theorem neg_wf {p : Poly} (hp : p.WF) : (-p).WF := by
  show TermsWF (p.terms.map (fun t => (t.1, -t.2)))
  refine ⟨List.Pairwise.map _ (fun a b h => h) hp.1, fun t ht => ?_⟩
  obtain ⟨t0, h0, rfl⟩ := List.mem_map.mp ht
  exact ⟨(hp.2 t0 h0).1, by have := (hp.2 t0 h0).2; simpa using this⟩

theorem pow_wf {p : Poly} (n : Nat) : (pow p n).WF := by
  cases n with
  | zero => exact one_wf
  | succ n => exact mul_wf _ _

theorem subst_wf (σ : Nat → Poly) (p : Poly) : (subst σ p).WF := by
  unfold subst
  induction p.terms with
  | nil => exact zero_wf
  | cons t ts ih => exact add_wf (mul_wf _ _) ih

theorem deriv_wf (i : Nat) (p : Poly) : (deriv i p).WF := by
  unfold deriv Poly.WF
  induction p.terms with
  | nil => exact TermsWF.nil
  | cons t ts ih =>
    simp only [List.foldr_cons]
    split
    · exact addTerm_wf _ (Mono.trim_trimmed _) ih
    · exact ih

end Poly

end DV.Param
