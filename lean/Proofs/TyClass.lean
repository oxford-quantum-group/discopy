/-
  Proofs/TyClass.lean — the type-class coercion keeps the objects, or refuses (classes ty, pro);
  it does not for Dim (witness).
-/
import Model.TyClass

namespace DV

def Ty.Flat (t : Ty) : Prop := ∀ o ∈ t, o.z = 0

theorem TyClass.upgrade_ty (t : Ty) : TyClass.upgrade .ty t = .ok t := rfl

theorem map_one_eq : ∀ (t : Ty), (∀ o ∈ t, o.name = "1" ∧ o.z = 0) → t.map (fun _ => (⟨"1", 0⟩ : Ob)) = t
  | [], _ => rfl
  | o :: t, h => by
    have ho := h o (by simp)
    have ht := map_one_eq t (fun x hx => h x (by simp [hx]))
    cases o with
    | mk n z =>
      simp only [List.map_cons, ht]
      simp only at ho
      rw [ho.1, ho.2]

/-- PRO.upgrade hands back the type it was given (objects read as (name, z)), or refuses. -/
theorem TyClass.upgrade_pro_keeps {t r : Ty} (h : TyClass.upgrade .pro t = .ok r) (hz : t.Flat) :
    r = t := by
  simp only [TyClass.upgrade, proUpgradeTy] at h
  split at h
  · rename_i hall
    injection h with h
    rw [← h]
    apply map_one_eq
    intro o ho
    refine ⟨?_, hz o ho⟩
    have := List.all_eq_true.mp hall o ho
    simpa using this
  · cases h

/-- ... and it refuses as soon as one object is not named 1 (a named wire is not PRO's generator). -/
theorem TyClass.upgrade_pro_refuses {t : Ty} (h : ∃ o ∈ t, o.name ≠ "1") :
    TyClass.upgrade .pro t = .error .type := by
  simp only [TyClass.upgrade, proUpgradeTy]
  split
  · rename_i hall
    obtain ⟨o, ho, hn⟩ := h
    have := List.all_eq_true.mp hall o ho
    exact absurd (by simpa using this) hn
  · rfl

/-- Dim.upgrade drops a wire named 1 of a foreign type (tensor.py:45-50): `Dim(2) @ PRO(1)`. -/
theorem TyClass.upgrade_dim_drops :
    TyClass.upgrade .dim [⟨"2", 0⟩, ⟨"1", 0⟩] = .ok [⟨"2", 0⟩] := by decide +kernel

/-- On a type without objects named 1 whose names are positive ints, Dim.upgrade keeps the objects. -/
theorem dimObs_keeps : ∀ {t : Ty}, (∀ o ∈ t, nameKind o.name = .pos ∧ o.z = 0) → dimObs t = .ok t
  | [], _ => rfl
  | o :: t, h => by
    have ho := h o (by simp)
    have ht := dimObs_keeps (t := t) (fun x hx => h x (by simp [hx]))
    cases o with
    | mk n z =>
      simp only at ho
      simp only [dimObs, ho.1, ht, ho.2]

end DV
