/-
  Proofs/Tk.lean — C13: the simulation invariant between `toTk` and the wire-id specification
  `canon` holds along every circuit inside the fragment delimited by `violation`.
-/
import Proofs.TkPrepBits

namespace DV.Tk
open DV

theorem removeAt_zero {α} (xs : List α) (off : Nat) : removeAt xs off 0 = xs := by
  simp [removeAt]

theorem step_inv {sp : Sp} {st st' : St} {ρq ρb dreg} {lq lb nbw : Nat} {box : TBox}
    (h : Inv sp st ρq ρb dreg) (hv : violation st lb nbw box = none) (hs : step st lq lb box = .ok st') :
    ∃ sp' ρq' ρb' dreg', Sp.step sp lq lb box = .ok sp' ∧ Inv sp' st' ρq' ρb' dreg' := by
  cases box with
  | ket bs =>
    obtain ⟨ρq', inv⟩ := prepareQubits_inv h hs
    exact ⟨_, ρq', ρb, dreg, rfl, inv⟩
  | bits bs d =>
    cases d with
    | false =>
      simp only [step] at hs
      split at hs
      · cases hs
      · rename_i hc
        have hclean : ∀ start, startOf st.bits st.nb lb = .ok start →
            ∀ r, r < st.nb → start ≤ r → st.ps.has r = true := by
          intro start hst r hr hsr
          simp only [violation, hst] at hv
          split at hv
          · cases hv
          · rename_i hany
            cases hh : st.ps.has r
            · exfalso
              apply hany
              rw [List.any_eq_true]
              exact ⟨r, List.mem_range.mpr hr, by simp [hsr, hh]⟩
            · rfl
        obtain ⟨ρb', dreg', inv⟩ := prepareBits_inv h hs hclean
        exact ⟨_, ρq, ρb', dreg', by simp only [Sp.step, hc]; rfl, inv⟩
    | true =>
      obtain ⟨sp', e, inv⟩ := classical_inv h hs
      exact ⟨sp', ρq, ρb, dreg, e, inv⟩
  | measure n de ov =>
    obtain ⟨st1, h1, rfl⟩ := measureQubits_ok hs
    cases ov with
    | false =>
      simp only [Bool.false_eq_true, if_false] at h1
      obtain ⟨sp1, ρb1, dreg1, e1, inv1⟩ := measureLoop_inv _ h h1
      refine ⟨_, ρq, ρb1, dreg1, by simp only [Sp.step, e1]; rfl, ?_⟩
      cases de with
      | false => exact inv1
      | true => exact dropQubits_inv inv1
    | true =>
      simp only [violation] at hv
      split at hv
      · cases hv
      · rename_i hl
        obtain ⟨sp1, e1, inv1⟩ := overrideLoop_inv (List.range n) h (by simpa using hl) h1
        refine ⟨_, ρq, ρb, dreg, by simp only [Sp.step, e1]; rfl, ?_⟩
        cases de with
        | false => exact inv1
        | true => exact dropQubits_inv inv1
  | bra bs =>
    obtain ⟨st1, h1, rfl⟩ := braQubits_ok hs
    obtain ⟨sp1, ρb1, e1, inv1⟩ := braLoop_inv _ h h1
    exact ⟨_, ρq, ρb1, dreg, by simp only [Sp.step, e1], dropQubits_inv inv1⟩
  | discard t =>
    simp only [violation] at hv
    have h0 : countW .b t = 0 := by
      split at hv
      · cases hv
      · rename_i hne; simpa using hne
    simp only [step] at hs
    cases hs
    refine ⟨_, ρq, ρb, dreg, rfl, ?_⟩
    rw [h0]
    have e1 : removeRegs st.bits lb 0 = st.bits := removeAt_zero _ _
    have e2 : removeAt sp.bw lb 0 = sp.bw := removeAt_zero _ _
    have := dropQubits_inv (lq := lq) (n := countW .q t) h
    simp only [dropQubits, Sp.dropQubits] at this
    rw [e1, e2]
    exact this
  | swap l r =>
    cases l <;> cases r
    · -- qubit, qubit
      obtain ⟨ρq', hlen, inv⟩ := swapQubits_inv h hs
      have : ¬ (sp.qw.length < lq + 2) := by omega
      exact ⟨_, ρq', ρb, dreg, by simp only [Sp.step, this, ↓reduceIte], inv⟩
    · simp only [step] at hs; cases hs; exact ⟨sp, ρq, ρb, dreg, rfl, h⟩
    · simp only [step] at hs; cases hs; exact ⟨sp, ρq, ρb, dreg, rfl, h⟩
    · -- bit, bit
      simp only [step] at hs
      cases he : st.pp.layers.isEmpty with
      | true =>
        obtain ⟨ρb', hlen, inv⟩ := swapBits_raw_inv h he hs
        have : ¬ (sp.bw.length < lb + 2) := by omega
        exact ⟨_, ρq, ρb', dreg, by simp only [Sp.step, this, ↓reduceIte], inv⟩
      | false =>
        obtain ⟨hlen, inv⟩ := swapBits_pp_inv h he hs
        have : ¬ (sp.bw.length < lb + 2) := by omega
        exact ⟨_, ρq, ρb, dreg, by simp only [Sp.step, this, ↓reduceIte], inv⟩
  | scalar k m =>
    simp only [step] at hs
    cases hs
    exact ⟨_, ρq, ρb, dreg, rfl, { h with ref := { h.ref with scal := by simp [h.ref.scal] } }⟩
  | cgate name i o =>
    obtain ⟨sp', e, inv⟩ := classical_inv h hs
    exact ⟨sp', ρq, ρb, dreg, e, inv⟩
  | rot cls num =>
    obtain ⟨sp', e, inv⟩ := addGate_inv h hs
    exact ⟨sp', ρq, ρb, dreg, e, inv⟩
  | gate name n =>
    obtain ⟨sp', e, inv⟩ := addGate_inv h hs
    exact ⟨sp', ρq, ρb, dreg, e, inv⟩
  | other d c => simp only [step] at hs; cases hs

theorem run_inv (layers : Layers) : ∀ {sp : Sp} {st st' : St} {ρq ρb dreg} {cur : List W} {i : Nat},
    Inv sp st ρq ρb dreg → firstViolation st cur layers i = none → run st cur layers = .ok st' →
    ∃ sp' ρq' ρb' dreg', Sp.run sp cur layers = .ok sp' ∧ Inv sp' st' ρq' ρb' dreg' := by
  induction layers with
  | nil =>
    intro sp st st' ρq ρb dreg cur i h _ hs
    simp only [run] at hs; cases hs
    exact ⟨sp, ρq, ρb, dreg, rfl, h⟩
  | cons l rest ih =>
    intro sp st st' ρq ρb dreg cur i h hv hs
    obtain ⟨b, off⟩ := l
    simp only [run] at hs
    simp only [firstViolation] at hv
    split at hs
    · cases hs
    · rename_i st1 h1
      split at hv
      · cases hv
      · rename_i hv1
        simp only [h1] at hv
        obtain ⟨sp1, ρq1, ρb1, dreg1, e1, inv1⟩ := step_inv h hv1 h1
        obtain ⟨sp2, ρq2, ρb2, dreg2, e2, inv2⟩ := ih inv1 hv hs
        exact ⟨sp2, ρq2, ρb2, dreg2, by simp only [Sp.run, e1]; exact e2, inv2⟩

theorem toTk_inv {c : Circ} {st : St} (hc : c.clean = true) (h : toTk c = .ok st) :
    ∃ sp ρq ρb dreg, canon c = .ok sp ∧ Inv sp st ρq ρb dreg :=
  run_inv (prep c) inv_init (by simpa [Circ.clean, Circ.firstViolation] using hc) h

end DV.Tk
