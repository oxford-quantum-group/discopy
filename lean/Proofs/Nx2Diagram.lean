/-
  Proofs/Nx2Diagram.lean — what `nx2diagram` computes on a graph whose edges are, box by box,
  "wire → dom port → box → cod port": it walks the open wires exactly as the graph was built and
  returns the diagram with these boxes at the positions of their first input wires (a box
  without inputs: at its `offset` attribute).
  Independent of where the graph comes from (`diagramize`: Proofs/Diagramize.lean; `diagram2nx`:
  Proofs/Nx2Roundtrip.lean).
-/
import Model.Diagramize
import Proofs.WFOps

namespace DV.Dz
open DV

/-! ### Wires -/

/-- An open wire at depth `k`: a parameter or an output port of an earlier box. -/
def GNode.OpenAt (k : Nat) : GNode → Prop
  | .input _ _ => True
  | .cod _ _ d => d < k
  | _ => False

theorem GNode.OpenAt.mono {k k' : Nat} {v : GNode} (h : v.OpenAt k) (hk : k ≤ k') : v.OpenAt k' := by
  cases v <;> simp_all [GNode.OpenAt] <;> omega

theorem GNode.OpenAt.notBox {k : Nat} {v : GNode} (h : v.OpenAt k) : v.isBox = false := by
  cases v <;> simp_all [GNode.OpenAt, GNode.isBox]

theorem codNodes_length (cod : Ty) (k : Nat) : (codNodes cod k).length = cod.length := by
  simp [codNodes]

theorem codNodes_getElem? (cod : Ty) (k i : Nat) :
    (codNodes cod k)[i]? = cod[i]?.map (fun o => GNode.cod o i k) := by
  simp [codNodes, List.getElem?_mapIdx]

theorem mem_codNodes {cod : Ty} {k : Nat} {v : GNode} (h : v ∈ codNodes cod k) :
    ∃ o i, v = .cod o i k ∧ cod[i]? = some o := by
  obtain ⟨i, hi, e⟩ := List.mem_mapIdx.mp h
  exact ⟨cod[i], i, e.symm, by simp⟩

theorem codNodes_obj (cod : Ty) (k : Nat) : (codNodes cod k).map GNode.obj? = cod.map some := by
  apply List.ext_getElem?
  intro i
  simp only [List.getElem?_map, codNodes_getElem?]
  cases cod[i]? <;> simp [GNode.obj?]

theorem pairwise_mapIdx {α β} {R : β → β → Prop} {f : Nat → α → β} {l : List α}
    (h : ∀ i j (hi : i < l.length) (hj : j < l.length), i < j → R (f i l[i]) (f j l[j])) :
    (l.mapIdx f).Pairwise R := by
  rw [List.pairwise_iff_getElem]
  intro i j hi hj hij
  rw [List.getElem_mapIdx, List.getElem_mapIdx]
  exact h i j _ _ hij

theorem codNodes_nodup (cod : Ty) (k : Nat) : (codNodes cod k).Nodup :=
  pairwise_mapIdx fun i j _ _ hij e => by injection e; omega

theorem inputNodes_length (dom : Ty) : (inputNodes dom).length = dom.length := by
  simp [inputNodes]

theorem inputNodes_getElem? (dom : Ty) (i : Nat) :
    (inputNodes dom)[i]? = dom[i]?.map (fun o => GNode.input o i) := by
  simp [inputNodes, List.getElem?_mapIdx]

theorem inputNodes_obj (dom : Ty) : (inputNodes dom).map GNode.obj? = dom.map some := by
  apply List.ext_getElem?
  intro i
  simp only [List.getElem?_map, inputNodes_getElem?]
  cases dom[i]? <;> simp [GNode.obj?]

theorem inputNodes_nodup (dom : Ty) : (inputNodes dom).Nodup :=
  pairwise_mapIdx fun i j _ _ hij e => by injection e; omega

theorem inputNodes_open (dom : Ty) : ∀ v ∈ inputNodes dom, GNode.OpenAt 0 v := by
  intro v hv
  obtain ⟨i, hi, e⟩ := List.mem_mapIdx.mp hv
  subst e; trivial

theorem inputNodes_filter_isInput (dom : Ty) :
    (inputNodes dom).filter GNode.isInput = inputNodes dom := by
  rw [List.filter_eq_self]
  intro v hv
  obtain ⟨i, hi, e⟩ := List.mem_mapIdx.mp hv
  subst e; rfl

theorem inputNodes_filter_isBox (dom : Ty) : (inputNodes dom).filter GNode.isBox = [] := by
  rw [List.filter_eq_nil_iff]
  intro v hv
  rw [(inputNodes_open dom v hv).notBox]; simp

theorem filterMap_obj_of_map {l : List GNode} {t : Ty} (h : l.map GNode.obj? = t.map some) :
    l.filterMap GNode.obj? = t := by
  induction l generalizing t with
  | nil => cases t <;> simp_all
  | cons a l ih =>
    cases t with
    | nil => simp at h
    | cons o t =>
      simp only [List.map_cons, List.cons.injEq] at h
      simp [h.1, ih h.2]

theorem map_some_inj {l l' : List Ob} (h : l.map some = l'.map some) : l = l' :=
  (List.map_inj_right (fun _ _ h => Option.some.inj h)).mp h

theorem length_of_map_obj {l : List GNode} {t : Ty} (h : l.map GNode.obj? = t.map some) :
    l.length = t.length := by
  simpa using congrArg List.length h

/-! ### `nextOpen` keeps the open wires distinct -/

theorem mem_nextOpen {scan : List GNode} {off m : Nat} {cod : Ty} {k : Nat} {v : GNode}
    (h : v ∈ nextOpen scan off m cod k) : v ∈ scan ∨ ∃ o i, v = .cod o i k := by
  unfold nextOpen at h
  rcases List.mem_append.mp h with h | h
  · rcases List.mem_append.mp h with h | h
    · exact Or.inl (List.mem_of_mem_take h)
    · obtain ⟨o, i, e, -⟩ := mem_codNodes h
      exact Or.inr ⟨o, i, e⟩
  · exact Or.inl (List.mem_of_mem_drop h)

theorem nextOpen_nodup {scan : List GNode} {k : Nat} (hn : scan.Nodup)
    (ho : ∀ v ∈ scan, GNode.OpenAt k v) (off m : Nat) (cod : Ty) :
    (nextOpen scan off m cod k).Nodup := by
  unfold nextOpen
  have hsub : (scan.take off ++ scan.drop (off + m)).Nodup := by
    have := (List.Sublist.refl (scan.take off)).append
      (List.drop_sublist_drop_left scan (Nat.le_add_right off m))
    rw [List.take_append_drop] at this
    exact List.Nodup.sublist this hn
  rw [List.nodup_append] at hsub
  rw [List.append_assoc, List.nodup_append, List.nodup_append]
  refine ⟨hsub.1, ⟨codNodes_nodup _ _, hsub.2.1, ?_⟩, ?_⟩
  · intro a ha b hb e
    obtain ⟨o, i, rfl, -⟩ := mem_codNodes ha
    have := ho _ (List.mem_of_mem_drop hb)
    rw [← e] at this
    simp [GNode.OpenAt] at this
  · intro a ha b hb e
    rcases List.mem_append.mp hb with hb | hb
    · obtain ⟨o, i, rfl, -⟩ := mem_codNodes hb
      have := ho _ (List.mem_of_mem_take ha)
      rw [e] at this
      simp [GNode.OpenAt] at this
    · exact hsub.2.2 a ha b hb e

theorem nextOpen_open {scan : List GNode} {k : Nat} (ho : ∀ v ∈ scan, GNode.OpenAt k v)
    (off m : Nat) (cod : Ty) : ∀ v ∈ nextOpen scan off m cod k, GNode.OpenAt (k + 1) v := by
  intro v hv
  rcases mem_nextOpen hv with hv | ⟨o, i, rfl⟩
  · exact (ho _ hv).mono (Nat.le_succ k)
  · exact Nat.lt_succ_self k

theorem nextOpen_obj {scan : List GNode} {t : Ty} (h : scan.map GNode.obj? = t.map some)
    (off m : Nat) (cod : Ty) (k : Nat) :
    (nextOpen scan off m cod k).map GNode.obj? = (t.take off ++ cod ++ t.drop (off + m)).map some := by
  simp only [nextOpen, List.map_append, List.map_take, List.map_drop, h, codNodes_obj]

/-! ### Sorting the outputs -/

theorem insertByKey_le (key : GNode → Nat) (a : GNode) (l : List GNode)
    (h : ∀ b ∈ l, key a ≤ key b) : insertByKey key a l = a :: l := by
  cases l with
  | nil => rfl
  | cons b l => simp [insertByKey, h b (by simp)]

theorem sortByKey_sorted (key : GNode → Nat) (l : List GNode)
    (h : l.Pairwise (fun a b => key a ≤ key b)) : sortByKey key l = l := by
  induction l with
  | nil => rfl
  | cons a l ih =>
    rw [List.pairwise_cons] at h
    rw [sortByKey, ih h.2, insertByKey_le key a l h.1]

theorem sortOutputs_codNodes (cod : Ty) (k : Nat) :
    sortOutputs (codNodes cod k) = .ok (codNodes cod k) := by
  unfold sortOutputs
  have hall : (codNodes cod k).all (fun v => v.i?.isSome) = true := by
    rw [List.all_eq_true]
    intro v hv
    obtain ⟨o, i, rfl, -⟩ := mem_codNodes hv
    rfl
  rw [if_pos hall, sortByKey_sorted]
  exact pairwise_mapIdx fun i j _ _ hij => Nat.le_of_lt hij

/-! ### One layer -/

/-- `diagram >> Id(left) @ box @ Id(right)` as a value. -/
def addLayer (d : Diagram) (left : Ty) (b : Box) (right : Ty) : Diagram :=
  ⟨d.dom, left ++ b.cod ++ right, d.boxes ++ [b], d.offsets ++ [(left.length : Int)],
   ⟨d.layers.dom, left ++ b.cod ++ right, d.layers.boxes ++ [⟨left, b, right⟩]⟩⟩

theorem whisk_eq (left : Ty) (b : Box) (right : Ty) :
    whisk left b right = .ok ⟨left ++ b.dom ++ right, left ++ b.cod ++ right, [b],
      [(left.length : Int)],
      ⟨left ++ b.dom ++ right, left ++ b.cod ++ right, [⟨left, b, right⟩]⟩⟩ := by
  unfold whisk
  rw [Diagram.tensor_spec (Diagram.id_wf left) (Diagram.ofBox_wf b)]
  have hw := Diagram.tensor_wf (Diagram.id_wf left) (Diagram.ofBox_wf b)
    (Diagram.tensor_spec (Diagram.id_wf left) (Diagram.ofBox_wf b))
  dsimp only  -- the `match` on the result just rewritten
  rw [Diagram.tensor_spec hw (Diagram.id_wf right)]
  simp [Diagram.id, Diagram.ofBox, LArrow.id, whiskR, whiskL]

theorem then_layer {d : Diagram} (hd : d.WF) (left : Ty) (b : Box) (right : Ty)
    (hc : d.cod = left ++ b.dom ++ right) :
    d.then ⟨left ++ b.dom ++ right, left ++ b.cod ++ right, [b], [(left.length : Int)],
      ⟨left ++ b.dom ++ right, left ++ b.cod ++ right, [⟨left, b, right⟩]⟩⟩
      = .ok (addLayer d left b right) := by
  unfold Diagram.then
  have : d.layers.cod = left ++ b.dom ++ right := by rw [hd.lcod, hc]
  dsimp only  -- the `match` on the result just rewritten
  rw [LArrow.then_eq_ok (by simpa using this)]
  rfl

theorem addLayer_wf {d : Diagram} (hd : d.WF) (left : Ty) (b : Box) (right : Ty)
    (hc : d.cod = left ++ b.dom ++ right) : (addLayer d left b right).WF :=
  Diagram.then_wf hd ⟨rfl, rfl, rfl, rfl, by simp [LArrow.WF, Chain, Layer.dom, Layer.cod]⟩
    (then_layer hd left b right hc)

/-! ### What `nx2diagram` reads of the graph at one box -/

/-- At box `k` (`b`, attribute `a`) with open wires `scan`, the graph says: port `i` of the box
    is fed by `scan[off + i]` and by nothing else, the box's successors are its `cod` nodes; the
    types fit; a box without inputs carries `off` as its attribute. -/
structure Reads (g : NxGraph) (scan : List GNode) (k : Nat) (b : Box) (a : OffAttr) (off : Nat) :
    Prop where
  inRange : off + b.dom.length ≤ scan.length
  types : ((scan.drop off).take b.dom.length).map GNode.obj? = b.dom.map some
  inEdges : ∀ i o w, b.dom[i]? = some o → scan[off + i]? = some w →
    g.inEdges (.dom o i k) = .ok [w]
  attr : b.dom = [] → a.get = some (off : Int)
  succ : g.succ (.box b k a) = codNodes b.cod k

theorem domLoop_tail (g : NxGraph) (scan : List GNode) (k : Nat) :
    ∀ (rest : List Ob) (i : Nat) (cur : Option Int), 1 ≤ i →
      (∀ j o, rest[j]? = some o → ∃ w, g.inEdges (.dom o (i + j) k) = .ok [w]) →
      domLoop g scan k i rest cur = .ok cur := by
  intro rest
  induction rest with
  | nil => intro i cur _ _; rfl
  | cons o rest ih =>
    intro i cur hi h
    obtain ⟨w, hw⟩ := h 0 o rfl
    simp only [Nat.add_zero] at hw
    have hi0 : i ≠ 0 := by omega
    simp only [domLoop, hw, unpack1, if_neg hi0]
    apply ih (i + 1) cur (by omega)
    intro j o' hj
    have := h (j + 1) o' (by simpa using hj)
    have e : i + (j + 1) = i + 1 + j := by omega
    rwa [e] at this

theorem indexOf?_getElem {scan : List GNode} (hn : scan.Nodup) {i : Nat} {w : GNode}
    (h : scan[i]? = some w) : indexOf? scan w = some i := by
  obtain ⟨hi, rfl⟩ := List.getElem?_eq_some_iff.mp h
  unfold indexOf?
  rw [if_pos (List.getElem_mem hi), hn.idxOf_getElem i hi]

theorem domLoop_spec {g : NxGraph} {scan : List GNode} {k : Nat} {b : Box} {a : OffAttr}
    {off : Nat} (hr : Reads g scan k b a off) (hn : scan.Nodup) :
    domLoop g scan k 0 b.dom a.get = .ok (some (off : Int)) := by
  have hin := hr.inEdges
  have hrange := hr.inRange
  have hattr := hr.attr
  generalize b.dom = dom at hin hrange hattr
  cases dom with
  | nil => simp only [domLoop]; rw [hattr rfl]
  | cons o rest =>
    simp only [List.length_cons] at hrange
    have h0 : off < scan.length := by omega
    have hw := hin 0 o scan[off] rfl (by simp [List.getElem?_eq_getElem h0])
    have hidx := indexOf?_getElem hn (List.getElem?_eq_getElem h0)
    simp only [domLoop, hw, unpack1, if_true, firstOffset, hidx]
    apply domLoop_tail g scan k rest 1 _ (by omega)
    intro j o' hj
    have hj' : j < rest.length := (List.getElem?_eq_some_iff.mp hj).1
    have hl : off + (j + 1) < scan.length := by omega
    refine ⟨scan[off + (j + 1)], ?_⟩
    have := hin (j + 1) o' scan[off + (j + 1)] (by simpa using hj)
      (List.getElem?_eq_getElem hl)
    have e : 1 + j = j + 1 := by omega
    rwa [e]

theorem codLoopErr_ok (off : Int) (n : Nat) : codLoopErr (some off) n n = none := by
  unfold codLoopErr
  split
  · rfl
  · simp

/-- One iteration of the loop of `nx2diagram` on a box the graph `Reads`. -/
theorem boxStep_spec {g : NxGraph} {scan : List GNode} {k : Nat} {b : Box} {a : OffAttr}
    {off : Nat} {d : Diagram} (hr : Reads g scan k b a off) (hn : scan.Nodup) (hd : d.WF)
    (hc : scan.map GNode.obj? = d.cod.map some) :
    boxStep g k (.box b k a) b a scan d
      = .ok (nextOpen scan off b.dom.length b.cod k,
             addLayer d (d.cod.take off) b (d.cod.drop (off + b.dom.length)))
      ∧ d.cod = d.cod.take off ++ b.dom ++ d.cod.drop (off + b.dom.length)
      ∧ (d.cod.take off).length = off := by
  have hcod : d.cod = d.cod.take off ++ b.dom ++ d.cod.drop (off + b.dom.length) := by
    have h2 : (d.cod.drop off).take b.dom.length = b.dom := map_some_inj (by
      rw [List.map_take, List.map_drop, ← hc, ← List.map_drop, ← List.map_take]; exact hr.types)
    have := List.take_append_drop off d.cod
    rw [← List.take_append_drop b.dom.length (d.cod.drop off), h2, List.drop_drop,
      ← List.append_assoc] at this
    exact this.symm
  have hlen : (d.cod.take off).length = off :=
    List.length_take_of_le (by have := hr.inRange; rw [length_of_map_obj hc] at this; omega)
  refine ⟨?_, hcod, hlen⟩
  unfold boxStep
  rw [domLoop_spec hr hn]
  simp only [hr.succ, sortOutputs_codNodes]
  unfold spliceAt
  rw [codNodes_length, codLoopErr_ok]
  dsimp only  -- the `match` on the result just rewritten
  unfold splice
  have e : ((off : Int) + (b.dom.length : Int)) = ((off + b.dom.length : Nat) : Int) := by simp
  rw [e, pySlice_take, pySlice_drop, pySlice_take, pySlice_drop, whisk_eq]
  dsimp only
  rw [then_layer hd _ _ _ hcod]
  simp only [nextOpen]

/-! ### The whole loop -/

/-- The graph `Reads` every box of `steps` along the open wires, which end as `fin`. -/
def ReadsAll (g : NxGraph) :
    List GNode → Nat → List (Box × OffAttr) → List Nat → List GNode → Prop
  | scan, _, [], [], fin => scan = fin
  | scan, k, s :: r, off :: offs, fin =>
    Reads g scan k s.1 s.2 off
      ∧ ReadsAll g (nextOpen scan off s.1.dom.length s.1.cod k) (k + 1) r offs fin
  | _, _, _, _, _ => False

/-- The box nodes `Node("box", box, depth, offset)` for depths `k, k+1, …`. -/
def boxNodesFrom : Nat → List (Box × OffAttr) → List GNode
  | _, [] => []
  | k, s :: r => .box s.1 k s.2 :: boxNodesFrom (k + 1) r

theorem boxLoop_spec (g : NxGraph) :
    ∀ (steps : List (Box × OffAttr)) (scan : List GNode) (k : Nat) (offs : List Nat)
      (fin : List GNode) (d : Diagram),
      ReadsAll g scan k steps offs fin → scan.Nodup → (∀ v ∈ scan, GNode.OpenAt k v) →
      d.WF → scan.map GNode.obj? = d.cod.map some →
      ∃ d', boxLoop g k (boxNodesFrom k steps) scan d = .ok d' ∧ d'.WF ∧ d'.dom = d.dom
        ∧ fin.map GNode.obj? = d'.cod.map some
        ∧ d'.boxes = d.boxes ++ steps.map (·.1)
        ∧ d'.offsets = d.offsets ++ offs.map (fun (o : Nat) => (o : Int)) := by
  intro steps
  induction steps with
  | nil =>
    intro scan k offs fin d h hn ho hd hc
    cases offs with
    | nil =>
      simp only [ReadsAll] at h
      subst h
      exact ⟨d, rfl, hd, rfl, hc, by simp, by simp⟩
    | cons o offs => simp [ReadsAll] at h
  | cons s r ih =>
    intro scan k offs fin d h hn ho hd hc
    cases offs with
    | nil => simp [ReadsAll] at h
    | cons off offs =>
      obtain ⟨hr, hrest⟩ := h
      obtain ⟨hstep, hcod, hlen⟩ := boxStep_spec hr hn hd hc
      have hd1 := addLayer_wf hd (d.cod.take off) s.1 (d.cod.drop (off + s.1.dom.length)) hcod
      have hc1 := nextOpen_obj hc off s.1.dom.length s.1.cod k
      obtain ⟨d', h1, h2, h3, h4, h5, h6⟩ :=
        ih (nextOpen scan off s.1.dom.length s.1.cod k) (k + 1) offs fin _ hrest
          (nextOpen_nodup hn ho off _ _) (nextOpen_open ho off _ _) hd1 hc1
      refine ⟨d', ?_, h2, h3, h4, ?_, ?_⟩
      · simp only [boxNodesFrom, boxLoop, GNode.box?, hstep]
        exact h1
      · rw [h5]; simp [addLayer]
      · rw [h6]; simp [addLayer, hlen]

/-- `nx2diagram` on a graph whose inputs are the parameters of `dom`, whose box nodes are those
    of `steps`, and which `ReadsAll` of them from the parameters. -/
theorem nx2diagram_spec {g : NxGraph} {dom : Ty} {steps : List (Box × OffAttr)} {offs : List Nat}
    {fin : List GNode} (hi : g.inputs = inputNodes dom) (hb : g.boxNodes = boxNodesFrom 0 steps)
    (hr : ReadsAll g (inputNodes dom) 0 steps offs fin) :
    ∃ d, nx2diagram g = .ok d ∧ d.WF ∧ d.dom = dom ∧ fin.map GNode.obj? = d.cod.map some
      ∧ d.boxes = steps.map (·.1) ∧ d.offsets = offs.map (fun (o : Nat) => (o : Int)) := by
  have hty : (inputNodes dom).filterMap GNode.obj? = dom := filterMap_obj_of_map (inputNodes_obj dom)
  obtain ⟨d, h1, h2, h3, h4, h5, h6⟩ := boxLoop_spec g steps (inputNodes dom) 0 offs fin
    (Diagram.id dom) hr (inputNodes_nodup dom) (inputNodes_open dom) (Diagram.id_wf dom)
    (inputNodes_obj dom)
  refine ⟨d, ?_, h2, h3, h4, by simpa [Diagram.id] using h5, by simpa [Diagram.id] using h6⟩
  unfold nx2diagram
  rw [hi, hb, hty]
  exact h1

end DV.Dz
