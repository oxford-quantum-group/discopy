/-
  Proofs/TkImportRank.lean — the rank of a bit among the non-post-selected bits is below `n_bits`
  (tk.py:274, 323-324) when the post-selection keys are distinct bits of the circuit: a
  well-formed tket circuit is importable (C13).
-/
import Proofs.TkImportTotal

namespace DV.Tk
open DV

/-- Distinct naturals below `n` are at most `n`. -/
theorem nodup_length_le (n : Nat) (l : List Nat) (hn : l.Nodup) (hb : ∀ x ∈ l, x < n) : l.length ≤ n := by
  induction n generalizing l with
  | zero =>
    cases l with
    | nil => simp
    | cons x xs => exact absurd (hb x (by simp)) (by omega)
  | succ n ih =>
    have h1 := ih (l.erase n) (hn.erase n) (by
      intro x hx
      have := (List.Nodup.mem_erase_iff hn).mp hx
      have := hb x this.2
      omega)
    have h2 := List.length_erase (a := n) (l := l)
    split at h2 <;> omega

/-- The keys below `b` are at most `b` many; the keys above `b` together with `0, …, b` are
    distinct numbers below `nb`: so the keys above are at most `nb - b - 1`, and `b` minus the keys
    below it is less than `nb` minus all keys. -/
theorem rank_lt (ps : PS) (nb b : Nat) (hn : (ps.map (·.1)).Nodup) (hk : ∀ e ∈ ps, e.1 < nb) (hb : b < nb)
    (hnot : ps.has b = false) : b - psBelow ps b < nb - ps.length := by
  have hne : ∀ e ∈ ps, e.1 ≠ b := by
    intro e he h
    have : ps.has b = true := by
      simp only [PS.has, List.any_eq_true]
      exact ⟨e, he, by simp [h]⟩
    rw [hnot] at this; cases this
  -- the keys below and above b
  have hsplit : ps.length = (ps.filter fun e => e.1 < b).length + (ps.filter fun e => b < e.1).length := by
    have := List.length_eq_countP_add_countP (fun e : Nat × Nat => decide (e.1 < b)) (l := ps)
    rw [List.countP_eq_length_filter, List.countP_eq_length_filter] at this
    rw [this]
    congr 2
    apply List.filter_congr
    intro e he
    have := hne e he
    simp; omega
  have hbelow : ((ps.filter fun e => e.1 < b).map (·.1)).length ≤ b := by
    apply nodup_length_le
    · exact (hn.sublist (List.Sublist.map _ List.filter_sublist))
    · intro x hx
      simp only [List.mem_map, List.mem_filter, decide_eq_true_eq] at hx
      obtain ⟨e, ⟨_, h⟩, rfl⟩ := hx
      exact h
  have habove : (((ps.filter fun e => b < e.1).map (·.1)) ++ List.range (b + 1)).length ≤ nb := by
    apply nodup_length_le
    · rw [List.nodup_append]
      refine ⟨hn.sublist (List.Sublist.map _ List.filter_sublist), List.nodup_range, ?_⟩
      intro x hx y hy
      simp only [List.mem_map, List.mem_filter, decide_eq_true_eq] at hx
      obtain ⟨e, ⟨_, h⟩, rfl⟩ := hx
      simp only [List.mem_range] at hy
      omega
    · intro x hx
      simp only [List.mem_append, List.mem_map, List.mem_filter, decide_eq_true_eq, List.mem_range] at hx
      rcases hx with ⟨e, ⟨he, _⟩, rfl⟩ | hx
      · exact hk e he
      · omega
  simp only [List.length_append, List.length_map, List.length_range] at habove hbelow
  unfold psBelow
  omega

theorem importable_of_wellFormed {inp : TkIn} (h : inp.wellFormed = true) : inp.importable = true := by
  unfold TkIn.wellFormed at h
  simp only [Bool.and_eq_true, decide_eq_true_eq, List.all_eq_true] at h
  obtain ⟨⟨hc, hn⟩, hk⟩ := h
  unfold TkIn.importable
  rw [List.all_eq_true]
  intro c hcm
  have hw := hc c hcm
  unfold Cmd.wellFormed at hw
  by_cases hop : c.op = "Measure"
  · simp only [hop, if_true] at hw
    unfold Cmd.importable
    simp only [hop, if_true]
    match hq : c.qs, hb : c.bs, hw with
    | [q], [b], hw =>
      simp only [Bool.and_eq_true, decide_eq_true_eq] at hw
      simp only [Bool.and_eq_true, decide_eq_true_eq, Bool.or_eq_true, hw.1, true_and]
      cases hh : inp.ps.has b with
      | true => exact .inl rfl
      | false => exact .inr (rank_lt inp.ps inp.nb b hn hk hw.2 hh)
  · simpa only [hop, if_false] using hw

end DV.Tk
