/-
  Proofs/TensorSnake.lean — cups and caps: `Tensor.cups [n] [n]` is the cup of tensor.py:223-224
  (one pass of the loop of rigid.cups) and its entries are a Kronecker delta.  The snake
  equations are proved once, for any two cups given by their closed forms (`snake_of_closed`,
  and its mirror image by taking daggers); `snake_l` instantiates the mirror image at
  `cupFactory d d` with an arbitrary dimension tuple `d`; the nested cups the code builds for
  multi-wire types (rigid.py:449-454), single wires included, are instantiated in
  Proofs/TensorSnakeMulti.lean.
-/
import Proofs.TensorLaws

namespace DV
namespace Tensor
open NDArray

section
variable {R : Type} [CommSemiring R]

theorem cupFactory_wf (d : List Nat) : (cupFactory (R := R) d d).WF := by
  apply mk'_wf
  · exact (id_wf (R := R) d).arr_wf
  · rw [(id_wf (R := R) d).1, prod_ashape]
    simp

/-- The cup is a Kronecker delta. -/
theorem cupFactory_entry (d : List Nat) {i j : List Nat} (hi : InRange d i) (hj : InRange d j) :
    (cupFactory (R := R) d d).entry ((i ++ j) ++ []) = if i = j then 1 else 0 := by
  rw [← id_entry (R := R) d hi hj]
  simp [Tensor.entry, cupFactory, mk', NDArray.reshape, Tensor.id]

/-- One pass of the loop of rigid.cups: for a single wire, `Tensor.cups` is the cup of
    tensor.py:223-224. -/
theorem cups_single (n : Nat) : Tensor.cups (R := R) [n] [n] = .ok (cupFactory [n] [n]) := by
  have hcup := cupFactory_wf (R := R) [n]
  -- the four slices of rigid.py:451-452 for one wire
  have h1 : pySlice [n] none (some ((([n] : List Nat).length - 0 - 1 : Nat) : Int)) = [] := rfl
  have h2 : pySlice [n] (some ((([n] : List Nat).length - 0 - 1 : Nat) : Int))
      (some ((([n] : List Nat).length - 0 - 1 + 1 : Nat) : Int)) = [n] := rfl
  have h3 : pySlice [n] (some ((0 : Nat) : Int)) (some ((0 + 1 : Nat) : Int)) = [n] := rfl
  have h4 : pySlice [n] (some ((0 + 1 : Nat) : Int)) none = [] := rfl
  unfold Tensor.cups
  simp only [List.reverse_singleton, ne_eq, not_true_eq_false, and_self, if_false,
    List.length_singleton]
  unfold cupsLoop
  rw [h1, h2, h3, h4, id_nil_tensor _ hcup, tensor_id_nil _ hcup]
  rw [then_ok (by rfl)]
  have := id_then _ hcup
  simp only [cupFactory, mk'_dom] at this ⊢
  rw [this]
  rfl

end

section
variable {R : Type} [CommSemiring R] [StarRing R]

theorem star_ite (p : Prop) [Decidable p] : star (if p then (1 : R) else 0) = if p then 1 else 0 := by
  split <;> simp

/-- Snake equation from the closed forms of a cup `C : A ⊗ B → 1`, `C[a, b] = [a = φ b]`, and a
    cup `C' : B ⊗ A → 1`, `C'[b, a] = [b = ψ a]`, where `ψ` sends indices of `A` to indices of
    `B` and `φ ∘ ψ` fixes them: `(id_A ⊗ C'†) ≫ (C ⊗ id_A) = id_A`. -/
theorem snake_of_closed (A B : List Nat) (φ ψ : List Nat → List Nat)
    (hψ : ∀ a, InRange A a → InRange B (ψ a)) (hφψ : ∀ a, InRange A a → φ (ψ a) = a)
    (C C' : Tensor R) (hC : C.WF) (hCd : C.dom = A ++ B) (hCc : C.cod = [])
    (hCe : ∀ a b, InRange A a → InRange B b → C.entry ((a ++ b) ++ []) = if a = φ b then 1 else 0)
    (hC' : C'.WF) (hCd' : C'.dom = B ++ A) (hCc' : C'.cod = [])
    (hCe' : ∀ b a, InRange B b → InRange A a →
      C'.entry ((b ++ a) ++ []) = if b = ψ a then 1 else 0) :
    thenCore ((Tensor.id A).tensor C'.dagger) (C.tensor (Tensor.id A)) = Tensor.id A := by
  have hcap := dagger_wf _ hC'
  have hX := tensor_wf _ _ (id_wf (R := R) A) hcap
  have hY := tensor_wf _ _ hC (id_wf (R := R) A)
  have hXY : ((Tensor.id A).tensor C'.dagger).cod = (C.tensor (Tensor.id A)).dom := by
    simp [hCd, hCd', List.append_assoc]
  apply ext_entry (s := thenCore ((Tensor.id A).tensor C'.dagger) (C.tensor (Tensor.id A)))
    (t := Tensor.id A) (thenCore_wf _ _ hX hY hXY) (id_wf A) (by simp [hCc'])
    (by simp [hCc])
  intro w hw
  obtain ⟨x, z, rfl, hx, hz⟩ := hw.split
  have hx' : InRange A x := by simpa [hCc'] using hx
  have hz' : InRange A z := by simpa [hCc] using hz
  rw [then_entry _ _ hX hY hXY hx hz, id_entry A hx' hz']
  have hcod : ((Tensor.id A).tensor C'.dagger).cod = A ++ (B ++ A) := by simp [hCd']
  rw [hcod, sumOver_append]
  -- Σ_a Σ_b Σ_c δ(x,a) [b = ψ c] [a = φ b] δ(c,z)
  have key : ∀ a, InRange A a → ∀ b, InRange B b → ∀ c, InRange A c →
      ((Tensor.id A).tensor C'.dagger).entry (x ++ (a ++ (b ++ c)))
        * (C.tensor (Tensor.id A)).entry ((a ++ (b ++ c)) ++ z)
      = (if c = z then 1 else 0) * ((if x = a then 1 else 0)
          * ((if b = ψ c then 1 else 0) * (if a = φ b then 1 else 0))) := by
    intro a ha b hb c hc
    have e1 := tensor_entry _ _ (id_wf (R := R) A) hcap (a := x) (b := a) (c := []) (d := b ++ c)
      hx' ha (by rw [dagger_dom, hCc']; trivial) (by rw [dagger_cod, hCd']; exact inRange_append hb hc)
    have e2 := tensor_entry _ _ hC (id_wf (R := R) A) (a := a ++ b) (b := []) (c := c) (d := z)
      (by rw [hCd]; exact inRange_append ha hb) (by rw [hCc]; trivial) hc hz'
    have d1 := dagger_entry C' hC' (i := b ++ c) (k := [])
      (by rw [hCd']; exact inRange_append hb hc) (by rw [hCc']; trivial)
    simp only [List.nil_append, List.append_nil, List.append_assoc] at e1 e2 d1 ⊢
    have c1 := hCe' b c hb hc
    have c2 := hCe a b ha hb
    simp only [List.append_nil] at c1 c2
    rw [e1, e2, d1, c1, c2, star_ite, id_entry A hx' ha, id_entry A hc hz']
    ring
  rw [sumOver_congr (g := fun a => (if x = a then 1 else 0) * (if a = z then 1 else 0))
    (fun a ha => ?_)]
  · rw [sumOver_delta hx']
  · rw [sumOver_append]
    rw [sumOver_congr (g := fun b => (if ψ z = b then 1 else 0)
        * ((if x = a then 1 else 0) * (if a = φ b then 1 else 0))) (fun b hb => ?_)]
    · rw [sumOver_delta (hψ z hz'), hφψ z hz']
    · rw [sumOver_congr (g := fun c => (if z = c then 1 else 0) * ((if x = a then 1 else 0)
          * ((if b = ψ c then 1 else 0) * (if a = φ b then 1 else 0))))
        (fun c hc => by rw [key a ha b hb c hc, ite_comm' c z])]
      rw [sumOver_delta hz', ite_comm' b (ψ z)]
      ring

/-- The mirrored snake equation `(C† ⊗ id_A) ≫ (id_A ⊗ C') = id_A`: its dagger is the equation
    of `snake_of_closed`. -/
theorem snake_of_closed' (A B : List Nat) (φ ψ : List Nat → List Nat)
    (hψ : ∀ a, InRange A a → InRange B (ψ a)) (hφψ : ∀ a, InRange A a → φ (ψ a) = a)
    (C C' : Tensor R) (hC : C.WF) (hCd : C.dom = A ++ B) (hCc : C.cod = [])
    (hCe : ∀ a b, InRange A a → InRange B b → C.entry ((a ++ b) ++ []) = if a = φ b then 1 else 0)
    (hC' : C'.WF) (hCd' : C'.dom = B ++ A) (hCc' : C'.cod = [])
    (hCe' : ∀ b a, InRange B b → InRange A a →
      C'.entry ((b ++ a) ++ []) = if b = ψ a then 1 else 0) :
    thenCore (C.dagger.tensor (Tensor.id A)) ((Tensor.id A).tensor C') = Tensor.id A := by
  have hX := tensor_wf _ _ (dagger_wf _ hC) (id_wf (R := R) A)
  have hY := tensor_wf _ _ (id_wf (R := R) A) hC'
  have hXY : (C.dagger.tensor (Tensor.id A)).cod = ((Tensor.id A).tensor C').dom := by
    simp [hCd, hCd', List.append_assoc]
  rw [← dagger_dagger _ (thenCore_wf _ _ hX hY hXY), dagger_then _ _ hX hY hXY,
    dagger_tensor _ _ (id_wf A) hC', dagger_tensor _ _ (dagger_wf _ hC) (id_wf A), dagger_id,
    dagger_dagger C hC,
    snake_of_closed A B φ ψ hψ hφψ C C' hC hCd hCc hCe hC' hCd' hCc' hCe', dagger_id]

/-- First snake equation: `(cap ⊗ id) ≫ (id ⊗ cup) = id`. -/
theorem snake_l (d : List Nat) :
    thenCore ((cupFactory (R := R) d d).dagger.tensor (Tensor.id d))
      ((Tensor.id d).tensor (cupFactory d d)) = Tensor.id d :=
  snake_of_closed' d d (fun a => a) (fun a => a) (fun _ h => h) (fun _ _ => rfl) _ _ (cupFactory_wf d) rfl rfl
    (fun _ _ ha hb => cupFactory_entry d ha hb) (cupFactory_wf d) rfl rfl
    (fun _ _ hb ha => cupFactory_entry d hb ha)

end

end Tensor
end DV
