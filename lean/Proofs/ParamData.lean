/-
  Proofs/ParamData.lean — nested box data (Model/ParamData.lean): the free symbols collected by the
  recursion of cat.Box.__init__ are exactly the symbols of the entries, whatever the containers;
  `rmap` maps the entries and keeps the containers.
-/
import Model.ParamData
import Proofs.Param

namespace DV.Param

mutual
theorem PData.entriesOutside0d_eq {R : Type} :
    ∀ d : PData R, d.noZeroD = true → d.entriesOutside0d = d.entries
  | .leaf _, _ => rfl
  | .zeroD _, h => absurd h Bool.false_ne_true
  | .node _ kids, h => PForest.entriesOutside0d_eq kids h
theorem PForest.entriesOutside0d_eq {R : Type} :
    ∀ d : PForest R, d.noZeroD = true → d.entriesOutside0d = d.entries
  | .nil, _ => rfl
  | .cons d rest, h => by
    rw [PForest.noZeroD, Bool.and_eq_true] at h
    rw [PForest.entriesOutside0d, PForest.entries, PData.entriesOutside0d_eq d h.1,
      PForest.entriesOutside0d_eq rest h.2]
end

mutual
/-- **Free symbols of nested data are exactly the symbols of its entries**, for data without 0-d
    arrays (as the code is) or with the repaired treatment of 0-d arrays (`z = true`). -/
theorem PData.mem_freeSymbols_entries {R : Type} (z : Bool) (fs : R → List Nat) (v : Nat) :
    ∀ d : PData R, z = true ∨ d.noZeroD = true →
      (v ∈ d.freeSymbols z fs ↔ ∃ e ∈ d.entries, v ∈ fs e)
  | .leaf e, _ => (exists_mem_singleton (fun e' => v ∈ fs e') e).symm
  | .zeroD e, h => by
    obtain rfl : z = true := h.resolve_right Bool.false_ne_true
    exact (exists_mem_singleton (fun e' => v ∈ fs e') e).symm
  | .node _ kids, h => PForest.mem_freeSymbols_entries z fs v kids h
theorem PForest.mem_freeSymbols_entries {R : Type} (z : Bool) (fs : R → List Nat) (v : Nat) :
    ∀ d : PForest R, z = true ∨ d.noZeroD = true →
      (v ∈ d.freeSymbols z fs ↔ ∃ e ∈ d.entries, v ∈ fs e)
  | .nil, _ => ⟨fun h => absurd h List.not_mem_nil, fun ⟨_, h, _⟩ => absurd h List.not_mem_nil⟩
  | .cons d rest, h => by
    have h' : (z = true ∨ d.noZeroD = true) ∧ (z = true ∨ rest.noZeroD = true) :=
      h.elim (fun hz => ⟨Or.inl hz, Or.inl hz⟩) fun hn =>
        have := Bool.and_eq_true_iff.mp hn
        ⟨Or.inr this.1, Or.inr this.2⟩
    rw [PForest.freeSymbols, mem_unionNat, PData.mem_freeSymbols_entries z fs v d h'.1,
      PForest.mem_freeSymbols_entries z fs v rest h'.2, PForest.entries, exists_mem_append]
end

mutual
theorem PData.entries_rmap {R S : Type} (f : R → S) :
    ∀ d : PData R, (d.rmap f).entries = d.entries.map f
  | .leaf _ => rfl
  | .zeroD _ => rfl
  | .node _ kids => PForest.entries_rmap f kids
theorem PForest.entries_rmap {R S : Type} (f : R → S) :
    ∀ d : PForest R, (d.rmap f).entries = d.entries.map f
  | .nil => rfl
  | .cons d rest => by
    rw [PForest.rmap, PForest.entries, PForest.entries, List.map_append, PData.entries_rmap f d,
      PForest.entries_rmap f rest]
end

mutual
theorem PData.noZeroD_rmap {R S : Type} (f : R → S) :
    ∀ d : PData R, (d.rmap f).noZeroD = d.noZeroD
  | .leaf _ => rfl
  | .zeroD _ => rfl
  | .node _ kids => PForest.noZeroD_rmap f kids
theorem PForest.noZeroD_rmap {R S : Type} (f : R → S) :
    ∀ d : PForest R, (d.rmap f).noZeroD = d.noZeroD
  | .nil => rfl
  | .cons d rest => by
    rw [PForest.rmap, PForest.noZeroD, PForest.noZeroD, PData.noZeroD_rmap f d,
      PForest.noZeroD_rmap f rest]
end

mutual
/-- `rmap` keeps every container: mapping the entries to `()` gives the same skeleton. -/
theorem PData.shape_rmap {R S : Type} (f : R → S) :
    ∀ d : PData R, (d.rmap f).rmap (fun _ => ()) = d.rmap (fun _ => ())
  | .leaf _ => rfl
  | .zeroD _ => rfl
  | .node c kids => congrArg (PData.node c) (PForest.shape_rmap f kids)
theorem PForest.shape_rmap {R S : Type} (f : R → S) :
    ∀ d : PForest R, (d.rmap f).rmap (fun _ => ()) = d.rmap (fun _ => ())
  | .nil => rfl
  | .cons d rest => congrArg₂ PForest.cons (PData.shape_rmap f d) (PForest.shape_rmap f rest)
end

mutual
theorem PData.rmap_rmap {R S T : Type} (f : R → S) (g : S → T) :
    ∀ d : PData R, (d.rmap f).rmap g = d.rmap (fun e => g (f e))
  | .leaf _ => rfl
  | .zeroD _ => rfl
  | .node c kids => congrArg (PData.node c) (PForest.rmap_rmap f g kids)
theorem PForest.rmap_rmap {R S T : Type} (f : R → S) (g : S → T) :
    ∀ d : PForest R, (d.rmap f).rmap g = d.rmap (fun e => g (f e))
  | .nil => rfl
  | .cons d rest => congrArg₂ PForest.cons (PData.rmap_rmap f g d) (PForest.rmap_rmap f g rest)
end

mutual
/-- Substituting closed values for every entry leaves no free symbol, whatever the containers. -/
theorem PData.freeSymbols_rmap_closed {R S : Type} (z : Bool) (fs : S → List Nat) (f : R → S)
    (hclosed : ∀ e, fs (f e) = []) : ∀ d : PData R, (d.rmap f).freeSymbols z fs = []
  | .leaf e => hclosed e
  | .zeroD e => by
    cases z
    · rfl
    · exact hclosed e
  | .node _ kids => PForest.freeSymbols_rmap_closed z fs f hclosed kids
theorem PForest.freeSymbols_rmap_closed {R S : Type} (z : Bool) (fs : S → List Nat) (f : R → S)
    (hclosed : ∀ e, fs (f e) = []) : ∀ d : PForest R, (d.rmap f).freeSymbols z fs = []
  | .nil => rfl
  | .cons d rest => by
    rw [PForest.rmap, PForest.freeSymbols, PData.freeSymbols_rmap_closed z fs f hclosed d,
      PForest.freeSymbols_rmap_closed z fs f hclosed rest]
    rfl
end

end DV.Param
