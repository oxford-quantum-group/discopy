/-
  Proofs/Move.lean — C05: closed form of the box list after a general (non-adjacent) move:
  box `i` lands at position `j`, all other boxes keep their relative order.
-/
import Proofs.Interchange

namespace DV

theorem list_at_split {α} {xs : List α} {i : Nat} {a : α} (h : xs[i]? = some a) :
    xs = xs.take i ++ a :: xs.drop (i + 1) ∧ (xs.take i).length = i := by
  obtain ⟨hl, rfl⟩ := List.getElem?_eq_some_iff.mp h
  exact ⟨by rw [← List.drop_eq_getElem_cons hl, List.take_append_drop],
    List.length_take_of_le (Nat.le_of_lt hl)⟩

/-- One adjacent step, read on a box list with the two boxes marked. -/
theorem Diagram.interchangeAdj_swap {d d' : Diagram} {left : Bool} {P S : List Box} {x y : Box}
    (hd : d.WF) (hb : d.boxes = P ++ [x, y] ++ S) (h : d.interchangeAdj P.length left = .ok d') :
    d'.boxes = P ++ [y, x] ++ S := by
  obtain ⟨b0, b1, e0, e1, hb'⟩ := Diagram.interchangeAdj_boxes hd h
  obtain ⟨f0, f1, t1, t2⟩ := pair_at (a := x) (b := y) (r := S) (rfl : P.length = P.length)
  rw [hb] at e0 e1 hb'
  cases f0.symm.trans e0
  cases f1.symm.trans e1
  rw [hb', t1, t2]

/-- Moving down: `A ++ [a] ++ M ++ R ↦ A ++ M ++ [a] ++ R`, by steps at `|A|, |A|+1, …`. -/
theorem interchangePath_down_boxes {left : Bool} {A M R : List Box} {a : Box} {d d' : Diagram}
    {i n : Nat} (hd : d.WF) (hb : d.boxes = A ++ a :: (M ++ R)) (hA : A.length = i)
    (hM : M.length = n) (h : interchangePath left (List.range' i n) d = .ok d') :
    d'.boxes = A ++ M ++ a :: R := by
  subst hA hM
  induction M generalizing A d with
  | nil => cases h; simpa using hb
  | cons b M ih =>
    rw [List.length_cons, List.range'_succ, interchangePath] at h
    obtain ⟨d1, hd1, h⟩ := ok_of_bind h
    have hb1 := Diagram.interchangeAdj_swap (x := a) (y := b) (S := M ++ R) hd (by simpa using hb) hd1
    have := ih (A := A ++ [b]) (Diagram.interchangeAdj_wf hd hd1).1 (by simpa using hb1)
      (by simpa using h)
    simpa using this

/-- Moving up: `L ++ M ++ [a] ++ R ↦ L ++ [a] ++ M ++ R`, by steps at `|L|+|M|-1, …, |L|`. -/
theorem interchangePath_up_boxes {left : Bool} {L M R : List Box} {a : Box} {d d' : Diagram}
    {i n : Nat} (hd : d.WF) (hb : d.boxes = L ++ M ++ a :: R) (hL : L.length = i)
    (hM : M.length = n) (h : interchangePath left (List.range' i n).reverse d = .ok d') :
    d'.boxes = L ++ a :: (M ++ R) := by
  subst hL
  induction n generalizing M R d with
  | zero => cases h; simpa [List.eq_nil_of_length_eq_zero hM] using hb
  | succ n ih =>
    -- the first step exchanges `a` with the last box `b` of `M`
    obtain ⟨M, b, rfl⟩ : ∃ M' b, M = M' ++ [b] :=
      ⟨_, _, (List.dropLast_concat_getLast (List.ne_nil_of_length_eq_add_one hM)).symm⟩
    rw [List.length_append, List.length_singleton, Nat.add_right_cancel_iff] at hM
    rw [List.range'_1_concat, List.reverse_append, List.reverse_singleton, List.singleton_append,
      interchangePath, ← hM, ← List.length_append] at h
    obtain ⟨d1, hd1, h⟩ := ok_of_bind h
    have hb1 := Diagram.interchangeAdj_swap (x := b) (y := a) (S := R) hd (by simpa using hb) hd1
    have := ih (R := b :: R) (Diagram.interchangeAdj_wf hd hd1).1 (by simpa using hb1) hM
      (by rwa [hM] at h)
    simpa using this

/-- C05, closed form: after `d.interchange(i, j)` box `i` sits at position `j` and all other
    boxes are in their original relative order. -/
theorem Diagram.interchange_boxes {d d' : Diagram} {i j : Int} {left : Bool} (hd : d.WF)
    (h : d.interchange i j left = .ok d') :
    (i = j ∧ d' = d) ∨
    (i < j ∧ ∃ A M R a, d.boxes = A ++ a :: (M ++ R) ∧ (A.length : Int) = i ∧
        (M.length : Int) = j - i ∧ d'.boxes = A ++ M ++ a :: R) ∨
    (j < i ∧ ∃ L M R a, d.boxes = L ++ M ++ a :: R ∧ (L.length : Int) = j ∧
        (M.length : Int) = i - j ∧ d'.boxes = L ++ a :: (M ++ R)) := by
  rw [Diagram.interchange_eq_path] at h
  split at h
  · cases h
  · rename_i hr
    obtain ⟨⟨hi0, hi⟩, ⟨hj0, hj⟩⟩ := (not_or.mp hr).imp Decidable.not_not.mp Decidable.not_not.mp
    obtain ⟨i, rfl⟩ := Int.eq_ofNat_of_zero_le hi0
    obtain ⟨j, rfl⟩ := Int.eq_ofNat_of_zero_le hj0
    rw [Int.ofNat_lt] at hi hj
    simp only [Int.toNat_natCast, movePath] at h
    simp only [Int.natCast_inj, Int.ofNat_lt]
    obtain ⟨hs, hl⟩ := list_at_split (List.getElem?_eq_getElem hi)
    rcases Nat.lt_trichotomy i j with hij | rfl | hji
    · -- down: `M` is the next `j - i` boxes
      right; left
      rw [if_neg (Nat.lt_asymm hij)] at h
      have hM : ((d.boxes.drop (i + 1)).take (j - i)).length = j - i :=
        List.length_take_of_le (by
          rw [List.length_drop, ← Nat.succ_sub_succ j i]; exact Nat.sub_le_sub_right hj (i + 1))
      rw [← List.take_append_drop (j - i) (d.boxes.drop (i + 1))] at hs
      exact ⟨hij, _, _, _, _, hs, hl, by rw [hM, Int.ofNat_sub (Nat.le_of_lt hij)],
        interchangePath_down_boxes hd hs hl hM h⟩
    · left
      rw [if_neg (Nat.lt_irrefl i), Nat.sub_self] at h
      exact ⟨rfl, (Except.ok.inj h).symm⟩
    · -- up: `M` is the `i - j` boxes before it
      right; right
      rw [if_pos hji] at h
      have hL : (d.boxes.take j).length = j := List.length_take_of_le (Nat.le_of_lt hj)
      have hM : ((d.boxes.drop j).take (i - j)).length = i - j :=
        List.length_take_of_le (by
          rw [List.length_drop]; exact Nat.sub_le_sub_right (Nat.le_of_lt hi) j)
      have ht : d.boxes.take i = d.boxes.take j ++ (d.boxes.drop j).take (i - j) := by
        rw [← List.take_add, Nat.add_sub_cancel' (Nat.le_of_lt hji)]
      rw [ht] at hs
      exact ⟨hji, _, _, _, _, hs, hL, by rw [hM, Int.ofNat_sub (Nat.le_of_lt hji)],
        interchangePath_up_boxes hd hs hL hM h⟩

end DV
