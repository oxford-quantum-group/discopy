/-
  Proofs/ZXTable.lean — finite-table facts about the ZX layer of Model/Gates.lean (C16), closed by
  `decide` (kernel evaluation of exact ℤ[ζ₈][1/2] arithmetic).  Core Lean only.
  (Rotations, kets and bras are not tabulated: Proofs/RotCyc8.lean proves Rz, Rx and the corrected CRz, CRx, CU1 for every
  even phase index `n : ℤ`, Proofs/KetBra.lean kets and bras for every bitstring.)
-/
import Proofs.GatesTable

namespace DV.Gates

/-- Standard interpretation of the image of a gate under `gate2zx` (`fixed = false`: as zx.py has it). -/
def zxEvalOf (fixed : Bool) (g : Gate) : Except Err M8 :=
  match gate2zx fixed g with
  | .ok d => .ok (ZXDiag.eval g.dom d)
  | .error e => .error e

/-! ### C16: the phase-free part of the gate2zx table and the representable phases -/

/-- The scalar `k g` with `⟦gate2zx g⟧ = k g • eval g` for the phase-free table entries. -/
def zxScalarNamed (name : String) : Cyc8 :=
  if name == "CX" || name == "CZ" then Cyc8.invSqrt2 else if name == "Y" then (if f17Fixed then 1 else -1)
  else 1

def zxNamed : List (String × Gate) := named.filter fun p => p.1 != "S" && p.1 != "T"

/-- zx.py:389-395 and SWAP: `⟦gate2zx g⟧ = k • eval g`, `k ≠ 0`, same arity. -/
theorem gate2zx_named_sound :
    ∀ p ∈ zxNamed, zxEvalOf false p.2 = .ok (msmul (zxScalarNamed p.1) p.2.eval) ∧
      zxScalarNamed p.1 ≠ 0 := by decide +kernel

/-- Arity: the image of every table gate, of every rotation kind and of every ket/bra (≤ 3 bits) is a
    well-typed diagram with as many inputs and outputs as the gate (both as-is and corrected). -/
theorem gate2zx_arity_table :
    (∀ p ∈ zxNamed, ∀ f ∈ [false, true],
      (gate2zx f p.2).toOption.bind (ZXDiag.codFrom p.2.dom) = some p.2.cod) ∧
    (∀ k ∈ [RotKind.Rx, .Rz, .CRz, .CRx, .CU1], ∀ n ∈ evenPhases, ∀ f ∈ [false, true],
      (gate2zx f (.rot k n)).toOption.bind (ZXDiag.codFrom k.nq) = some k.nq) ∧
    (∀ bs ∈ bitstringsUpTo3, ∀ f ∈ [false, true],
      (gate2zx f (.ket bs)).toOption.bind (ZXDiag.codFrom 0) = some bs.length ∧
      (gate2zx f (.bra bs)).toOption.bind (ZXDiag.codFrom bs.length) = some 0) := by
  decide +kernel

/-- `S`, `T`, `Ry` and controlled gates other than `CX` are not in the table (`KeyError`). -/
theorem gate2zx_unsupported :
    gate2zx false (.q gS) = .error .index ∧ gate2zx false (.q gT) = .error .index ∧
    gate2zx false (.rot .Ry 2) = .error .index ∧ gate2zx false (.ctrl (.q gZ)) = .error .index := by
  decide

def ctrlRotKinds : List RotKind := [.CRz, .CRx, .CU1]

def entry (A : M8) (i j : Nat) : Cyc8 := (A.getD i []).getD j 0

/-- One failing cross product refutes proportionality: if `A = k • B` then
    `A[i][j] * B[i'][j'] = k * B[i][j] * B[i'][j'] = A[i'][j'] * B[i][j]` for all index pairs
    (`Proofs/Gates.lean: cross_of_proportional`). -/
def crossFailsAt (A B : M8) (i j i' j' : Nat) : Bool :=
  entry A i j * entry B i' j' != entry A i' j' * entry B i j

/-- The decompositions of CRz and CU1 as zx.py has them are the corrected ones of TWICE the phase. -/
theorem zxEvalOf_asis_eq_fixed_double (n : Int) :
    zxEvalOf false (.rot .CRz n) = zxEvalOf true (.rot .CRz (2 * n)) ∧
    zxEvalOf false (.rot .CU1 n) = zxEvalOf true (.rot .CU1 (2 * n)) := by
  simp [zxEvalOf, gate2zx, Gate.dom, Int.mul_ediv_cancel_left]

/-- The arities `(n, m)` with `n, m < 3` over which `C16.zx_dagger_exact` is stated; every instance follows from
    `ZXBox.dagger_mat` (Proofs/CircuitCyc8.lean), which holds for every arity. -/
def smallArities : List (Nat × Nat) := pairs 3

end DV.Gates
