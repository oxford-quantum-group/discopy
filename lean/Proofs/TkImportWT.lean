/-
  Proofs/TkImportWT.lean — the circuit description built by the model of `from_tk` is well-typed
  (C13): chain reasoning on `D` — every operation of the little diagram algebra preserves
  "every box finds its domain at its offset, and the scan ends in the recorded codomain".
-/
import Proofs.TkFrom
import Model.TkImport

namespace DV.Tk
open DV

/-- The description is a well-typed chain from its domain to its codomain. -/
def D.WT (d : D) : Prop := wellTyped d.dom d.layers = true ∧ scanCod d.dom d.layers = d.cod

/-! ### chains -/

theorem wellTyped_append (t : List W) (l1 l2 : Layers) :
    wellTyped t (l1 ++ l2) = (wellTyped t l1 && wellTyped (scanCod t l1) l2) := by
  induction l1 generalizing t with
  | nil => simp [wellTyped, scanCod]
  | cons l ls ih =>
    obtain ⟨b, off⟩ := l
    simp only [List.cons_append, wellTyped, scanCod, ih, Bool.and_assoc]

theorem scanCod_append (t : List W) (l1 l2 : Layers) :
    scanCod t (l1 ++ l2) = scanCod (scanCod t l1) l2 := by
  induction l1 generalizing t with
  | nil => rfl
  | cons l ls ih => obtain ⟨b, off⟩ := l; simp only [List.cons_append, scanCod, ih]

/-- The box finds its domain at `off` in `cur`: the head condition of `wellTyped`. -/
def boxFits (cur : List W) (b : TBox) (off : Nat) : Bool :=
  (cur.drop off).take b.dom.length == b.dom && off + b.dom.length ≤ cur.length

theorem boxFits_iff {cur : List W} {b : TBox} {off : Nat} :
    boxFits cur b off = true ↔ ∃ A C, cur = A ++ b.dom ++ C ∧ A.length = off := by
  constructor
  · intro h
    simp only [boxFits, Bool.and_eq_true, beq_iff_eq, decide_eq_true_eq] at h
    refine ⟨cur.take off, cur.drop (off + b.dom.length), ?_, by simp; omega⟩
    conv => lhs; rw [← List.take_append_drop off cur, ← List.take_append_drop b.dom.length (cur.drop off)]
    rw [h.1, List.drop_drop, List.append_assoc]
  · rintro ⟨A, C, rfl, rfl⟩
    simp [boxFits]

theorem applyBox_frame (A C : List W) (b : TBox) :
    applyBox (A ++ b.dom ++ C) b A.length = A ++ b.cod ++ C := by
  simp [applyBox, List.drop_append]

/-- The head box of a well-typed chain cuts the type in three; the rest runs on the type with the
    box's codomain in the middle. -/
theorem wellTyped_cons {cur : List W} {b : TBox} {off : Nat} {rest : Layers} :
    wellTyped cur ((b, off) :: rest) = true ↔
      ∃ A C, cur = A ++ b.dom ++ C ∧ A.length = off ∧ wellTyped (A ++ b.cod ++ C) rest = true := by
  have e : wellTyped cur ((b, off) :: rest) =
      (boxFits cur b off && wellTyped (applyBox cur b off) rest) := rfl
  rw [e, Bool.and_eq_true, boxFits_iff]
  constructor
  · rintro ⟨⟨A, C, rfl, rfl⟩, h⟩
    exact ⟨A, C, rfl, rfl, applyBox_frame A C b ▸ h⟩
  · rintro ⟨A, C, rfl, rfl, h⟩
    exact ⟨⟨A, C, rfl, rfl⟩, (applyBox_frame A C b).symm ▸ h⟩

theorem shiftLayers_cons (k : Nat) (b : TBox) (off : Nat) (ls : Layers) :
    shiftLayers k ((b, off) :: ls) = (b, off + k) :: shiftLayers k ls := rfl

/-- Framing a chain on the left moves the offsets; on the right it changes nothing. -/
theorem wellTyped_frame (A C t : List W) (ls : Layers) (h : wellTyped t ls = true) :
    wellTyped (A ++ t ++ C) (shiftLayers A.length ls) = true ∧
      scanCod (A ++ t ++ C) (shiftLayers A.length ls) = A ++ scanCod t ls ++ C := by
  induction ls generalizing t with
  | nil => simp [shiftLayers, wellTyped, scanCod]
  | cons l ls ih =>
    obtain ⟨b, off⟩ := l
    obtain ⟨A', C', rfl, rfl, h2⟩ := wellTyped_cons.mp h
    have e : A ++ (A' ++ b.dom ++ C') ++ C = (A ++ A') ++ b.dom ++ (C' ++ C) := by simp [List.append_assoc]
    have e2 : A ++ (A' ++ b.cod ++ C') ++ C = (A ++ A') ++ b.cod ++ (C' ++ C) := by simp [List.append_assoc]
    have hl : A'.length + A.length = (A ++ A').length := by simp; omega
    have ih' := ih (A' ++ b.cod ++ C') h2
    rw [shiftLayers_cons, e, hl]
    refine ⟨wellTyped_cons.mpr ⟨_, _, rfl, rfl, e2 ▸ ih'.1⟩, ?_⟩
    simp only [scanCod, applyBox_frame]
    rw [← e2, ih'.2]

theorem shiftLayers_zero (ls : Layers) : shiftLayers 0 ls = ls := by
  simp [shiftLayers]

theorem shiftLayers_append (k : Nat) (l1 l2 : Layers) :
    shiftLayers k (l1 ++ l2) = shiftLayers k l1 ++ shiftLayers k l2 := by
  simp [shiftLayers]

theorem shiftLayers_shiftLayers (j k : Nat) (ls : Layers) :
    shiftLayers j (shiftLayers k ls) = shiftLayers (k + j) ls := by
  simp [shiftLayers, Nat.add_assoc]

theorem wellTyped_frame_right (C t : List W) (ls : Layers) (h : wellTyped t ls = true) :
    wellTyped (t ++ C) ls = true ∧ scanCod (t ++ C) ls = scanCod t ls ++ C := by
  have := wellTyped_frame [] C t ls h
  simpa [shiftLayers_zero] using this

theorem wellTyped_frame_left (A t : List W) (ls : Layers) (h : wellTyped t ls = true) :
    wellTyped (A ++ t) (shiftLayers A.length ls) = true ∧
      scanCod (A ++ t) (shiftLayers A.length ls) = A ++ scanCod t ls := by
  have := wellTyped_frame A [] t ls h
  simpa using this

/-! ### the operations -/

theorem D.WT_id (t : List W) : (D.id t).WT := by simp [D.WT, D.id, wellTyped, scanCod]

theorem D.WT_box (b : TBox) : (D.box b).WT := by
  have := applyBox_frame [] [] b
  simp only [List.nil_append, List.append_nil, List.length_nil] at this
  exact ⟨wellTyped_cons.mpr ⟨[], [], by simp [D.box], rfl, rfl⟩, by simp [D.box, scanCod, this]⟩

theorem D.WT_tensor {a b : D} (ha : a.WT) (hb : b.WT) : (a.tensor b).WT := by
  have h1 := wellTyped_frame_right b.dom a.dom a.layers ha.1
  have h2 := wellTyped_frame_left a.cod b.dom b.layers hb.1
  simp only [D.WT, D.tensor, wellTyped_append, scanCod_append, Bool.and_eq_true]
  rw [h1.2, ha.2]
  exact ⟨⟨h1.1, h2.1⟩, by rw [h2.2, hb.2]⟩

theorem D.then_ok {a b c : D} (h : a.then b = .ok c) :
    a.cod = b.dom ∧ c = ⟨a.dom, b.cod, a.layers ++ b.layers⟩ := by
  unfold D.then at h
  split at h
  · cases h; exact ⟨‹_›, rfl⟩
  · cases h

theorem D.WT_then {a b c : D} (ha : a.WT) (hb : b.WT) (h : a.then b = .ok c) : c.WT := by
  obtain ⟨e, rfl⟩ := D.then_ok h
  simp only [D.WT, wellTyped_append, scanCod_append, Bool.and_eq_true]
  rw [ha.2, e]
  exact ⟨⟨ha.1, hb.1⟩, hb.2⟩

theorem D.WT_tensorAll (ds : List D) (h : ∀ d ∈ ds, d.WT) : (D.tensorAll ds).WT := by
  unfold D.tensorAll
  suffices ∀ acc : D, acc.WT → (ds.foldl D.tensor acc).WT from this _ (D.WT_id [])
  induction ds with
  | nil => intro acc h; exact h
  | cons d ds ih =>
    intro acc hacc
    exact ih (fun d' hd' => h d' (by simp [hd'])) _ (D.WT_tensor hacc (h d (by simp)))

theorem foldl_tensor_dom_cod (ds : List D) (acc : D) :
    (ds.foldl D.tensor acc).dom = acc.dom ++ (ds.map (·.dom)).flatten ∧
      (ds.foldl D.tensor acc).cod = acc.cod ++ (ds.map (·.cod)).flatten := by
  induction ds generalizing acc with
  | nil => simp
  | cons d ds ih =>
    simp only [List.foldl_cons, List.map_cons, List.flatten_cons]
    rw [(ih _).1, (ih _).2]
    simp [D.tensor, List.append_assoc]

/-! ### swaps -/

def isSwapBox : TBox → Bool
  | .swap _ _ => true
  | _ => false

def allSwaps (ls : Layers) : Bool := ls.all fun l => isSwapBox l.1

theorem allSwaps_append (l1 l2 : Layers) : allSwaps (l1 ++ l2) = (allSwaps l1 && allSwaps l2) := by
  simp [allSwaps]

theorem allSwaps_shift (k : Nat) (ls : Layers) : allSwaps (shiftLayers k ls) = allSwaps ls := by
  simp [allSwaps, shiftLayers, List.all_map, Function.comp_def]

/-- One wire past a block. -/
theorem oneSwap_chain (l : W) (right pre : List W) (k : Nat) (hk : k = pre.length) :
    wellTyped (pre ++ l :: right) ((right.zipIdx k).map fun p => (TBox.swap l p.1, p.2)) = true ∧
      scanCod (pre ++ l :: right) ((right.zipIdx k).map fun p => (TBox.swap l p.1, p.2)) = pre ++ right ++ [l] := by
  induction right generalizing pre k with
  | nil => simp [wellTyped, scanCod]
  | cons r rs ih =>
    subst hk
    have e : pre ++ l :: r :: rs = pre ++ (TBox.swap l r).dom ++ rs := by simp [TBox.dom]
    have e2 : pre ++ (TBox.swap l r).cod ++ rs = (pre ++ [r]) ++ l :: rs := by simp [TBox.cod]
    have ih' := ih (pre ++ [r]) (pre.length + 1) (by simp)
    simp only [List.zipIdx_cons, List.map_cons]
    rw [e]
    refine ⟨wellTyped_cons.mpr ⟨_, _, rfl, rfl, e2 ▸ ih'.1⟩, ?_⟩
    simp only [scanCod, applyBox_frame]
    rw [e2, ih'.2]; simp

theorem oneSwap_WT (l : W) (right : List W) : (⟨l :: right, right ++ [l], oneSwap l right⟩ : D).WT := by
  have := oneSwap_chain l right [] 0 rfl
  simpa [D.WT, oneSwap] using this

theorem oneSwap_allSwaps (l : W) (right : List W) : allSwaps (oneSwap l right) = true := by
  simp [allSwaps, oneSwap, isSwapBox]

/-- `Id.swap(left, right)` is a chain of swaps from `left @ right` to `right @ left`. -/
theorem D.WT_swap (left right : List W) : (D.swap left right).WT ∧ allSwaps (D.swap left right).layers = true := by
  induction left with
  | nil => simp [D.swap, swapBoxes, D.WT, wellTyped, scanCod, allSwaps]
  | cons l tl ih =>
    obtain ⟨⟨ih1, ih2⟩, ih3⟩ := ih
    simp only [D.swap] at ih1 ih2 ih3
    have h1 := wellTyped_frame_left [l] (tl ++ right) (swapBoxes tl right) ih1
    have h2 := oneSwap_WT l right
    have h3 := wellTyped_frame_right tl (l :: right) (oneSwap l right) h2.1
    simp only [D.WT, D.swap, swapBoxes, wellTyped_append, scanCod_append, Bool.and_eq_true,
      allSwaps_append, allSwaps_shift, oneSwap_allSwaps, ih3]
    simp only [List.length_singleton, List.singleton_append] at h1
    have e : l :: tl ++ right = l :: (tl ++ right) := rfl
    rw [e, h1.2, ih2]
    have e2 : l :: (right ++ tl) = (l :: right) ++ tl := rfl
    rw [e2, h3.2, h2.2]
    exact ⟨⟨⟨h1.1, h3.1⟩, by simp⟩, trivial, trivial⟩

/-- `swaps[::-1]`: a chain of swaps read backwards, every swap daggered, leads back. -/
theorem daggerSwaps_chain (t : List W) (ls : Layers) (h : wellTyped t ls = true) (hs : allSwaps ls = true) :
    wellTyped (scanCod t ls) ((ls.map fun l => (daggerSwapBox l.1, l.2)).reverse) = true ∧
      scanCod (scanCod t ls) ((ls.map fun l => (daggerSwapBox l.1, l.2)).reverse) = t := by
  induction ls generalizing t with
  | nil => simp [wellTyped, scanCod]
  | cons l ls ih =>
    obtain ⟨b, off⟩ := l
    simp only [allSwaps, List.all_cons, Bool.and_eq_true] at hs
    obtain ⟨hb, hs⟩ := hs
    cases b with
    | swap x y =>
      obtain ⟨A, C, rfl, rfl, h2⟩ := wellTyped_cons.mp h
      have ih' := ih (A ++ (TBox.swap x y).cod ++ C) h2 hs
      rw [List.map_cons, List.reverse_cons, wellTyped_append, scanCod_append]
      simp only [scanCod, applyBox_frame]
      rw [ih'.1, ih'.2]
      -- the daggered swap has the codomain of the swap as its domain, and leads back
      exact ⟨by rw [Bool.true_and]; exact wellTyped_cons.mpr ⟨A, C, rfl, rfl, rfl⟩,
        applyBox_frame A C (.swap y x)⟩
    | _ => exact absurd hb (by simp [isSwapBox])

theorem D.WT_daggerSwaps {a : D} (ha : a.WT) (hs : allSwaps a.layers = true) : a.daggerSwaps.WT := by
  have := daggerSwaps_chain a.dom a.layers ha.1 hs
  rw [ha.2] at this
  exact this

/-! ### the pieces of `from_tk` -/

theorem framed_layers (A C : List W) (d : D) :
    (((D.id A).tensor d).tensor (D.id C)).layers = shiftLayers A.length d.layers ∧
      (((D.id A).tensor d).tensor (D.id C)).dom = A ++ d.dom ++ C ∧
      (((D.id A).tensor d).tensor (D.id C)).cod = A ++ d.cod ++ C := by
  simp [D.tensor, D.id, shiftLayers]

/-- `Id(A) @ Id.swap(left, right) @ Id(C)`: the shape of every swap diagram `from_tk` builds. -/
theorem framedSwap_WT (A C left right : List W) :
    (((D.id A).tensor (D.swap left right)).tensor (D.id C)).WT ∧
      allSwaps (((D.id A).tensor (D.swap left right)).tensor (D.id C)).layers = true := by
  obtain ⟨h1, h2⟩ := D.WT_swap left right
  exact ⟨D.WT_tensor (D.WT_tensor (D.WT_id _) h1) (D.WT_id _),
    by rw [(framed_layers _ _ _).1, allSwaps_shift]; exact h2⟩

theorem D.then_allSwaps {a b c : D} (h : a.then b = .ok c) (ha : allSwaps a.layers = true)
    (hb : allSwaps b.layers = true) : allSwaps c.layers = true := by
  obtain ⟨_, rfl⟩ := D.then_ok h
  simp [allSwaps_append, ha, hb]

theorem muaLoopT_WT (offset i : Nat) (rest : List Nat) (swaps : D) (r : Nat × D)
    (hw : swaps.WT) (hs : allSwaps swaps.layers = true) (h : muaLoopT offset i rest swaps = .ok r) :
    r.2.WT ∧ allSwaps r.2.layers = true ∧ r.2.dom = swaps.dom := by
  induction rest generalizing offset i swaps with
  | nil => simp only [muaLoopT] at h; cases h; exact ⟨hw, hs, rfl⟩
  | cons source rest ih =>
    simp only [muaLoopT] at h
    split at h
    · split at h
      · cases h
      · rename_i s hs'
        obtain ⟨m1, m2⟩ := framedSwap_WT _ _ _ _
        have := ih _ _ s (D.WT_then hw m1 hs') (D.then_allSwaps hs' hs m2) h
        exact ⟨this.1, this.2.1, by rw [this.2.2, (D.then_ok hs').2]⟩
    · split at h
      · split at h
        · cases h
        · rename_i s hs'
          obtain ⟨m1, m2⟩ := framedSwap_WT _ _ _ _
          have := ih _ _ s (D.WT_then hw m1 hs') (D.then_allSwaps hs' hs m2) h
          exact ⟨this.1, this.2.1, by rw [this.2.2, (D.then_ok hs').2]⟩
      · exact ih _ _ swaps hw hs h

theorem place_WT {circuit swaps : D} {box : TBox} {off : Nat} {d : D} (hc : circuit.WT) (hw : swaps.WT)
    (hs : allSwaps swaps.layers = true) (h : place circuit swaps box off = .ok d) :
    d.WT ∧ d.dom = circuit.dom ∧ d.cod = circuit.cod := by
  unfold place at h
  split at h
  · cases h
  · rename_i c1 h1
    split at h
    · cases h
    · rename_i c2 h2
      have w1 := D.WT_then hc hw h1
      have w2 := D.WT_then w1 (D.WT_tensor (D.WT_tensor (D.WT_id _) (D.WT_box _)) (D.WT_id _)) h2
      have w3 := D.WT_then w2 (D.WT_daggerSwaps hw hs) h
      obtain ⟨e1, rfl⟩ := D.then_ok h1
      obtain ⟨_, rfl⟩ := D.then_ok h2
      obtain ⟨_, rfl⟩ := D.then_ok h
      exact ⟨w3, rfl, e1.symm⟩

theorem stepCmd_WT {inp : TkIn} {acc acc' : Acc} {c : Cmd} (hc : acc.circuit.WT)
    (h : stepCmd inp acc c = .ok acc') :
    acc'.circuit.WT ∧ acc'.circuit.dom = acc.circuit.dom ∧ acc'.circuit.cod = acc.circuit.cod := by
  unfold stepCmd at h
  split at h
  · split at h
    · rename_i offset b _ _
      unfold stepMeasure at h
      split at h
      · cases h; exact ⟨hc, rfl, rfl⟩
      · split at h
        · cases h
        · rename_i d hd
          cases h
          obtain ⟨m1, m2⟩ := framedSwap_WT _ _ _ _
          exact place_WT hc m1 m2 hd
    · cases h
  · unfold stepGate at h
    split at h
    · cases h
    · rename_i box _
      split at h
      · cases h
      · rename_i r hr
        split at h
        · cases h
        · rename_i d hd
          cases h
          unfold makeUnitsAdjacentT at hr
          split at hr
          · cases hr
          · obtain ⟨m1, m2, _⟩ := muaLoopT_WT _ 0 _ (D.id inp.units) r (D.WT_id _) (by simp [D.id, allSwaps]) hr
            exact place_WT hc m1 m2 hd

theorem loopCmds_WT {inp : TkIn} (cmds : List Cmd) {acc acc' : Acc} (hc : acc.circuit.WT)
    (h : loopCmds inp acc cmds = .ok acc') :
    acc'.circuit.WT ∧ acc'.circuit.dom = acc.circuit.dom ∧ acc'.circuit.cod = acc.circuit.cod := by
  induction cmds generalizing acc with
  | nil => simp only [loopCmds] at h; cases h; exact ⟨hc, rfl, rfl⟩
  | cons c rest ih =>
    simp only [loopCmds] at h
    split at h
    · cases h
    · rename_i a1 h1
      obtain ⟨w, d, c'⟩ := stepCmd_WT hc h1
      obtain ⟨w2, d2, c2⟩ := ih w h
      exact ⟨w2, by rw [d2, d], by rw [c2, c']⟩

theorem initCircuit_WT (inp : TkIn) : (initCircuit inp).WT := by
  apply D.WT_tensorAll
  intro d hd
  simp only [List.mem_append, List.mem_replicate] at hd
  rcases hd with ⟨_, rfl⟩ | ⟨_, rfl⟩ <;> exact D.WT_box _

theorem finalLayer_WT (bras : PS) (cod : List W) : (finalLayer bras cod).WT := by
  apply D.WT_tensorAll
  intro d hd
  simp only [List.mem_map] at hd
  obtain ⟨p, _, rfl⟩ := hd
  unfold finalBox
  split
  · exact D.WT_box _
  · split
    · exact D.WT_box _
    · exact D.WT_id _

/-- The post-processing handed in is a well-typed classical circuit. -/
def PP.WT (pp : PP) : Prop := pp.toD.WT

theorem addScalar_WT {c : D} (b : Bool) (h : c.WT) : (addScalar b c).WT := by
  unfold addScalar
  split
  · exact D.WT_tensor h (D.WT_box _)
  · exact h

/-- **The imported circuit is well-typed**: whenever the model of `from_tk` returns a circuit,
    every box of it finds its domain at its offset, the scan ends in the recorded codomain, and the
    domain is empty. -/
theorem fromTk_WT {inp : TkIn} {d : D} (hpp : inp.pp.WT) (h : fromTk inp = .ok d) :
    d.WT ∧ d.dom = [] ∧ d.cod = List.replicate inp.pp.cod .b := by
  unfold fromTk at h
  split at h
  · cases h
  · rename_i c hbody
    unfold fromTkBody at hbody
    split at hbody
    · cases hbody
    · rename_i acc hacc
      have hc := hbody
      obtain ⟨w, hd, _⟩ := loopCmds_WT inp.cmds (initCircuit_WT inp) hacc
      have w1 := D.WT_then w (finalLayer_WT _ _) hc
      have w2 := D.WT_then (addScalar_WT inp.scaled w1) hpp h
      obtain ⟨_, rfl⟩ := D.then_ok hc
      obtain ⟨_, rfl⟩ := D.then_ok h
      refine ⟨w2, ?_, rfl⟩
      have hi : (initCircuit inp).dom = [] := by
        unfold initCircuit D.tensorAll
        rw [(foldl_tensor_dom_cod _ _).1, List.flatten_eq_nil_iff.mpr]
        · rfl
        · intro l hl
          simp only [List.mem_map, List.mem_append, List.mem_replicate] at hl
          obtain ⟨x, ⟨_, rfl⟩ | ⟨_, rfl⟩, rfl⟩ := hl <;> rfl
      unfold addScalar
      split
      · simp [D.tensor, hd, hi, D.box, TBox.dom]
      · exact hd.trans hi

end DV.Tk
