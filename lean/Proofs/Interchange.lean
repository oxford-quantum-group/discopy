/-
  Proofs/Interchange.lean — C05: `interchange` refines the textbook exchange relation,
  is sound in every SMC, never raises an axiom error on well-typed input, and is refused
  exactly when the two boxes obstruct each other.
-/
import Proofs.WFOps
import Proofs.SMC

namespace DV

/-! ### The specification: two disconnected boxes `f` (left) and `g` (right) -/

structure ExchData where
  l : Ty
  f : Box
  m : Ty
  g : Box
  r : Ty

/-- `f` first, then `g`. -/
def ExchData.fFirst (e : ExchData) : Layer × Layer :=
  (⟨e.l, e.f, e.m ++ e.g.dom ++ e.r⟩, ⟨e.l ++ e.f.cod ++ e.m, e.g, e.r⟩)
/-- `g` first, then `f`. -/
def ExchData.gFirst (e : ExchData) : Layer × Layer :=
  (⟨e.l ++ e.f.dom ++ e.m, e.g, e.r⟩, ⟨e.l, e.f, e.m ++ e.g.cod ++ e.r⟩)

/-- `ExchPair a b b' a'`: the stacked layers `a; b` and `b'; a'` are the two orders of the same
    pair of disconnected boxes. -/
def ExchPair (a b b' a' : Layer) : Prop :=
  ∃ e : ExchData, ((a, b) = e.fFirst ∧ (b', a') = e.gFirst) ∨ ((a, b) = e.gFirst ∧ (b', a') = e.fFirst)

/-- The textbook exchange relation: `d'` is `d` with layers `i, i+1` exchanged. -/
def Exch (d d' : Diagram) : Prop :=
  d'.dom = d.dom ∧ d'.cod = d.cod ∧
  ∃ pre post a b b' a', d.layers.boxes = pre ++ [a, b] ++ post ∧
    d'.layers.boxes = pre ++ [b', a'] ++ post ∧ ExchPair a b b' a'

/-! ### List splitting -/

theorem append_split {α} {a b c d : List α} (h : a ++ b = c ++ d) (hl : a.length ≤ c.length) :
    c = a ++ c.drop a.length ∧ b = c.drop a.length ++ d := by
  have hc : c.take a.length ++ (c.drop a.length ++ d) = c ++ d := by
    rw [← List.append_assoc, List.take_append_drop]
  obtain ⟨h1, h2⟩ := List.append_inj (h.trans hc.symm) (List.length_take_of_le hl).symm
  exact ⟨(List.take_append_drop a.length c).symm.trans (by rw [← h1]), h2⟩

/-! ### interchangeChoice produces an exchange pair -/

theorem interchangeChoice_exch {left : Bool} {off0 off1 o0 o1 : Int} {l0 l1 y0 y1 : Layer}
    (hc : l0.cod = l1.dom) (h0 : off0 = l0.left.length) (h1 : off1 = l1.left.length)
    (h : interchangeChoice left off0 off1 l0 l1 = .ok (o0, o1, y0, y1)) :
    ExchPair l0 l1 y1 y0 := by
  subst h0 h1
  obtain ⟨L0, B0, R0⟩ := l0
  obtain ⟨L1, B1, R1⟩ := l1
  simp only [Layer.cod, Layer.dom] at hc
  rcases interchangeChoice_ok h with ⟨hge, he⟩ | ⟨hge, he⟩
  · -- `B0` lies to the left: `L1 = L0 ++ B0.cod ++ M`, and `R0 = M ++ B1.dom ++ R1`
    rw [leftCase, Prod.mk.injEq, Prod.mk.injEq, Prod.mk.injEq] at he
    obtain ⟨-, -, rfl, rfl⟩ := he
    have hlen : (L0 ++ B0.cod).length ≤ L1.length := by
      simp only [List.length_append] at hge ⊢; omega
    obtain ⟨s1, s2⟩ := append_split (hc.trans (List.append_assoc L1 _ _)) hlen
    refine ⟨⟨L0, B0, L1.drop (L0 ++ B0.cod).length, B1, R1⟩, Or.inl ?_⟩
    simp only [ExchData.fFirst, ExchData.gFirst, pySlice_drop, Prod.mk.injEq, Layer.mk.injEq,
      List.append_assoc, true_and, and_true]
    exact ⟨s2, List.append_assoc L0 _ _ ▸ s1⟩
  · -- `B0` lies to the right: `L0 = L1 ++ B1.dom ++ M`, and `R1 = M ++ B0.cod ++ R0`
    rw [rightCase, Prod.mk.injEq, Prod.mk.injEq, Prod.mk.injEq] at he
    obtain ⟨-, -, rfl, rfl⟩ := he
    have hlen : (L1 ++ B1.dom).length ≤ L0.length := by
      simp only [List.length_append] at hge ⊢; omega
    obtain ⟨s1, s2⟩ := append_split (hc.symm.trans (List.append_assoc L0 _ _)) hlen
    refine ⟨⟨L1, B1, L0.drop (L1 ++ B1.dom).length, B0, R0⟩, Or.inr ?_⟩
    simp only [ExchData.fFirst, ExchData.gFirst, pySlice_drop, Prod.mk.injEq, Layer.mk.injEq,
      List.append_assoc, true_and, and_true]
    exact ⟨List.append_assoc L1 _ _ ▸ s1, s2⟩

/-- Typing of an exchange pair: both orders have the same outer types and compose. -/
theorem ExchPair.typing {a b b' a' : Layer} (h : ExchPair a b b' a') :
    a.cod = b.dom ∧ b'.cod = a'.dom ∧ b'.dom = a.dom ∧ a'.cod = b.cod := by
  obtain ⟨e, h | h⟩ := h
  all_goals
    simp only [ExchData.fFirst, ExchData.gFirst, Prod.mk.injEq] at h
    obtain ⟨⟨rfl, rfl⟩, rfl, rfl⟩ := h
    simp [Layer.dom, Layer.cod]

/-! ### `interchangeAdj` refines `Exch` -/

theorem list_split_pair {α} {xs : List α} {i : Nat} {a b : α}
    (ha : xs[i]? = some a) (hb : xs[i+1]? = some b) :
    xs = xs.take i ++ [a, b] ++ xs.drop (i + 2) := by
  obtain ⟨h1, rfl⟩ := List.getElem?_eq_some_iff.mp ha
  obtain ⟨h2, rfl⟩ := List.getElem?_eq_some_iff.mp hb
  rw [List.append_assoc, List.cons_append, List.cons_append, List.nil_append,
    ← List.drop_eq_getElem_cons h2, ← List.drop_eq_getElem_cons h1, List.take_append_drop]

theorem chain_adjacent {s c : Ty} {ls : List Layer} {i : Nat} {a b : Layer} (h : Chain s ls c)
    (ha : ls[i]? = some a) (hb : ls[i+1]? = some b) : a.cod = b.dom := by
  rw [list_split_pair ha hb] at h
  obtain ⟨_, h1, _⟩ := chain_append.mp h
  obtain ⟨_, _, _, h2, _⟩ := chain_append.mp h1
  exact h2

theorem pair_at {α} {p r : List α} {a b : α} {i : Nat} (hp : p.length = i) :
    (p ++ [a, b] ++ r)[i]? = some a ∧ (p ++ [a, b] ++ r)[i+1]? = some b ∧
      (p ++ [a, b] ++ r).take i = p ∧ (p ++ [a, b] ++ r).drop (i + 2) = r := by
  subst hp
  simp

theorem Diagram.interchangeAdj_refines {d d' : Diagram} {i : Nat} {left : Bool} (hd : d.WF)
    (h : d.interchangeAdj i left = .ok d') : Exch d d' := by
  obtain ⟨l0, l1, y0, y1, _, _, s⟩ := Diagram.interchangeAdj_ok hd h
  exact ⟨s.dom, s.cod, _, _, l0, l1, y1, y0, list_split_pair s.at0 s.at1, s.layers,
    interchangeChoice_exch (chain_adjacent hd.chain s.at0 s.at1) rfl rfl s.choice⟩

/-! ### Soundness in every SMC -/

section
variable {O M : Type} {C : SMC O M} (F : MFunctor C)

theorem MFunctor.foldl_typing {s c : Ty} {ls : List Layer} (X : M) (hX : C.cod X = F.ty s)
    (h : Chain s ls c) :
    C.dom (ls.foldl (fun acc l => C.comp acc (F.layer l)) X) = C.dom X ∧
    C.cod (ls.foldl (fun acc l => C.comp acc (F.layer l)) X) = F.ty c := by
  induction ls generalizing s X with
  | nil => simp [Chain] at h; subst h; exact ⟨rfl, hX⟩
  | cons x xs ih =>
    have hcomp : C.cod X = C.dom (F.layer x) := by rw [hX, F.dom_layer, h.1]
    have := ih (C.comp X (F.layer x)) (by rw [C.cod_comp _ _ hcomp, F.cod_layer]) h.2
    simp only [List.foldl_cons]
    exact ⟨this.1.trans (C.dom_comp _ _ hcomp), this.2⟩

theorem MFunctor.layers_typing {s c : Ty} {ls : List Layer} (h : Chain s ls c) :
    C.dom (F.layers s ls) = F.ty s ∧ C.cod (F.layers s ls) = F.ty c := by
  have := F.foldl_typing (C.id (F.ty s)) (C.cod_id _) h
  exact ⟨this.1.trans (C.dom_id _), this.2⟩

theorem MFunctor.layers_append (s : Ty) (xs ys : List Layer) :
    F.layers s (xs ++ ys) = ys.foldl (fun acc l => C.comp acc (F.layer l)) (F.layers s xs) := by
  simp [MFunctor.layers, List.foldl_append]

theorem ExchPair.sound {a b b' a' : Layer} (h : ExchPair a b b' a') :
    C.comp (F.layer a) (F.layer b) = C.comp (F.layer b') (F.layer a') := by
  obtain ⟨e, h | h⟩ := h
  all_goals
    simp only [ExchData.fFirst, ExchData.gFirst, Prod.mk.injEq] at h
    obtain ⟨⟨rfl, rfl⟩, rfl, rfl⟩ := h
  · exact F.layer_exchange e.l e.m e.r e.f e.g
  · exact (F.layer_exchange e.l e.m e.r e.f e.g).symm

/-- Exchanging two disconnected layers does not change the denotation. -/
theorem Exch.sound {d d' : Diagram} (hd : d.WF) (h : Exch d d') : F.eval d' = F.eval d := by
  -- both denotations are `⟦pre⟧ ; ⟦·⟧ ; ⟦·⟧` folded on through `post`: reassociate so that the
  -- exchanged pair stands alone, where `ExchPair.sound` applies; the typing facts are the side
  -- conditions of associativity
  obtain ⟨hdom, _, pre, post, a, b, b', a', e1, e2, hp⟩ := h
  obtain ⟨t1, t2, t3, _⟩ := hp.typing
  have hchain : Chain d.dom (pre ++ [a, b] ++ post) d.cod := e1 ▸ hd.chain'
  obtain ⟨m2, hc1, _⟩ := chain_append.mp hchain
  obtain ⟨m, hpre, hab⟩ := chain_append.mp hc1
  have hma : m = a.dom := hab.1
  obtain ⟨_, hX⟩ := F.layers_typing hpre
  unfold MFunctor.eval
  rw [e1, e2, hdom, F.layers_append, F.layers_append, F.layers_append, F.layers_append]
  congr 1
  simp only [List.foldl_cons, List.foldl_nil]
  rw [C.comp_assoc _ _ _ (by rw [hX, F.dom_layer, hma, t3]) (by rw [F.cod_layer, F.dom_layer, t2]),
      C.comp_assoc _ _ _ (by rw [hX, F.dom_layer, hma]) (by rw [F.cod_layer, F.dom_layer, t1]),
      hp.sound F]

theorem interchangePath_sound {left : Bool} {ks : List Nat} {d d' : Diagram} (hd : d.WF)
    (h : interchangePath left ks d = .ok d') : F.eval d' = F.eval d := by
  induction ks generalizing d with
  | nil => cases h; rfl
  | cons k ks ih =>
    obtain ⟨d1, hd1, h⟩ := ok_of_bind h
    rw [ih (Diagram.interchangeAdj_wf hd hd1).1 h, (Diagram.interchangeAdj_refines hd hd1).sound F hd]

/-- C05 soundness: for all `(i, j)`, both preferences, the result denotes the same morphism
    under every monoidal functor into every (partial strict) monoidal algebra. -/
theorem Diagram.interchange_sound {d d' : Diagram} {i j : Int} {left : Bool} (hd : d.WF)
    (h : d.interchange i j left = .ok d') : F.eval d' = F.eval d := by
  rw [Diagram.interchange_eq_path] at h
  split at h
  · cases h
  · exact interchangePath_sound F hd h

end

/-! ### Totality: on well-typed input the run-time `>>` checks never fire -/

theorem Diagram.splice_total {d : Diagram} {i : Nat} {o0 o1 : Int} {y0 y1 l0 l1 : Layer}
    (hd : d.WF) (e2 : d.layers.boxes[i]? = some l0) (e3 : d.layers.boxes[i+1]? = some l1)
    (t1 : y1.dom = l0.dom) (t2 : y1.cod = y0.dom) (t3 : y0.cod = l1.cod) :
    ∃ d', d.splice i o0 o1 y0 y1 = .ok d' := by
  have hlen : i + 1 < d.layers.boxes.length := (List.getElem?_eq_some_iff.mp e3).1
  -- the types at depth `i` and `i + 2`
  have hch := hd.chain
  rw [LArrow.WF, list_split_pair e2 e3] at hch
  obtain ⟨m2, hc1, hc2⟩ := chain_append.mp hch
  obtain ⟨m1, hc0, hm1, -, hm2⟩ := chain_append.mp hc1
  have p := LArrow.slice_prefix_spec hd.chain i (m := m1)
    (by rwa [pyIdx_nat, Nat.min_eq_left (by omega)])
  have q := LArrow.slice_suffix_spec hd.chain ((i + 2 : Nat) : Int) (m := m2)
    (by rwa [pyIdx_nat, Nat.min_eq_left (by omega)])
  -- with both slices known, the three junctions `>>` checks are `m1 = y1.dom`, `y1.cod = y0.dom`,
  -- `y0.cod = m2`, which the hypotheses make true
  simp only [Diagram.splice, p, q, LArrow.thenLayer, LArrow.then, Layer.arrow, hm1, t1, t2, t3,
    show l1.cod = m2 from hm2, ne_eq, not_true_eq_false, if_false]
  exact ⟨_, rfl⟩

/-- Two adjacent boxes are *free* (can be exchanged in the plane) when one lies entirely to the
    side of the other: the output span of the upper box and the input span of the lower box do
    not overlap.  For boxes with at least one output resp. input wire this is "they share no wire". -/
def freeAt (d : Diagram) (i : Nat) : Prop :=
  ∃ off0 off1 b0 b1, d.offsets[i]? = some off0 ∧ d.offsets[i+1]? = some off1 ∧
    d.boxes[i]? = some b0 ∧ d.boxes[i+1]? = some b1 ∧
    (off0 ≥ off1 + b1.dom.length ∨ off1 ≥ off0 + b0.cod.length)

theorem interchangeChoice_ok_iff {left : Bool} {off0 off1 : Int} {l0 l1 : Layer} :
    (∃ r, interchangeChoice left off0 off1 l0 l1 = .ok r) ↔
      (off0 ≥ off1 + l1.box.dom.length ∨ off1 ≥ off0 + l0.box.cod.length) := by
  constructor
  · rintro ⟨r, h⟩
    exact (interchangeChoice_ok h).elim (fun h => .inr h.1) (fun h => .inl h.1)
  · intro h
    rw [interchangeChoice]
    by_cases c1 : (left && decide (off1 ≥ off0 + l0.box.cod.length)) = true
    · exact ⟨_, if_pos c1⟩
    · rw [if_neg c1]
      by_cases hR : off0 ≥ off1 + l1.box.dom.length
      · exact ⟨_, if_pos hR⟩
      · rw [if_neg hR]
        exact ⟨_, if_pos (h.resolve_left hR)⟩

theorem interchangeChoice_err {left : Bool} {off0 off1 : Int} {l0 l1 : Layer}
    (h : ¬ (off0 ≥ off1 + l1.box.dom.length ∨ off1 ≥ off0 + l0.box.cod.length)) :
    interchangeChoice left off0 off1 l0 l1 = .error .interchanger := by
  obtain ⟨hR, hL⟩ := not_or.mp h
  have c1 : ¬ (left && decide (off1 ≥ off0 + l0.box.cod.length)) = true := by
    rw [Bool.and_eq_true, decide_eq_true_eq]
    exact fun c => hL c.2
  rw [interchangeChoice, if_neg c1, if_neg hR, if_neg hL]

theorem freeAt_iff {d : Diagram} {i : Nat} {l0 l1 : Layer} (hd : d.WF)
    (e2 : d.layers.boxes[i]? = some l0) (e3 : d.layers.boxes[i+1]? = some l1) :
    freeAt d i ↔ ((l0.left.length : Int) ≥ l1.left.length + l1.box.dom.length ∨
      (l1.left.length : Int) ≥ l0.left.length + l0.box.cod.length) := by
  obtain ⟨o0, b0⟩ := hd.fields_at e2
  obtain ⟨o1, b1⟩ := hd.fields_at e3
  constructor
  · rintro ⟨_, _, _, _, h0, h1, h2, h3, h⟩
    cases o0.symm.trans h0; cases o1.symm.trans h1; cases b0.symm.trans h2; cases b1.symm.trans h3
    exact h
  · exact fun h => ⟨_, _, _, _, o0, o1, b0, b1, h⟩

/-- Adjacent interchange on a well-typed diagram: succeeds iff the boxes are free, and is refused
    with an interchanger error (never an axiom error) otherwise. -/
theorem Diagram.interchangeAdj_ok_iff {d : Diagram} {i : Nat} {left : Bool} (hd : d.WF)
    (hi : i + 1 < d.boxes.length) :
    ((∃ d', d.interchangeAdj i left = .ok d') ↔ freeAt d i) ∧
    (¬ freeAt d i → d.interchangeAdj i left = .error .interchanger) := by
  have hlen : i + 1 < d.layers.boxes.length := by rwa [hd.boxes, List.length_map] at hi
  have e2 := List.getElem?_eq_getElem (Nat.lt_of_succ_lt hlen)
  have e3 := List.getElem?_eq_getElem hlen
  have hfree := freeAt_iff hd e2 e3
  rw [Diagram.interchangeAdj_eq hd e2 e3]
  refine ⟨⟨?_, ?_⟩, ?_⟩
  · rintro ⟨d', h⟩
    split at h
    · cases h
    · rename_i hch; exact hfree.mpr (interchangeChoice_ok_iff.mp ⟨_, hch⟩)
  · intro hf
    obtain ⟨⟨o0, o1, y0, y1⟩, hch⟩ := (interchangeChoice_ok_iff (left := left)).mpr (hfree.mp hf)
    obtain ⟨-, t2, t3, t4⟩ :=
      (interchangeChoice_exch (chain_adjacent hd.chain e2 e3) rfl rfl hch).typing
    rw [hch]
    exact Diagram.splice_total hd e2 e3 t3 t2 t4
  · intro hf
    rw [interchangeChoice_err (mt hfree.mpr hf)]

/-! ### The boxes: one adjacent transposition per step -/

theorem Diagram.interchangeAdj_boxes {d d' : Diagram} {i : Nat} {left : Bool} (hd : d.WF)
    (h : d.interchangeAdj i left = .ok d') :
    ∃ b0 b1, d.boxes[i]? = some b0 ∧ d.boxes[i+1]? = some b1 ∧
      d'.boxes = d.boxes.take i ++ [b1, b0] ++ d.boxes.drop (i + 2) := by
  obtain ⟨l0, l1, y0, y1, _, _, s⟩ := Diagram.interchangeAdj_ok hd h
  obtain ⟨_, _, hb0, hb1⟩ := interchangeChoice_offsets rfl rfl s.choice
  refine ⟨l0.box, l1.box, (hd.fields_at s.at0).2, (hd.fields_at s.at1).2, ?_⟩
  rw [s.wf.boxes, s.layers, hd.boxes]
  simp [List.map_take, List.map_drop, hb0, hb1]

theorem Diagram.interchangeAdj_perm {d d' : Diagram} {i : Nat} {left : Bool} (hd : d.WF)
    (h : d.interchangeAdj i left = .ok d') : d'.boxes.Perm d.boxes := by
  obtain ⟨b0, b1, e0, e1, hb⟩ := Diagram.interchangeAdj_boxes hd h
  have hs := list_split_pair e0 e1
  rw [hb]
  conv => rhs; rw [hs]
  refine List.Perm.append_right _ (List.Perm.append_left _ ?_)
  exact List.Perm.swap b0 b1 []

theorem interchangePath_perm {left : Bool} {ks : List Nat} {d d' : Diagram} (hd : d.WF)
    (h : interchangePath left ks d = .ok d') : d'.boxes.Perm d.boxes := by
  induction ks generalizing d with
  | nil => cases h; exact List.Perm.refl _
  | cons k ks ih =>
    obtain ⟨d1, hd1, h⟩ := ok_of_bind h
    exact (ih (Diagram.interchangeAdj_wf hd hd1).1 h).trans (Diagram.interchangeAdj_perm hd hd1)

theorem Diagram.interchange_perm {d d' : Diagram} {i j : Int} {left : Bool} (hd : d.WF)
    (h : d.interchange i j left = .ok d') : d'.boxes.Perm d.boxes := by
  rw [Diagram.interchange_eq_path] at h
  split at h
  · cases h
  · exact interchangePath_perm hd h

/-- In-range adjacent steps end in success or an interchanger error, nothing else. -/
theorem Diagram.interchangeAdj_cases {d : Diagram} {i : Nat} {left : Bool} (hd : d.WF)
    (hi : i + 1 < d.boxes.length) :
    (∃ d', d.interchangeAdj i left = .ok d') ∨ d.interchangeAdj i left = .error .interchanger := by
  obtain ⟨h1, h2⟩ := Diagram.interchangeAdj_ok_iff (left := left) hd hi
  by_cases hf : freeAt d i
  · exact Or.inl (h1.mpr hf)
  · exact Or.inr (h2 hf)

theorem interchangePath_cases {left : Bool} {ks : List Nat} {d : Diagram} (hd : d.WF)
    (hks : ∀ k ∈ ks, k + 1 < d.boxes.length) :
    (∃ d', interchangePath left ks d = .ok d') ∨ interchangePath left ks d = .error .interchanger := by
  induction ks generalizing d with
  | nil => exact Or.inl ⟨d, rfl⟩
  | cons k ks ih =>
    rw [interchangePath]
    rcases Diagram.interchangeAdj_cases (left := left) hd (hks k List.mem_cons_self) with ⟨d1, h1⟩ | h1
    · rw [h1]
      refine ih (Diagram.interchangeAdj_wf hd h1).1 fun k' hk' => ?_
      rw [(Diagram.interchangeAdj_perm hd h1).length_eq]
      exact hks k' (List.mem_cons_of_mem _ hk')
    · rw [h1]; exact Or.inr rfl

/-- With both indices in range, `interchange` on a well-typed diagram ends in a diagram or in an
    interchanger error: the run-time `>>` on layers never raises an axiom error.  (Out of range it
    is an index error, `interchange_index_iff`.) -/
theorem Diagram.interchange_cases {d : Diagram} {i j : Int} {left : Bool} (hd : d.WF)
    (hr : (0 ≤ i ∧ i < (d.boxes.length : Int)) ∧ (0 ≤ j ∧ j < (d.boxes.length : Int))) :
    (∃ d', d.interchange i j left = .ok d') ∨ d.interchange i j left = .error .interchanger := by
  rw [Diagram.interchange_eq_path, if_neg (not_or.mpr ⟨not_not_intro hr.1, not_not_intro hr.2⟩)]
  exact interchangePath_cases hd fun k hk =>
    mem_movePath ((Int.toNat_lt hr.1.1).mpr hr.1.2) ((Int.toNat_lt hr.2.1).mpr hr.2.2) hk

/-- Out-of-range indices are refused with an index error, and only they. -/
theorem Diagram.interchange_index_iff {d : Diagram} {i j : Int} {left : Bool} (hd : d.WF) :
    d.interchange i j left = .error .index ↔
      ¬ (0 ≤ i ∧ i < (d.boxes.length : Int)) ∨ ¬ (0 ≤ j ∧ j < (d.boxes.length : Int)) := by
  constructor
  · intro h
    refine Decidable.by_contra fun hn => ?_
    have hr := not_or.mp hn
    rcases Diagram.interchange_cases (left := left) hd
      ⟨Decidable.not_not.mp hr.1, Decidable.not_not.mp hr.2⟩ with ⟨d', h'⟩ | h'
    · rw [h'] at h; cases h
    · rw [h'] at h; cases h
  · intro h
    rw [Diagram.interchange_eq_path, if_pos h]

end DV
