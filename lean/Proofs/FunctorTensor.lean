/-
  Proofs/FunctorTensor.lean — C04: the image of a well-typed diagram is the fold (`foldT`) of the images
  of its layers (`Functor.Imgs`); typing and `F(a @ b) = F(a) @ F(b)` (as an equality of all five fields)
  are read off that form.  `F(a >> b) = F(a) >> F(b)` (`Functor.apply_then`) is not: it asks `okOn` of
  the boxes of `a` only, so nothing is known about the layer images of `b`; it runs the loop over
  `a.boxes ++ b.boxes` with the algebra of Proofs/Functor.lean instead.
-/
import Proofs.Functor

namespace DV

/-! ### Structural laws of the closed forms -/

theorem tensorD_id_id (s t : Ty) : (Diagram.id s).tensorD (Diagram.id t) = Diagram.id (s ++ t) := by
  simp [Diagram.tensorD, Diagram.id, LArrow.id]

theorem thenD_tensorD_id (res lay : Diagram) (t : Ty) :
    (res.thenD lay).tensorD (Diagram.id t) =
      (res.tensorD (Diagram.id t)).thenD (lay.tensorD (Diagram.id t)) := by
  simp [Diagram.tensorD, Diagram.thenD, Diagram.id, LArrow.id]

theorem id_tensorD_thenD (t : Ty) (res lay : Diagram) :
    (Diagram.id t).tensorD (res.thenD lay) =
      ((Diagram.id t).tensorD res).thenD ((Diagram.id t).tensorD lay) := by
  simp [Diagram.tensorD, Diagram.thenD, Diagram.id, LArrow.id]

/-- The layer diagram `Id(l) @ x @ Id(r)` in closed form. -/
def layerD (l : Ty) (x : Diagram) (r : Ty) : Diagram :=
  ((Diagram.id l).tensorD x).tensorD (Diagram.id r)

theorem layerD_wf {l r : Ty} {x : Diagram} (hx : x.WF) : (layerD l x r).WF :=
  Diagram.tensorD_wf (Diagram.tensorD_wf (Diagram.id_wf l) hx) (Diagram.id_wf r)

theorem layerD_whiskR (l r t : Ty) (x : Diagram) :
    (layerD l x r).tensorD (Diagram.id t) = layerD l x (r ++ t) := by
  unfold layerD
  rw [Diagram.tensorD_assoc, tensorD_id_id]

theorem layerD_whiskL (u l r : Ty) (x : Diagram) :
    (Diagram.id u).tensorD (layerD l x r) = layerD (u ++ l) x r := by
  unfold layerD
  rw [← Diagram.tensorD_assoc, ← Diagram.tensorD_assoc, tensorD_id_id]

/-- The fit of boxes/offsets to a scan, as a chain of layers: the shape in which `Diagram.WF` relates
    `boxes` and `offsets` to `dom` and `cod`. -/
def Fits (scan : Ty) (bs : List Box) (os : List Int) (c : Ty) : Prop :=
  ∃ ls : List Layer, Chain scan ls c ∧ ls.map (·.box) = bs ∧
    ls.map (fun l => (l.left.length : Int)) = os

/-- `L` is the image of the layer `l`: `Id(F left) @ F(box) @ Id(F right)`. -/
def Functor.Img (F : Functor) (l : Layer) (L : Diagram) : Prop :=
  ∃ lt rt x, F.ty l.left = .ok lt ∧ F.ty l.right = .ok rt ∧ F.box l.box = .ok x ∧ x.WF ∧
    F.ty l.box.dom = .ok x.dom ∧ F.ty l.box.cod = .ok x.cod ∧ L = layerD lt x rt

inductive Functor.Imgs (F : Functor) : List Layer → List Diagram → Prop
  | nil : Functor.Imgs F [] []
  | cons {l ls L Ls} : F.Img l L → Functor.Imgs F ls Ls → Functor.Imgs F (l :: ls) (L :: Ls)

theorem Functor.Img.props {F : Functor} {l : Layer} {L : Diagram} (h : F.Img l L) :
    L.WF ∧ F.ty l.dom = .ok L.dom ∧ F.ty l.cod = .ok L.cod := by
  obtain ⟨lt, rt, x, h1, h2, _, xw, xd, xc, rfl⟩ := h
  refine ⟨layerD_wf xw, ?_, ?_⟩
  · have := F.ty_append (F.ty_append h1 xd) h2
    simpa [Layer.dom, layerD, Diagram.tensorD, Diagram.id] using this
  · have := F.ty_append (F.ty_append h1 xc) h2
    simpa [Layer.cod, layerD, Diagram.tensorD, Diagram.id] using this

def foldT (res : Diagram) (Ls : List Diagram) : Diagram := Ls.foldl Diagram.thenD res

/-- One step of the loop on a layer read off the scan, inverted. -/
theorem Functor.stepBox_layer (F : Functor) {l : Layer} {scan' : Ty} {result res : Diagram}
    (hr : result.WF) (hb : F.okOn l.box) (hty : F.ty l.dom = .ok result.cod)
    (h : F.stepBox l.dom result l.box l.left.length = .ok (scan', res)) :
    scan' = l.cod ∧ ∃ L, F.Img l L ∧ result.cod = L.dom ∧ res = result.thenD L := by
  unfold Functor.stepBox at h
  rw [Layer.slice_left, Layer.slice_right] at h
  split at h
  · rename_i lt rt x hl hrr hx
    obtain ⟨xw, xd, xc⟩ := hb x hx
    have hi : F.Img l (layerD lt x rt) := ⟨lt, rt, x, hl, hrr, hx, xw, xd, xc, rfl⟩
    obtain ⟨Lw, Ld, _⟩ := hi.props
    have hcomp : result.cod = (layerD lt x rt).dom := by rw [hty] at Ld; exact Except.ok.inj Ld
    rw [Diagram.tensor_eq_tensorD (Diagram.id_wf lt) xw] at h
    simp only at h
    rw [Diagram.tensor_eq_tensorD (Diagram.tensorD_wf (Diagram.id_wf lt) xw) (Diagram.id_wf rt)] at h
    simp only at h
    rw [show ((Diagram.id lt).tensorD x).tensorD (Diagram.id rt) = layerD lt x rt from rfl,
      Diagram.then_spec hr Lw hcomp] at h
    simp only [Except.ok.injEq, Prod.mk.injEq] at h
    exact ⟨h.1.symm, _, hi, hcomp, h.2.symm⟩
  all_goals cases h

theorem Functor.stepBox_of_img (F : Functor) {l : Layer} {L result : Diagram} (hr : result.WF)
    (hty : F.ty l.dom = .ok result.cod) (hi : F.Img l L) :
    F.stepBox l.dom result l.box l.left.length = .ok (l.cod, result.thenD L) := by
  obtain ⟨Lw, Ld, _⟩ := hi.props
  have hcomp : result.cod = L.dom := by rw [hty] at Ld; exact Except.ok.inj Ld
  obtain ⟨lt, rt, x, hl, hrr, hx, xw, _, _, rfl⟩ := hi
  unfold Functor.stepBox
  rw [Layer.slice_left, Layer.slice_right]
  simp only [hl, hrr, hx]
  rw [Diagram.tensor_eq_tensorD (Diagram.id_wf lt) xw]
  simp only
  rw [Diagram.tensor_eq_tensorD (Diagram.tensorD_wf (Diagram.id_wf lt) xw) (Diagram.id_wf rt)]
  simp only
  rw [show ((Diagram.id lt).tensorD x).tensorD (Diagram.id rt) = layerD lt x rt from rfl,
    Diagram.then_spec hr Lw hcomp]
  rfl

/-- Forward: a successful loop is the fold of the layer images. -/
theorem Functor.loop_fold (F : Functor) {scan c : Ty} {res r : Diagram} {ls : List Layer}
    (hch : Chain scan ls c) (hres : res.WF) (hty : F.ty scan = .ok res.cod)
    (hok : ∀ l ∈ ls, F.okOn l.box)
    (h : F.loop scan res (ls.map (·.box)) (ls.map (fun l => (l.left.length : Int))) = .ok r) :
    ∃ Ls, F.Imgs ls Ls ∧ r = foldT res Ls := by
  induction ls generalizing scan res with
  | nil => simp only [List.map_nil, Functor.loop, Except.ok.injEq] at h; exact ⟨[], .nil, h.symm⟩
  | cons l ls ih =>
    obtain ⟨rfl, hc⟩ := hch
    simp only [List.map_cons, Functor.loop] at h
    split at h
    · cases h
    · rename_i scan' res' hstep
      obtain ⟨rfl, L, hi, hcomp, rfl⟩ :=
        F.stepBox_layer hres (hok l (List.mem_cons_self ..)) hty hstep
      obtain ⟨Lw, _, Lc⟩ := hi.props
      obtain ⟨Ls, his, hr⟩ := ih hc (Diagram.thenD_wf hres Lw hcomp) Lc
        (fun l' hl' => hok l' (List.mem_cons_of_mem _ hl')) h
      exact ⟨L :: Ls, .cons hi his, hr⟩

/-- Backward: given the layer images and a running result of the right type, the loop succeeds
    with their fold. -/
theorem Functor.loop_of_fold (F : Functor) {scan c : Ty} {res : Diagram} {ls : List Layer}
    {Ls : List Diagram} (hch : Chain scan ls c) (hres : res.WF) (hty : F.ty scan = .ok res.cod)
    (hi : F.Imgs ls Ls) :
    F.loop scan res (ls.map (·.box)) (ls.map (fun l => (l.left.length : Int))) = .ok (foldT res Ls) := by
  induction hi generalizing scan res with
  | nil => rfl
  | @cons l ls L Ls himg _ ih =>
    obtain ⟨rfl, hc⟩ := hch
    obtain ⟨Lw, Ld, Lc⟩ := himg.props
    have hcomp : res.cod = L.dom := by rw [hty] at Ld; exact Except.ok.inj Ld
    simp only [List.map_cons, Functor.loop, F.stepBox_of_img hres hty himg]
    exact ih hc (Diagram.thenD_wf hres Lw hcomp) Lc

theorem Functor.Imgs.foldT_props {F : Functor} {scan c : Ty} {ls : List Layer} {Ls : List Diagram}
    {res : Diagram} (hch : Chain scan ls c) (hres : res.WF) (hty : F.ty scan = .ok res.cod)
    (h : F.Imgs ls Ls) :
    (foldT res Ls).WF ∧ (foldT res Ls).dom = res.dom ∧ F.ty c = .ok (foldT res Ls).cod := by
  induction h generalizing scan res with
  | nil => simp [Chain] at hch; subst hch; exact ⟨hres, rfl, hty⟩
  | @cons l ls L Ls himg _ ih =>
    obtain ⟨hs, hc⟩ := hch
    subst hs
    obtain ⟨Lw, Ld, Lc⟩ := himg.props
    have hcomp : res.cod = L.dom := by rw [hty] at Ld; exact Except.ok.inj Ld
    have hw' : (res.thenD L).WF := Diagram.thenD_wf hres Lw hcomp
    have := ih (scan := l.cod) (res := res.thenD L) hc hw' (by simpa [Diagram.thenD] using Lc)
    exact this

/-- The image of a well-typed diagram, when it exists, is the fold of the images of its layers … -/
theorem Functor.apply_fold (F : Functor) {d r : Diagram} (hd : d.WF)
    (hb : ∀ b ∈ d.boxes, F.okOn b) (h : F.apply d = .ok r) :
    ∃ t Ls, F.ty d.dom = .ok t ∧ F.Imgs d.layers.boxes Ls ∧ r = foldT (Diagram.id t) Ls := by
  unfold Functor.apply at h
  split at h
  · cases h
  · rename_i t ht
    rw [hd.boxes, hd.offsets] at h
    obtain ⟨Ls, hi, hr⟩ := F.loop_fold hd.chain' (Diagram.id_wf t) ht
      (fun l hl => hb l.box (by rw [hd.boxes]; exact List.mem_map_of_mem hl)) h
    exact ⟨t, Ls, ht, hi, hr⟩

/-- … and conversely. -/
theorem Functor.apply_of_imgs (F : Functor) {d : Diagram} {t : Ty} {Ls : List Diagram} (hd : d.WF)
    (ht : F.ty d.dom = .ok t) (hi : F.Imgs d.layers.boxes Ls) :
    F.apply d = .ok (foldT (Diagram.id t) Ls) := by
  unfold Functor.apply
  rw [ht, hd.boxes, hd.offsets]
  exact F.loop_of_fold hd.chain' (Diagram.id_wf t) ht hi

theorem Functor.apply_props (F : Functor) {d r : Diagram} (hd : d.WF)
    (hb : ∀ b ∈ d.boxes, F.okOn b) (h : F.apply d = .ok r) :
    r.WF ∧ F.ty d.dom = .ok r.dom ∧ F.ty d.cod = .ok r.cod := by
  obtain ⟨t, Ls, ht, hi, rfl⟩ := F.apply_fold hd hb h
  obtain ⟨w, hdom, hcod⟩ := hi.foldT_props hd.chain' (Diagram.id_wf t) ht
  exact ⟨w, by rw [hdom]; exact ht, hcod⟩

/-- C04: the image of a composite is the composite of the images.  Only the boxes of `a` are
    assumed well-typed under `F`, so the fold form is not available for `b`: the loop over
    `a.boxes ++ b.boxes` is split (`loop_append'`) and its second half re-based on `fa` (`loop_acc`). -/
theorem Functor.apply_then (F : Functor) {a b ab fa fb : Diagram} (ha : a.WF) (hb : b.WF)
    (hok : ∀ bx ∈ a.boxes, F.okOn bx)
    (hab : a.then b = .ok ab) (hfa : F.apply a = .ok fa) (hfb : F.apply b = .ok fb) :
    ∃ r, fa.then fb = .ok r ∧ F.apply ab = .ok r := by
  obtain ⟨faw, _, facod⟩ := F.apply_props ha hok hfa
  obtain ⟨hc, rfl⟩ := Diagram.then_ok' hab
  have hcod : a.cod = b.dom := by rw [← ha.lcod, ← hb.ldom]; exact hc
  unfold Functor.apply at hfa hfb ⊢
  split at hfa
  · cases hfa
  · rename_i ta hta
    split at hfb
    · cases hfb
    · rename_i tb htb
      simp only [Diagram.thenD, hta]
      have htb' : tb = fa.cod := by
        rw [hcod, htb] at facod; exact (Except.ok.inj facod)
      have hid : fa.then (Diagram.id tb) = .ok fa := htb' ▸ Diagram.then_id faw
      obtain ⟨q', hq1, hq2⟩ := F.loop_acc hid hfb
      refine ⟨q', hq2, ?_⟩
      have hlen : a.boxes.length = a.offsets.length := by rw [ha.boxes, ha.offsets]; simp
      apply F.loop_append' hlen hfa
      have : scanAfter a.dom a.boxes a.offsets = b.dom := by
        rw [ha.boxes, ha.offsets, ← hcod]
        exact scanAfter_chain ha.chain'
      rw [this]; exact hq1

theorem foldT_thenD (a b : Diagram) (Ms : List Diagram) :
    foldT (a.thenD b) Ms = a.thenD (foldT b Ms) := by
  induction Ms generalizing b with
  | nil => rfl
  | cons M Ms ih =>
    show foldT ((a.thenD b).thenD M) Ms = a.thenD (foldT (b.thenD M) Ms)
    rw [Diagram.thenD_assoc, ih]

theorem foldT_app (res : Diagram) (As Bs : List Diagram) :
    foldT res (As ++ Bs) = foldT (foldT res As) Bs := by simp [foldT, List.foldl_append]

/-- Continue a fold from a well-typed running result = compose with the fold from the identity. -/
theorem foldT_from {res : Diagram} (hres : res.WF) (Ms : List Diagram) :
    foldT res Ms = res.thenD (foldT (Diagram.id res.cod) Ms) := by
  rw [← foldT_thenD, Diagram.thenD_id hres rfl]

theorem foldT_tensorD_id (res : Diagram) (Ls : List Diagram) (t : Ty) :
    foldT (res.tensorD (Diagram.id t)) (Ls.map (·.tensorD (Diagram.id t))) =
      (foldT res Ls).tensorD (Diagram.id t) := by
  induction Ls generalizing res with
  | nil => rfl
  | cons L Ls ih =>
    show foldT ((res.tensorD (Diagram.id t)).thenD (L.tensorD (Diagram.id t))) _ =
      (foldT (res.thenD L) Ls).tensorD (Diagram.id t)
    rw [← thenD_tensorD_id, ih]

theorem foldT_id_tensorD (t : Ty) (res : Diagram) (Ls : List Diagram) :
    foldT ((Diagram.id t).tensorD res) (Ls.map (Diagram.id t).tensorD) =
      (Diagram.id t).tensorD (foldT res Ls) := by
  induction Ls generalizing res with
  | nil => rfl
  | cons L Ls ih =>
    show foldT (((Diagram.id t).tensorD res).thenD ((Diagram.id t).tensorD L)) _ =
      (Diagram.id t).tensorD (foldT (res.thenD L) Ls)
    rw [← id_tensorD_thenD, ih]

theorem Functor.Img.whiskR {F : Functor} {l : Layer} {L : Diagram} (h : F.Img l L) {t tt : Ty}
    (ht : F.ty t = .ok tt) : F.Img (whiskR t l) (L.tensorD (Diagram.id tt)) := by
  obtain ⟨lt, rt, x, h1, h2, hx, xw, xd, xc, rfl⟩ := h
  exact ⟨lt, rt ++ tt, x, h1, F.ty_append h2 ht, hx, xw, xd, xc, layerD_whiskR lt rt tt x⟩

theorem Functor.Img.whiskL {F : Functor} {l : Layer} {L : Diagram} (h : F.Img l L) {u tu : Ty}
    (hu : F.ty u = .ok tu) : F.Img (whiskL u l) ((Diagram.id tu).tensorD L) := by
  obtain ⟨lt, rt, x, h1, h2, hx, xw, xd, xc, rfl⟩ := h
  exact ⟨tu ++ lt, rt, x, F.ty_append hu h1, h2, hx, xw, xd, xc, layerD_whiskL tu lt rt x⟩

theorem Functor.Imgs.map {F : Functor} {f : Layer → Layer} {g : Diagram → Diagram}
    (hfg : ∀ {l L}, F.Img l L → F.Img (f l) (g L)) {ls : List Layer} {Ls : List Diagram}
    (h : F.Imgs ls Ls) : F.Imgs (ls.map f) (Ls.map g) := by
  induction h with
  | nil => exact .nil
  | cons himg _ ih => exact .cons (hfg himg) ih

theorem Functor.Imgs.append {F : Functor} {as bs : List Layer} {As Bs : List Diagram}
    (ha : F.Imgs as As) (hb : F.Imgs bs Bs) : F.Imgs (as ++ bs) (As ++ Bs) := by
  induction ha with
  | nil => exact hb
  | cons himg _ ih => exact .cons himg ih

/-! ### `(a @ Id(b.dom)) >> (Id(a.cod) @ b) = a @ b` -/

theorem Diagram.exchange (f g : Diagram) :
    (f.tensorD (Diagram.id g.dom)).thenD ((Diagram.id f.cod).tensorD g) = f.tensorD g := by
  simp [Diagram.tensorD, Diagram.thenD, Diagram.id, LArrow.id]

/-- C04: the image of a tensor is the tensor of the images (equality of all five fields): the
    layers of `a @ b` are those of `a` whiskered by `b.dom`, then those of `b` whiskered by `a.cod`,
    and whiskering commutes with taking images and with folding. -/
theorem Functor.apply_tensorD (F : Functor) {a b fa fb : Diagram} (ha : a.WF) (hb : b.WF)
    (hoka : ∀ bx ∈ a.boxes, F.okOn bx) (hokb : ∀ bx ∈ b.boxes, F.okOn bx)
    (hfa : F.apply a = .ok fa) (hfb : F.apply b = .ok fb) :
    F.apply (a.tensorD b) = .ok (fa.tensorD fb) := by
  obtain ⟨faw, fadom, facod⟩ := F.apply_props ha hoka hfa
  obtain ⟨_, fbdom, _⟩ := F.apply_props hb hokb hfb
  obtain ⟨ta, As, hta, hA, rfl⟩ := F.apply_fold ha hoka hfa
  obtain ⟨tb, Bs, htb, hB, rfl⟩ := F.apply_fold hb hokb hfb
  have hA' := hA.map (fun h => h.whiskR htb)
  have hB' := hB.map (fun h => h.whiskL facod)
  rw [F.apply_of_imgs (Diagram.tensorD_wf ha hb) (F.ty_append hta htb) (hA'.append hB')]
  congr 1
  generalize hfa' : foldT (Diagram.id ta) As = fa at faw facod hB'
  have hX := Diagram.tensorD_wf faw (Diagram.id_wf tb)
  have hXc : (fa.tensorD (Diagram.id tb)).cod = fa.cod ++ tb := rfl
  rw [foldT_app, ← tensorD_id_id, foldT_tensorD_id, hfa', foldT_from hX, hXc, ← tensorD_id_id,
    foldT_id_tensorD]
  have hbd : (foldT (Diagram.id tb) Bs).dom = tb := by
    rw [htb] at fbdom; exact (Except.ok.inj fbdom).symm
  have := Diagram.exchange fa (foldT (Diagram.id tb) Bs)
  rwa [hbd] at this

end DV
