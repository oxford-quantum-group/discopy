/-
  Proofs/SumLaws.lean — closed forms and (bi)linearity laws of formal sums (`Model/Sum.lean`).

  What holds and what does not (for the code as it is — `Sum.__eq__` compares ORDERED term lists):
  * `(a + b) >> c == (a >> c) + (b >> c)`, same for `@`            — holds for all sums;
  * `a >> (b + c) == (a >> b) + (a >> c)`, same for `@`            — holds when `a` has at most one
    term (in particular for a diagram `a`), and for all sums up to a permutation of the terms;
    it FAILS when `a` has two terms and `b`, `c` one each.  `Sum.ThenDistribL` states the law with
    `=` on `Sum` (all fields, the terms' `layers` included) and `Sum.not_thenDistribL` refutes that;
    on the witness the two sides differ also under the code's `==` (`Sum.eqv`, which compares the
    terms without their `layers`): `SumWitness.lhs_not_eqv_rhs`.
-/
import Proofs.Laws
import Model.Sum

namespace DV

/-- A sum the constructor accepts, with well-typed terms. -/
def Sum.WF (a : Sum) : Prop := ∀ t ∈ a.terms, t.WF ∧ t.dom = a.dom ∧ t.cod = a.cod

@[simp] theorem Sum.zero_dom (d c : Ty) : (Sum.zero d c).dom = d := rfl
@[simp] theorem Sum.zero_cod (d c : Ty) : (Sum.zero d c).cod = c := rfl
@[simp] theorem Sum.zero_terms (d c : Ty) : (Sum.zero d c).terms = [] := rfl

theorem Sum.zero_wf (d c : Ty) : (Sum.zero d c).WF := by intro t ht; simp [Sum.zero] at ht

theorem Sum.single_wf {d : Diagram} (h : d.WF) : (Sum.single d).WF := by
  intro t ht; simp [Sum.single] at ht; subst ht; exact ⟨h, rfl, rfl⟩

/-! ### Constructor, `+`, `sum(…, unit)` -/

theorem Sum.typesOk_iff {d c : Ty} {ts : List Diagram} :
    Sum.typesOk d c ts = true ↔ ∀ t ∈ ts, t.dom = d ∧ t.cod = c := by
  simp [Sum.typesOk]

theorem Sum.mk?_some {d c : Ty} {ts : List Diagram} (h : ∀ t ∈ ts, t.dom = d ∧ t.cod = c) :
    Sum.mk? ts (some d) (some c) = .ok ⟨ts, d, c⟩ := by
  cases ts with
  | nil => rfl
  | cons t ts => simp [Sum.mk?, Sum.typesOk_iff.mpr h]

/-- `Sum([d])` through the constructor is `Sum.single d`. -/
theorem Sum.mk?_single (d : Diagram) : Sum.mk? [d] none none = .ok (Sum.single d) := by
  simp [Sum.mk?, Sum.typesOk, Sum.single]

theorem Sum.add_spec {a b : Sum} (h : ∀ t ∈ a.terms ++ b.terms, t.dom = a.dom ∧ t.cod = a.cod) :
    a.add b = .ok ⟨a.terms ++ b.terms, a.dom, a.cod⟩ := Sum.mk?_some h

theorem Sum.add_wf_spec {a b : Sum} (ha : a.WF) (hb : b.WF) (hd : a.dom = b.dom)
    (hc : a.cod = b.cod) : a.add b = .ok ⟨a.terms ++ b.terms, a.dom, a.cod⟩ := by
  apply Sum.add_spec
  intro t ht
  rcases List.mem_append.mp ht with h | h
  · exact (ha t h).2
  · rw [hd, hc]; exact (hb t h).2

theorem Sum.addAll_spec {acc : Sum} {ts : List Diagram}
    (h : ∀ t ∈ acc.terms ++ ts, t.dom = acc.dom ∧ t.cod = acc.cod) :
    Sum.addAll acc ts = .ok ⟨acc.terms ++ ts, acc.dom, acc.cod⟩ := by
  induction ts generalizing acc with
  | nil => cases acc; simp [Sum.addAll]
  | cons t ts ih =>
    have e : acc.add (Sum.single t) = .ok ⟨acc.terms ++ [t], acc.dom, acc.cod⟩ := by
      apply Sum.add_spec
      intro u hu
      apply h
      simp only [Sum.single, List.mem_append, List.mem_singleton] at hu
      rcases hu with hu | hu
      · exact List.mem_append_left _ hu
      · subst hu; simp
    simp only [Sum.addAll, e]
    rw [ih (acc := ⟨acc.terms ++ [t], acc.dom, acc.cod⟩) (by simpa using h)]
    simp

theorem mapE_spec {f : Diagram → Except Err Diagram} {f' : Diagram → Diagram} {gs : List Diagram}
    (h : ∀ g ∈ gs, f g = .ok (f' g)) : mapE f gs = .ok (gs.map f') := by
  induction gs with
  | nil => rfl
  | cons g gs ih =>
    have h1 := h g (by simp)
    have h2 := ih (fun x hx => h x (by simp [hx]))
    simp [mapE, h1, h2]

theorem prodE_spec {op : Diagram → Diagram → Except Err Diagram} {op' : Diagram → Diagram → Diagram}
    {fs gs : List Diagram} (h : ∀ f ∈ fs, ∀ g ∈ gs, op f g = .ok (op' f g)) :
    prodE op fs gs = .ok (fs.flatMap fun f => gs.map (op' f)) := by
  induction fs with
  | nil => rfl
  | cons f fs ih =>
    have h1 := mapE_spec (f := op f) (f' := op' f) (h f (by simp))
    have h2 := ih (fun x hx => h x (by simp [hx]))
    simp [prodE, h1, h2]

theorem prodE_nil_right (op : Diagram → Diagram → Except Err Diagram) (fs : List Diagram) :
    prodE op fs [] = .ok [] := by
  induction fs with
  | nil => rfl
  | cons f fs ih => simp [prodE, mapE, ih]

/-! ### Closed forms of `>>`, `@`, dagger on sums -/

def Sum.thenD (a b : Sum) : Sum :=
  ⟨a.terms.flatMap fun f => b.terms.map (Diagram.thenD f), a.dom, b.cod⟩
def Sum.tensorD (a b : Sum) : Sum :=
  ⟨a.terms.flatMap fun f => b.terms.map (Diagram.tensorD f), a.dom ++ b.dom, a.cod ++ b.cod⟩
def Sum.daggerD (a : Sum) : Sum := ⟨a.terms.map Diagram.dagger, a.cod, a.dom⟩

@[simp] theorem Sum.thenD_dom (a b : Sum) : (a.thenD b).dom = a.dom := rfl
@[simp] theorem Sum.thenD_cod (a b : Sum) : (a.thenD b).cod = b.cod := rfl
@[simp] theorem Sum.tensorD_dom (a b : Sum) : (a.tensorD b).dom = a.dom ++ b.dom := rfl
@[simp] theorem Sum.tensorD_cod (a b : Sum) : (a.tensorD b).cod = a.cod ++ b.cod := rfl
@[simp] theorem Sum.daggerD_dom (a : Sum) : a.daggerD.dom = a.cod := rfl
@[simp] theorem Sum.daggerD_cod (a : Sum) : a.daggerD.cod = a.dom := rfl

theorem Sum.thenD_wf {a b : Sum} (ha : a.WF) (hb : b.WF) (h : a.cod = b.dom) : (a.thenD b).WF := by
  intro t ht
  simp only [Sum.thenD, List.mem_flatMap, List.mem_map] at ht
  obtain ⟨f, hf, g, hg, rfl⟩ := ht
  exact ⟨Diagram.thenD_wf (ha f hf).1 (hb g hg).1 (by rw [(ha f hf).2.2, (hb g hg).2.1, h]),
    (ha f hf).2.1, (hb g hg).2.2⟩

theorem Sum.tensorD_wf {a b : Sum} (ha : a.WF) (hb : b.WF) : (a.tensorD b).WF := by
  intro t ht
  simp only [Sum.tensorD, List.mem_flatMap, List.mem_map] at ht
  obtain ⟨f, hf, g, hg, rfl⟩ := ht
  exact ⟨Diagram.tensorD_wf (ha f hf).1 (hb g hg).1,
    by simp [Diagram.tensorD, (ha f hf).2.1, (hb g hg).2.1],
    by simp [Diagram.tensorD, (ha f hf).2.2, (hb g hg).2.2]⟩

theorem Sum.daggerD_wf {a : Sum} (ha : a.WF) : a.daggerD.WF := by
  intro t ht
  simp only [Sum.daggerD, List.mem_map] at ht
  obtain ⟨f, hf, rfl⟩ := ht
  exact ⟨Diagram.dagger_wf (ha f hf).1,
    by rw [Diagram.dagger_dom (ha f hf).1, (ha f hf).2.2]; rfl,
    by rw [Diagram.dagger_cod (ha f hf).1, (ha f hf).2.1]; rfl⟩

theorem Sum.addAll_zero {s : Sum} (hs : s.WF) :
    Sum.addAll (Sum.zero s.dom s.cod) s.terms = .ok s := by
  rw [Sum.addAll_spec (acc := Sum.zero s.dom s.cod) fun t ht =>
    (hs t (by simpa [Sum.zero] using ht)).2]
  cases s; simp [Sum.zero]

theorem Sum.then_spec {a b : Sum} (ha : a.WF) (hb : b.WF) (h : a.cod = b.dom) :
    a.then b = .ok (a.thenD b) := by
  have e : prodE Diagram.then a.terms b.terms = .ok _ :=
    prodE_spec (op' := Diagram.thenD) (fun f hf g hg =>
      Diagram.then_spec (ha f hf).1 (hb g hg).1 (by rw [(ha f hf).2.2, (hb g hg).2.1, h]))
  simp only [Sum.then, e]
  exact Sum.addAll_zero (Sum.thenD_wf ha hb h)

theorem Sum.tensor_spec {a b : Sum} (ha : a.WF) (hb : b.WF) :
    a.tensor b = .ok (a.tensorD b) := by
  have e : prodE Diagram.tensor a.terms b.terms = .ok _ :=
    prodE_spec (op' := Diagram.tensorD) (fun f hf g hg =>
      Diagram.tensor_eq_tensorD (ha f hf).1 (hb g hg).1)
  simp only [Sum.tensor, e]
  exact Sum.addAll_zero (Sum.tensorD_wf ha hb)

theorem Sum.dagger_spec {a : Sum} (ha : a.WF) : a.dagger = .ok a.daggerD :=
  Sum.addAll_zero (Sum.daggerD_wf ha)

theorem Sum.add_wf {a b s : Sum} (ha : a.WF) (hb : b.WF) (hd : a.dom = b.dom) (hc : a.cod = b.cod)
    (h : a.add b = .ok s) : s.WF := by
  rw [Sum.add_wf_spec ha hb hd hc] at h
  cases h
  intro t ht
  rcases List.mem_append.mp ht with h | h
  · exact ha t h
  · have := hb t h
    exact ⟨this.1, by rw [hd]; exact this.2.1, by rw [hc]; exact this.2.2⟩

/-! ### The empty sum is the unit of `+`; `+` is associative -/

theorem Sum.add_unit_l {a : Sum} (ha : a.WF) : (Sum.zero a.dom a.cod).add a = .ok a := by
  rw [Sum.add_wf_spec (Sum.zero_wf _ _) ha rfl rfl]
  cases a; simp [Sum.zero]

theorem Sum.add_unit_r {a : Sum} (ha : a.WF) : a.add (Sum.zero a.dom a.cod) = .ok a := by
  rw [Sum.add_wf_spec ha (Sum.zero_wf _ _) rfl rfl]
  cases a; simp [Sum.zero]

theorem Sum.add_assoc {a b c : Sum} (ha : a.WF) (hb : b.WF) (hc : c.WF)
    (h1 : a.dom = b.dom) (h2 : a.cod = b.cod) (h3 : b.dom = c.dom) (h4 : b.cod = c.cod) :
    ∃ ab bc r, a.add b = .ok ab ∧ b.add c = .ok bc ∧ ab.add c = .ok r ∧ a.add bc = .ok r := by
  have e1 := Sum.add_wf_spec ha hb h1 h2
  have e2 := Sum.add_wf_spec hb hc h3 h4
  refine ⟨_, _, ⟨a.terms ++ b.terms ++ c.terms, a.dom, a.cod⟩, e1, e2, ?_, ?_⟩
  · rw [Sum.add_wf_spec (Sum.add_wf ha hb h1 h2 e1) hc (h1.trans h3) (h2.trans h4)]
  · rw [Sum.add_wf_spec ha (Sum.add_wf hb hc h3 h4 e2) h1 h2]
    simp [List.append_assoc]

/-! ### Composition with the empty sum (it absorbs, whatever the other operand's types) -/

theorem Sum.then_empty_l (d c : Ty) (b : Sum) :
    (Sum.zero d c).then b = .ok (Sum.zero d b.cod) := by
  simp [Sum.then, Sum.zero, prodE, Sum.addAll]

theorem Sum.then_empty_r (a : Sum) (d c : Ty) :
    a.then (Sum.zero d c) = .ok (Sum.zero a.dom c) := by
  simp [Sum.then, Sum.zero, prodE_nil_right, Sum.addAll]

theorem Sum.tensor_empty_l (d c : Ty) (b : Sum) :
    (Sum.zero d c).tensor b = .ok (Sum.zero (d ++ b.dom) (c ++ b.cod)) := by
  simp [Sum.tensor, Sum.zero, prodE, Sum.addAll]

theorem Sum.tensor_empty_r (a : Sum) (d c : Ty) :
    a.tensor (Sum.zero d c) = .ok (Sum.zero (a.dom ++ d) (a.cod ++ c)) := by
  simp [Sum.tensor, Sum.zero, prodE_nil_right, Sum.addAll]

theorem Sum.dagger_empty (d c : Ty) : (Sum.zero d c).dagger = .ok (Sum.zero c d) := by
  simp [Sum.dagger, Sum.zero, Sum.addAll]

/-! ### Distributivity: sum on the LEFT operand (holds for all sums) -/

/-- `(a + b) >> c == (a >> c) + (b >> c)`. -/
theorem Sum.then_distrib_r {a b c : Sum} (ha : a.WF) (hb : b.WF) (hc : c.WF)
    (hd : a.dom = b.dom) (hcod : a.cod = b.cod) (h : a.cod = c.dom) :
    ∃ ab ac bc r, a.add b = .ok ab ∧ a.then c = .ok ac ∧ b.then c = .ok bc ∧
      ab.then c = .ok r ∧ ac.add bc = .ok r := by
  have e1 := Sum.add_wf_spec ha hb hd hcod
  have hab := Sum.add_wf ha hb hd hcod e1
  have hbc : b.cod = c.dom := by rw [← hcod, h]
  refine ⟨_, _, _, _, e1, Sum.then_spec ha hc h, Sum.then_spec hb hc hbc,
    Sum.then_spec hab hc h, ?_⟩
  rw [Sum.add_wf_spec (Sum.thenD_wf ha hc h) (Sum.thenD_wf hb hc hbc) hd rfl]
  simp [Sum.thenD, List.flatMap_append]

/-- `(a + b) @ c == (a @ c) + (b @ c)`. -/
theorem Sum.tensor_distrib_r {a b c : Sum} (ha : a.WF) (hb : b.WF) (hc : c.WF)
    (hd : a.dom = b.dom) (hcod : a.cod = b.cod) :
    ∃ ab ac bc r, a.add b = .ok ab ∧ a.tensor c = .ok ac ∧ b.tensor c = .ok bc ∧
      ab.tensor c = .ok r ∧ ac.add bc = .ok r := by
  have e1 := Sum.add_wf_spec ha hb hd hcod
  have hab := Sum.add_wf ha hb hd hcod e1
  refine ⟨_, _, _, _, e1, Sum.tensor_spec ha hc, Sum.tensor_spec hb hc,
    Sum.tensor_spec hab hc, ?_⟩
  rw [Sum.add_wf_spec (Sum.tensorD_wf ha hc) (Sum.tensorD_wf hb hc) (by simp [Sum.tensorD, hd])
    (by simp [Sum.tensorD, hcod])]
  simp [Sum.tensorD, List.flatMap_append]

/-- `(a + b)[::-1] == a[::-1] + b[::-1]`. -/
theorem Sum.dagger_distrib {a b : Sum} (ha : a.WF) (hb : b.WF)
    (hd : a.dom = b.dom) (hcod : a.cod = b.cod) :
    ∃ ab a' b' r, a.add b = .ok ab ∧ a.dagger = .ok a' ∧ b.dagger = .ok b' ∧
      ab.dagger = .ok r ∧ a'.add b' = .ok r := by
  have e1 := Sum.add_wf_spec ha hb hd hcod
  have hab := Sum.add_wf ha hb hd hcod e1
  refine ⟨_, _, _, _, e1, Sum.dagger_spec ha, Sum.dagger_spec hb, Sum.dagger_spec hab, ?_⟩
  rw [Sum.add_wf_spec (Sum.daggerD_wf ha) (Sum.daggerD_wf hb) hcod hd]
  simp [Sum.daggerD]

/-- Dagger is involutive on sums. -/
theorem Sum.dagger_dagger {a : Sum} (ha : a.WF) :
    ∃ a', a.dagger = .ok a' ∧ a'.dagger = .ok a := by
  refine ⟨_, Sum.dagger_spec ha, ?_⟩
  rw [Sum.dagger_spec (Sum.daggerD_wf ha)]
  cases a with
  | mk terms dom cod =>
    simp only [Sum.daggerD, List.map_map, Except.ok.injEq, Sum.mk.injEq, and_true]
    rw [List.map_congr_left (g := _root_.id)]
    · simp
    · intro t ht; exact Diagram.dagger_dagger (ha t ht).1

/-! ### Distributivity: sum on the RIGHT operand -/

theorem flatMap_append_perm {α β} (fs : List α) (F G : α → List β) :
    (fs.flatMap fun f => F f ++ G f).Perm (fs.flatMap F ++ fs.flatMap G) := by
  induction fs with
  | nil => simp
  | cons f fs ih =>
    simp only [List.flatMap_cons, List.append_assoc]
    refine List.Perm.append_left _ ?_
    refine (List.Perm.append_left _ ih).trans ?_
    exact List.perm_append_comm_assoc _ _ _

theorem flatMap_append_of_length_le_one {α β} (fs : List α) (F G : α → List β)
    (h : fs.length ≤ 1) : (fs.flatMap fun f => F f ++ G f) = fs.flatMap F ++ fs.flatMap G := by
  match fs, h with
  | [], _ => simp
  | [f], _ => simp
  | _ :: _ :: _, h => simp at h

/-- `a >> (b + c) == (a >> b) + (a >> c)` when `a` has at most one term — in particular when `a`
    is a diagram (`Sum.single`). -/
theorem Sum.then_distrib_l_partial {a b c : Sum} (ha : a.WF) (hb : b.WF) (hc : c.WF)
    (hd : b.dom = c.dom) (hcod : b.cod = c.cod) (h : a.cod = b.dom) (hlen : a.terms.length ≤ 1) :
    ∃ bc ab ac r, b.add c = .ok bc ∧ a.then b = .ok ab ∧ a.then c = .ok ac ∧
      a.then bc = .ok r ∧ ab.add ac = .ok r := by
  have e1 := Sum.add_wf_spec hb hc hd hcod
  have hbc := Sum.add_wf hb hc hd hcod e1
  have hac : a.cod = c.dom := by rw [h, hd]
  refine ⟨_, _, _, _, e1, Sum.then_spec ha hb h, Sum.then_spec ha hc hac,
    Sum.then_spec ha hbc h, ?_⟩
  rw [Sum.add_wf_spec (Sum.thenD_wf ha hb h) (Sum.thenD_wf ha hc hac) rfl hcod]
  simp only [Sum.thenD, List.map_append, Except.ok.injEq, Sum.mk.injEq, and_true]
  exact (flatMap_append_of_length_le_one _ _ _ hlen).symm

/-- For all sums the two sides have the same types and the same terms up to a permutation. -/
theorem Sum.then_distrib_l_perm {a b c : Sum} (ha : a.WF) (hb : b.WF) (hc : c.WF)
    (hd : b.dom = c.dom) (hcod : b.cod = c.cod) (h : a.cod = b.dom) :
    ∃ bc ab ac l r, b.add c = .ok bc ∧ a.then b = .ok ab ∧ a.then c = .ok ac ∧
      a.then bc = .ok l ∧ ab.add ac = .ok r ∧
      l.dom = r.dom ∧ l.cod = r.cod ∧ l.terms.Perm r.terms := by
  have e1 := Sum.add_wf_spec hb hc hd hcod
  have hbc := Sum.add_wf hb hc hd hcod e1
  have hac : a.cod = c.dom := by rw [h, hd]
  refine ⟨_, _, _, _, _, e1, Sum.then_spec ha hb h, Sum.then_spec ha hc hac,
    Sum.then_spec ha hbc h,
    Sum.add_wf_spec (Sum.thenD_wf ha hb h) (Sum.thenD_wf ha hc hac) rfl hcod, ?_, ?_, ?_⟩
  · simp [Sum.thenD]
  · simp [Sum.thenD]
  · simp only [Sum.thenD, List.map_append]
    exact flatMap_append_perm _ _ _

theorem Sum.tensor_distrib_l_partial {a b c : Sum} (ha : a.WF) (hb : b.WF) (hc : c.WF)
    (hd : b.dom = c.dom) (hcod : b.cod = c.cod) (hlen : a.terms.length ≤ 1) :
    ∃ bc ab ac r, b.add c = .ok bc ∧ a.tensor b = .ok ab ∧ a.tensor c = .ok ac ∧
      a.tensor bc = .ok r ∧ ab.add ac = .ok r := by
  have e1 := Sum.add_wf_spec hb hc hd hcod
  have hbc := Sum.add_wf hb hc hd hcod e1
  refine ⟨_, _, _, _, e1, Sum.tensor_spec ha hb, Sum.tensor_spec ha hc,
    Sum.tensor_spec ha hbc, ?_⟩
  rw [Sum.add_wf_spec (Sum.tensorD_wf ha hb) (Sum.tensorD_wf ha hc) (by simp [Sum.tensorD, hd])
    (by simp [Sum.tensorD, hcod])]
  simp only [Sum.tensorD, List.map_append, Except.ok.injEq, Sum.mk.injEq, and_true]
  exact (flatMap_append_of_length_le_one _ _ _ hlen).symm

theorem Sum.tensor_distrib_l_perm {a b c : Sum} (ha : a.WF) (hb : b.WF) (hc : c.WF)
    (hd : b.dom = c.dom) (hcod : b.cod = c.cod) :
    ∃ bc ab ac l r, b.add c = .ok bc ∧ a.tensor b = .ok ab ∧ a.tensor c = .ok ac ∧
      a.tensor bc = .ok l ∧ ab.add ac = .ok r ∧
      l.dom = r.dom ∧ l.cod = r.cod ∧ l.terms.Perm r.terms := by
  have e1 := Sum.add_wf_spec hb hc hd hcod
  have hbc := Sum.add_wf hb hc hd hcod e1
  refine ⟨_, _, _, _, _, e1, Sum.tensor_spec ha hb, Sum.tensor_spec ha hc,
    Sum.tensor_spec ha hbc,
    Sum.add_wf_spec (Sum.tensorD_wf ha hb) (Sum.tensorD_wf ha hc) (by simp [Sum.tensorD, hd])
      (by simp [Sum.tensorD, hcod]), rfl, rfl, ?_⟩
  · simp only [Sum.tensorD, List.map_append]
    exact flatMap_append_perm _ _ _

/-! ### A diagram met by a sum operation is wrapped as a one-term sum -/

/-- `Sum([f]) >> Sum([g]) == Sum([f >> g])`. -/
theorem Sum.single_then {f g : Diagram} (hf : f.WF) (hg : g.WF) (h : f.cod = g.dom) :
    (Sum.single f).then (Sum.single g) = .ok (Sum.single (f.thenD g)) := by
  rw [Sum.then_spec (Sum.single_wf hf) (Sum.single_wf hg) h]
  simp [Sum.thenD, Sum.single, Diagram.thenD]

/-! ### The full-strength left distributivity law is false for the code as it is -/

/-- Full statement, both sides the same `Sum` value (`=`): `a >> (b + c) = (a >> b) + (a >> c)` for
    ALL sums (not proved — false). -/
def Sum.ThenDistribL : Prop :=
  ∀ a b c : Sum, a.WF → b.WF → c.WF → b.dom = c.dom → b.cod = c.cod → a.cod = b.dom →
    ∃ bc ab ac r, b.add c = .ok bc ∧ a.then b = .ok ab ∧ a.then c = .ok ac ∧
      a.then bc = .ok r ∧ ab.add ac = .ok r

/-- Full statement for `@`. -/
def Sum.TensorDistribL : Prop :=
  ∀ a b c : Sum, a.WF → b.WF → c.WF → b.dom = c.dom → b.cod = c.cod →
    ∃ bc ab ac r, b.add c = .ok bc ∧ a.tensor b = .ok ab ∧ a.tensor c = .ok ac ∧
      a.tensor bc = .ok r ∧ ab.add ac = .ok r

namespace SumWitness
def x : Ob := ⟨"'x'", 0⟩
def y : Ob := ⟨"'y'", 0⟩
def z : Ob := ⟨"'z'", 0⟩
def f1 : Diagram := Diagram.ofBox { name := "'f1'", dom := [x], cod := [y] }
def f2 : Diagram := Diagram.ofBox { name := "'f2'", dom := [x], cod := [y] }
def g : Diagram := Diagram.ofBox { name := "'g'", dom := [y], cod := [z] }
def h : Diagram := Diagram.ofBox { name := "'h'", dom := [y], cod := [z] }
/-- `f1 + f2` -/
def a : Sum := ⟨[f1, f2], [x], [y]⟩
def b : Sum := Sum.single g
def c : Sum := Sum.single h

theorem a_wf : a.WF := by
  intro t ht
  simp only [a, List.mem_cons, List.not_mem_nil, or_false] at ht
  rcases ht with rfl | rfl
  · exact ⟨Diagram.ofBox_wf _, rfl, rfl⟩
  · exact ⟨Diagram.ofBox_wf _, rfl, rfl⟩

/-- `(f1 + f2) >> (g + h)` has terms `f1 g, f1 h, f2 g, f2 h` … -/
def lhs : Sum := ⟨[f1.thenD g, f1.thenD h, f2.thenD g, f2.thenD h], [x], [z]⟩
/-- … while `((f1 + f2) >> g) + ((f1 + f2) >> h)` has `f1 g, f2 g, f1 h, f2 h`. -/
def rhs : Sum := ⟨[f1.thenD g, f2.thenD g, f1.thenD h, f2.thenD h], [x], [z]⟩

theorem lhs_ne_rhs : lhs ≠ rhs := by decide +kernel
theorem lhs_not_eqv_rhs : lhs.eqv rhs = false := by decide +kernel
end SumWitness

/- Every operation on the witness has its closed form, so both sides are computed by the
   specifications; what is left is the comparison of two explicit term lists. -/

open SumWitness in
theorem Sum.not_thenDistribL : ¬ Sum.ThenDistribL := by
  intro hall
  have hb : b.WF := Sum.single_wf (Diagram.ofBox_wf _)
  have hc : c.WF := Sum.single_wf (Diagram.ofBox_wf _)
  obtain ⟨bc, ab, ac, r, h1, h2, h3, h4, h5⟩ := hall a b c a_wf hb hc rfl rfl rfl
  have hbc := Sum.add_wf hb hc rfl rfl h1
  rw [Sum.add_wf_spec hb hc rfl rfl] at h1; cases h1
  rw [Sum.then_spec a_wf hb rfl] at h2; cases h2
  rw [Sum.then_spec a_wf hc rfl] at h3; cases h3
  rw [Sum.then_spec a_wf hbc rfl] at h4; cases h4
  rw [Sum.add_wf_spec (Sum.thenD_wf a_wf hb rfl) (Sum.thenD_wf a_wf hc rfl) rfl rfl] at h5
  exact lhs_ne_rhs (Except.ok.inj h5).symm

open SumWitness in
theorem Sum.not_tensorDistribL : ¬ Sum.TensorDistribL := by
  intro hall
  have hb : b.WF := Sum.single_wf (Diagram.ofBox_wf _)
  have hc : c.WF := Sum.single_wf (Diagram.ofBox_wf _)
  obtain ⟨bc, ab, ac, r, h1, h2, h3, h4, h5⟩ := hall a b c a_wf hb hc rfl rfl
  have hbc := Sum.add_wf hb hc rfl rfl h1
  rw [Sum.add_wf_spec hb hc rfl rfl] at h1; cases h1
  rw [Sum.tensor_spec a_wf hb] at h2; cases h2
  rw [Sum.tensor_spec a_wf hc] at h3; cases h3
  rw [Sum.tensor_spec a_wf hbc] at h4; cases h4
  rw [Sum.add_wf_spec (Sum.tensorD_wf a_wf hb) (Sum.tensorD_wf a_wf hc) rfl rfl] at h5
  -- second terms: `f2 @ g` on one side, `f1 @ h` on the other
  have := congrArg (fun s : Sum => s.terms.map (·.boxes)) (Except.ok.inj h5)
  revert this
  decide +kernel

end DV
