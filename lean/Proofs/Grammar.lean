/-
  Proofs/Grammar.lean — lemmas for property C18 (grammar front-ends).

  Part A  adjoints of types, Python slices of appended lists
  Part B  `Has r dom cod`: "the call returns a well-typed diagram dom → cod", closed under
          `tensorE`/`thenE`; `Outcome P Q r`: "the call returns a value with `P` or raises an
          exception with `Q`"; totality of `swap` (from Proofs/Swap.lean), `cups`, `caps`
  Part C  pregroup.eager_parse / brute_force
  Part D  cfg.CFG.generate
  Part E  biclosed2rigid on types, rule boxes, Curry boxes, diagrams
  Part F  ccg.cat2ty returns categories; `@` and `>>` of biclosed diagrams; ccg.tree2diagram
  Part G  ccg.cat2ty reads back printed categories
-/
import Proofs.Swap
import Proofs.Laws
import Model.Grammar

namespace DV

/-! ## Part A — adjoints and slices -/

@[simp] theorem Ob.l_r (x : Ob) : x.l.r = x := by
  cases x; simp [Ob.l, Ob.r]
@[simp] theorem Ob.r_l (x : Ob) : x.r.l = x := by
  cases x; simp [Ob.l, Ob.r]

@[simp] theorem Ty.l_nil : Ty.l [] = [] := rfl
@[simp] theorem Ty.r_nil : Ty.r [] = [] := rfl
@[simp] theorem Ty.l_length (t : Ty) : (Ty.l t).length = t.length := by simp [Ty.l]
@[simp] theorem Ty.r_length (t : Ty) : (Ty.r t).length = t.length := by simp [Ty.r]

/-- `(a @ b).l == b.l @ a.l` -/
theorem Ty.l_append (a b : Ty) : Ty.l (a ++ b) = Ty.l b ++ Ty.l a := by simp [Ty.l]
theorem Ty.r_append (a b : Ty) : Ty.r (a ++ b) = Ty.r b ++ Ty.r a := by simp [Ty.r]

/-- `t.l.r == t` -/
@[simp] theorem Ty.l_r (t : Ty) : Ty.r (Ty.l t) = t := by
  simp [Ty.l, Ty.r, List.map_reverse, Function.comp_def]
/-- `t.r.l == t` -/
@[simp] theorem Ty.r_l (t : Ty) : Ty.l (Ty.r t) = t := by
  simp [Ty.l, Ty.r, List.map_reverse, Function.comp_def]

@[simp] theorem Ty.r_singleton (x : Ob) : Ty.r [x] = [x.r] := rfl
@[simp] theorem Ty.l_singleton (x : Ob) : Ty.l [x] = [x.l] := rfl

theorem Ty.l_eq_nil {t : Ty} : Ty.l t = [] ↔ t = [] := by simp [Ty.l]
theorem Ty.r_eq_nil {t : Ty} : Ty.r t = [] ↔ t = [] := by simp [Ty.r]

theorem pyIdx_neg {n k : Nat} (hk : 0 < k) : pyIdx n (-(k : Int)) = n - k := by
  unfold pyIdx
  split
  · split <;> omega
  · omega

/-- `xs[:i] + xs[i:] == xs` for every integer `i`. -/
theorem pySlice_split {α} (xs : List α) (i : Int) :
    pySlice xs none (some i) ++ pySlice xs (some i) none = xs := by
  rw [pySlice_prefix, pySlice_suffix, List.take_append_drop]

theorem pySlice_take_append {α} (a b : List α) :
    pySlice (a ++ b) none (some (a.length : Int)) = a := by
  rw [pySlice_take, List.take_left]
theorem pySlice_drop_append {α} (a b : List α) :
    pySlice (a ++ b) (some (a.length : Int)) none = b := by
  rw [pySlice_drop, List.drop_left]

/-! The three parts of `pre + mid + post`, cut at `len(pre)` and `len(pre) + len(mid)`. -/

theorem pySlice_before {α} (pre mid post : List α) :
    pySlice (pre ++ mid ++ post) none (some (pre.length : Int)) = pre := by
  rw [List.append_assoc, pySlice_take_append]
theorem pySlice_after {α} (pre mid post : List α) :
    pySlice (pre ++ mid ++ post) (some ((pre.length : Int) + (mid.length : Int))) none = post := by
  rw [← Int.natCast_add, ← List.length_append, pySlice_drop_append]
theorem pySlice_inside {α} (pre mid post : List α) :
    pySlice (pre ++ mid ++ post) (some (pre.length : Int))
      (some ((pre.length : Int) + (mid.length : Int))) = mid := by
  rw [← Int.natCast_add, pySlice_mid _ _ _ (by omega) (by simp), Nat.add_sub_cancel_left,
    List.append_assoc, List.drop_left, List.take_left]

/-- `(a + b)[:-len(b)] == a` and `(a + b)[-len(b):] == b` when `b` is not empty. -/
theorem pySlice_neg_append {α} (a b : List α) (hb : b ≠ []) :
    pySlice (a ++ b) none (some (-(b.length : Int))) = a ∧
      pySlice (a ++ b) (some (-(b.length : Int))) none = b := by
  rw [pySlice_prefix, pySlice_suffix, pyIdx_neg (List.length_pos_iff.mpr hb), List.length_append,
    Nat.add_sub_cancel, List.take_left, List.drop_left]
  exact ⟨rfl, rfl⟩

/-! ## Part B — calls that return a well-typed diagram -/

/-- The call returned (no exception) a well-typed diagram `dom → cod`. -/
def Has (r : Except Err Diagram) (dom cod : Ty) : Prop :=
  ∃ d, r = .ok d ∧ d.WF ∧ d.dom = dom ∧ d.cod = cod

theorem Has.ok {d : Diagram} (h : d.WF) : Has (.ok d) d.dom d.cod := ⟨d, rfl, h, rfl, rfl⟩

theorem Has.id (t : Ty) : Has (.ok (Diagram.id t)) t t := ⟨_, rfl, Diagram.id_wf t, rfl, rfl⟩

theorem Has.ofBox (b : Box) : Has (.ok (Diagram.ofBox b)) b.dom b.cod :=
  ⟨_, rfl, Diagram.ofBox_wf b, rfl, rfl⟩

theorem Has.cast {r : Except Err Diagram} {d c d' c' : Ty} (h : Has r d c) (hd : d = d')
    (hc : c = c') : Has r d' c' := by subst hd; subst hc; exact h

theorem Has.tensorE {a b : Except Err Diagram} {d1 c1 d2 c2 : Ty} (ha : Has a d1 c1)
    (hb : Has b d2 c2) : Has (tensorE a b) (d1 ++ d2) (c1 ++ c2) := by
  obtain ⟨x, rfl, xw, rfl, rfl⟩ := ha
  obtain ⟨y, rfl, yw, rfl, rfl⟩ := hb
  obtain ⟨d, hd⟩ := Diagram.tensor_total xw yw
  obtain ⟨w, e1, e2⟩ := Diagram.tensor_props xw yw hd
  exact ⟨d, by simp [DV.tensorE, hd], w, e1, e2⟩

theorem Has.thenE {a b : Except Err Diagram} {d1 m m' c : Ty} (ha : Has a d1 m)
    (hb : Has b m' c) (hm : m = m') : Has (thenE a b) d1 c := by
  subst hm
  obtain ⟨x, rfl, xw, rfl, rfl⟩ := ha
  obtain ⟨y, rfl, yw, hy, rfl⟩ := hb
  obtain ⟨d, hd⟩ := (Diagram.then_ok_iff xw yw).mpr hy.symm
  obtain ⟨w, e1, e2⟩ := Diagram.then_props xw yw hd
  exact ⟨d, by simp [DV.thenE, hd], w, e1, e2⟩

theorem Has.swap (left right : Ty) : Has (Diagram.swap left right) (left ++ right) (right ++ left) := by
  obtain ⟨d, h, w, hd, hc, _⟩ := Diagram.swap_spec left right
  exact ⟨d, h, w, hd, hc⟩

def Outcome {α : Type} (P : α → Prop) (Q : Err → Prop) : Except Err α → Prop
  | .ok a => P a
  | .error e => Q e

theorem Outcome.ok {α : Type} {P : α → Prop} {Q : Err → Prop} {a : α} (h : P a) :
    Outcome P Q (.ok a) := h

theorem Outcome.error {α : Type} {P : α → Prop} {Q : Err → Prop} {e : Err} (h : Q e) :
    Outcome P Q (.error e : Except Err α) := h

theorem Outcome.of_ok {α : Type} {P : α → Prop} {Q : Err → Prop} {r : Except Err α} {a : α}
    (h : Outcome P Q r) (hr : r = .ok a) : P a := by subst hr; exact h

theorem Outcome.of_error {α : Type} {P : α → Prop} {Q : Err → Prop} {r : Except Err α} {e : Err}
    (h : Outcome P Q r) (hr : r = .error e) : Q e := by subst hr; exact h

theorem Outcome.imp {α : Type} {P P' : α → Prop} {Q : Err → Prop} {r : Except Err α}
    (h : Outcome P Q r) (hp : ∀ a, P a → P' a) : Outcome P' Q r := by
  cases r with
  | ok a => exact hp a h
  | error e => exact h

/-- `Id(pre) @ b @ Id(post)`, as the two binary tensors the code performs. -/
theorem whisker_spec (pre post : Ty) (b : Box) :
    ∃ x layer, (Diagram.id pre).tensor (Diagram.ofBox b) = .ok x ∧
      x.tensor (Diagram.id post) = .ok layer ∧ layer.WF ∧
      layer.dom = pre ++ b.dom ++ post ∧ layer.cod = pre ++ b.cod ++ post ∧ layer.boxes = [b] := by
  have hx := Diagram.tensor_spec (Diagram.id_wf pre) (Diagram.ofBox_wf b)
  obtain ⟨xw, _, _⟩ := Diagram.tensor_props (Diagram.id_wf pre) (Diagram.ofBox_wf b) hx
  have hl := Diagram.tensor_spec xw (Diagram.id_wf post)
  exact ⟨_, _, hx, hl, (Diagram.tensor_props xw (Diagram.id_wf post) hl).1, rfl, rfl, rfl⟩

/-! ### cups and caps are total on adjoint types -/

/-- The open wires with `n` pairs to go, the pair the next cup joins written out. -/
theorem open_wires {left right : Ty} {n i : Nat} (hl : n < left.length) (hr : i < right.length) :
    left.take (n + 1) ++ right.drop i =
      left.take n ++ [left[n], right[i]] ++ right.drop (i + 1) := by
  rw [List.take_succ_eq_append_getElem hl, List.drop_eq_getElem_cons hr]
  simp only [List.append_assoc, List.cons_append, List.nil_append]

/-- The loop of `cups` (`rev = false`, stacking below `d`) and `caps` (`rev = true`, stacking
    above): with `i` pairs joined and `n` to go, the open side of `d` is
    `left[:n] @ right[i:]`. -/
theorem cupsLoop_has {left right : Ty} (hlen : left.length = right.length) (rev : Bool) :
    ∀ (n i : Nat) (d : Diagram), i + n = left.length → d.WF →
      (if rev then d.dom else d.cod) = left.take n ++ right.drop i →
      ∃ d', cupsLoop left right rev n i d = .ok d' ∧ d'.WF ∧
        (if rev then d'.cod = d.cod ∧ d'.dom = [] else d'.dom = d.dom ∧ d'.cod = []) := by
  intro n
  induction n with
  | zero =>
    intro i d hi hw hd
    have hi' : i = left.length := hi
    subst hi'
    refine ⟨d, by simp [cupsLoop], hw, ?_⟩
    have e : right.drop left.length = [] := List.drop_eq_nil_of_le (Nat.le_of_eq hlen.symm)
    cases rev <;> simp_all
  | succ n ih =>
    intro i d hi hw hd
    -- `left.length - i - 1` is the model's index `j` of the left partner of `right[i]`
    obtain ⟨hn, hiR, hj⟩ : n < left.length ∧ i < right.length ∧ left.length - i - 1 = n := by omega
    rw [open_wires hn hiR] at hd
    simp only [cupsLoop, hj, List.getElem?_eq_getElem hn, List.getElem?_eq_getElem hiR]
    have hi' : i + 1 + n = left.length := (Nat.add_right_comm i 1 n).trans hi
    cases rev with
    | false =>
      obtain ⟨x, layer, hx, hl, lw, ld, lc, _⟩ :=
        whisker_spec (left.take n) (right.drop (i + 1)) (Box.cup left[n] right[i])
      simp only [Bool.false_eq_true, ↓reduceIte, hx, hl] at hd ⊢
      obtain ⟨d1, hd1⟩ := (Diagram.then_ok_iff hw lw).mpr (hd.trans ld.symm)
      obtain ⟨w1, e1, e2⟩ := Diagram.then_props hw lw hd1
      simp only [hd1]
      obtain ⟨d', h', w', hdom, hcod⟩ := ih (i + 1) d1 hi' w1
        (e2.trans (lc.trans (by simp only [Box.cup, List.append_nil])))
      exact ⟨d', h', w', hdom.trans e1, hcod⟩
    | true =>
      obtain ⟨x, layer, hx, hl, lw, ld, lc, _⟩ :=
        whisker_spec (left.take n) (right.drop (i + 1)) (Box.cap left[n] right[i])
      simp only [↓reduceIte, hx, hl] at hd ⊢
      obtain ⟨d1, hd1⟩ := (Diagram.then_ok_iff lw hw).mpr (lc.trans hd.symm)
      obtain ⟨w1, e1, e2⟩ := Diagram.then_props lw hw hd1
      simp only [hd1]
      obtain ⟨d', h', w', hcod, hdom⟩ := ih (i + 1) d1 hi' w1
        (e1.trans (ld.trans (by simp only [Box.cap, List.append_nil])))
      exact ⟨d', h', w', hcod.trans e2, hdom⟩

theorem adjoint_length {left right : Ty} (h : Ty.r left = right ∨ Ty.r right = left) :
    left.length = right.length := by
  rcases h with h | h
  · rw [← h]; simp
  · rw [← h]; simp

/-- `cups(left, right)` returns a well-typed diagram `left @ right → Ty()` whenever the two
    types are adjoint one way or the other. -/
theorem Has.cups {left right : Ty} (h : Ty.r left = right ∨ Ty.r right = left) :
    Has (Diagram.cups left right) (left ++ right) [] := by
  have hne : ¬ (Ty.r left ≠ right ∧ Ty.r right ≠ left) := by
    rcases h with h | h <;> simp [h]
  obtain ⟨d', h', w', hdom, hcod⟩ := cupsLoop_has (adjoint_length h) false left.length 0
    (Diagram.id (left ++ right)) (by simp) (Diagram.id_wf _) (by simp [Diagram.id])
  exact ⟨d', by simp [Diagram.cups, hne, h'], w', hdom, hcod⟩

theorem Has.caps {left right : Ty} (h : Ty.r left = right ∨ Ty.r right = left) :
    Has (Diagram.caps left right) [] (left ++ right) := by
  have hne : ¬ (Ty.r left ≠ right ∧ Ty.r right ≠ left) := by
    rcases h with h | h <;> simp [h]
  obtain ⟨d', h', w', hcod, hdom⟩ := cupsLoop_has (adjoint_length h) true left.length 0
    (Diagram.id (left ++ right)) (by simp) (Diagram.id_wf _) (by simp [Diagram.id])
  exact ⟨d', by simp [Diagram.caps, hne, h'], w', hdom, hcod⟩

/-! ## Part C — pregroup.eager_parse, brute_force -/

/-- The box is `Cup(x, x.r)` for some basic type `x`. -/
def IsAdjCup (b : Box) : Prop := ∃ x : Ob, b = Box.cup x x.r

theorem tensorAll_spec (ws : List Box) :
    ∀ (acc : Diagram), acc.WF →
      ∃ d, tensorAll acc (ws.map Diagram.ofBox) = .ok d ∧ d.WF ∧
        d.dom = acc.dom ++ ws.flatMap (·.dom) ∧ d.boxes = acc.boxes ++ ws := by
  induction ws with
  | nil => intro acc hw; exact ⟨acc, rfl, hw, by simp, by simp⟩
  | cons w ws ih =>
    intro acc hw
    have hs := Diagram.tensor_spec hw (Diagram.ofBox_wf w)
    obtain ⟨w1, e1, e2⟩ := Diagram.tensor_props hw (Diagram.ofBox_wf w) hs
    simp only [List.map_cons, tensorAll, hs]
    obtain ⟨d, hd, dw, dd, db⟩ := ih _ w1
    refine ⟨d, hd, dw, ?_, ?_⟩
    · rw [dd]; simp [Diagram.ofBox]
    · rw [db]; simp [Diagram.ofBox]

theorem findAdj_some : ∀ {scan : Ty} {i : Nat}, findAdj scan = some i →
    ∃ pre x post, scan = pre ++ [x, x.r] ++ post ∧ pre.length = i
  | [], _, h => by simp [findAdj] at h
  | [_], _, h => by simp [findAdj] at h
  | x :: y :: rest, i, h => by
    simp only [findAdj] at h
    split at h
    · rename_i hxy
      simp only [Ty.r_singleton, List.cons.injEq, and_true] at hxy
      cases h
      exact ⟨[], x, rest, by simp [hxy], rfl⟩
    · simp only [Option.map_eq_some_iff] at h
      obtain ⟨j, hj, rfl⟩ := h
      obtain ⟨pre, x', post, e, hl⟩ := findAdj_some hj
      exact ⟨x :: pre, x', post, by simp [e], by simp [hl]⟩

theorem findAdj_none_of_short {scan : Ty} (h : scan.length < 2) : findAdj scan = none := by
  match scan, h with
  | [], _ => rfl
  | [_], _ => rfl

theorem mkCup_adj (x : Ob) : mkCup [x] [x.r] = .ok (Box.cup x x.r) := by
  simp [mkCup]

theorem cupLayer_spec (pre post : Ty) (x : Ob) :
    ∃ d, cupLayer (pre ++ [x, x.r] ++ post) pre.length = .ok d ∧ d.WF ∧
      d.dom = pre ++ [x, x.r] ++ post ∧ d.cod = pre ++ post ∧ d.boxes = [Box.cup x x.r] := by
  have s1 : pySlice (pre ++ [x, x.r] ++ post) (some (pre.length : Int)) (some ((pre.length : Int) + 1))
      = [x] := by
    simpa using pySlice_inside pre [x] ([x.r] ++ post)
  have s2 : pySlice (pre ++ [x, x.r] ++ post) (some ((pre.length : Int) + 1))
      (some ((pre.length : Int) + 2)) = [x.r] := by
    simpa [Int.add_assoc] using pySlice_inside (pre ++ [x]) [x.r] post
  have s4 : pySlice (pre ++ [x, x.r] ++ post) (some ((pre.length : Int) + 2)) none = post :=
    pySlice_after pre [x, x.r] post
  obtain ⟨_, layer, hx, hl, lw, ld, lc, lb⟩ := whisker_spec pre post (Box.cup x x.r)
  simp only [cupLayer, s1, s2, pySlice_before pre [x, x.r] post, s4, mkCup_adj, tensorE, hx, hl]
  exact ⟨layer, rfl, lw, ld, by simpa [Box.cup] using lc, lb⟩

/-- The loop of `eager_parse`: whatever it returns is the input followed by adjacent-adjoint
    cups, has the target as codomain, and the only exception is `NotImplementedError`
    (in particular the structural bound is never reached). -/
theorem eagerLoop_spec (target : Ty) (ws : List Box) :
    ∀ (n : Nat) (r : Diagram) (cs : List Box), r.WF → r.boxes = ws ++ cs →
      (∀ c ∈ cs, IsAdjCup c) → r.cod.length < n →
      Outcome (fun d => d.WF ∧ d.dom = r.dom ∧ d.cod = target ∧
          ∃ cs', d.boxes = ws ++ cs' ∧ ∀ c ∈ cs', IsAdjCup c)
        (· = .notImpl) (eagerLoop target n r) := by
  intro n
  induction n with
  | zero => intro r cs _ _ _ hlt; omega
  | succ n ih =>
    intro r cs rw_ rb rc hlt
    simp only [eagerLoop]
    cases hf : findAdj r.cod with
    | none =>
      simp only
      split
      · exact .ok ⟨rw_, rfl, ‹_›, cs, rb, rc⟩
      · exact .error rfl
    | some i =>
      obtain ⟨pre, x, post, hscan, rfl⟩ := findAdj_some hf
      obtain ⟨layer, hl, lw, ld, lc, lb⟩ := cupLayer_spec pre post x
      rw [← hscan] at hl ld
      obtain ⟨r', hr'⟩ := (Diagram.then_ok_iff rw_ lw).mpr ld.symm
      obtain ⟨w', e1, e2⟩ := Diagram.then_props rw_ lw hr'
      have hb' : r'.boxes = ws ++ (cs ++ [Box.cup x x.r]) := by
        obtain ⟨ls, _, rfl⟩ := Diagram.then_ok hr'
        simp [rb, lb]
      have hc' : ∀ c ∈ cs ++ [Box.cup x x.r], IsAdjCup c :=
        List.forall_mem_append.mpr ⟨rc, fun c h => ⟨x, List.mem_singleton.mp h⟩⟩
      simp only [thenE, hl, hr']
      split
      · exact .ok ⟨w', e1, ‹_›, _, hb', hc'⟩
      · have hlen : r'.cod.length < n := by
          rw [e2, lc]
          have := congrArg List.length hscan
          simp at this ⊢
          omega
        exact (ih r' _ w' hb' hc' hlen).imp fun d ⟨a, b, c, d'⟩ => ⟨a, b.trans e1, c, d'⟩

theorem eagerParse_outcome (words : List Box) (target : Ty) :
    Outcome (fun d => d.WF ∧ d.dom = words.flatMap (·.dom) ∧ d.cod = target ∧
        ∃ cups, d.boxes = words ++ cups ∧ ∀ c ∈ cups, IsAdjCup c)
      (· = .notImpl) (eagerParse words target) := by
  obtain ⟨r, hr, rw_, rd, rb⟩ := tensorAll_spec words (Diagram.id []) (Diagram.id_wf [])
  simp only [eagerParse, hr]
  refine (eagerLoop_spec target words _ r [] rw_ (by simpa [Diagram.id] using rb) (by simp)
    (Nat.lt_succ_self _)).imp fun d ⟨a, b, c, e⟩ => ⟨a, ?_, c, e⟩
  rw [b, rd]; simp [Diagram.id]

theorem eagerParse_spec {words : List Box} {target : Ty} {d : Diagram}
    (h : eagerParse words target = .ok d) :
    d.WF ∧ d.dom = words.flatMap (·.dom) ∧ d.cod = target ∧
      ∃ cups, d.boxes = words ++ cups ∧ ∀ c ∈ cups, IsAdjCup c :=
  (eagerParse_outcome words target).of_ok h

/-- The only exception `eager_parse` raises is `NotImplementedError`. -/
theorem eagerParse_error {words : List Box} {target : Ty} {e : Err}
    (h : eagerParse words target = .error e) : e = .notImpl :=
  (eagerParse_outcome words target).of_error h

theorem bruteForceStep_sound {vocab : List Box} {target : Ty} {words : List Box} {d : Diagram}
    (h : d ∈ bruteForceStep vocab target words) :
    ∃ w ∈ vocab, eagerParse (words ++ [w]) target = .ok d := by
  simp only [bruteForceStep, List.mem_filterMap] at h
  obtain ⟨w, hw, hd⟩ := h
  refine ⟨w, hw, ?_⟩
  split at hd
  · rename_i d' he; cases hd; exact he
  · cases hd

theorem bruteForceLoop_sound (vocab : List Box) (target : Ty) :
    ∀ (k : Nat) (queue : List (List Box)), (∀ ws ∈ queue, ws ⊆ vocab) →
      ∀ d ∈ bruteForceLoop vocab target k queue,
        ∃ ws, ws ⊆ vocab ∧ eagerParse ws target = .ok d := by
  intro k
  induction k with
  | zero => intro queue _ d hd; simp [bruteForceLoop] at hd
  | succ k ih =>
    intro queue hq d hd
    cases queue with
    | nil => simp [bruteForceLoop] at hd
    | cons words queue =>
      have hwords : words ⊆ vocab := hq words (by simp)
      have hext : ∀ w ∈ vocab, words ++ [w] ⊆ vocab := fun w hw =>
        List.append_subset.mpr ⟨hwords, List.cons_subset.mpr ⟨hw, List.nil_subset _⟩⟩
      simp only [bruteForceLoop, List.mem_append] at hd
      rcases hd with hd | hd
      · obtain ⟨w, hw, he⟩ := bruteForceStep_sound hd
        exact ⟨words ++ [w], hext w hw, he⟩
      · refine ih _ (fun ws hws => ?_) d hd
        rcases List.mem_append.mp hws with h | h
        · exact hq ws (by simp [h])
        · obtain ⟨w, hw, rfl⟩ := List.mem_map.mp h
          exact hext w hw

/-! ## Part D — cfg.CFG.generate -/

/-- `s` is a (partial) derivation of `start` over `prods`: well-typed, rooted at `start`,
    every box a production, every production applied at the leftmost open symbol. -/
structure Deriv (prods : List Box) (start : Ty) (s : Diagram) : Prop where
  wf : s.WF
  cod : s.cod = start
  boxes : ∀ b ∈ s.boxes, b ∈ prods
  offsets : ∀ o ∈ s.offsets, o = 0

theorem Deriv.id (prods : List Box) (start : Ty) : Deriv prods start (Diagram.id start) :=
  ⟨Diagram.id_wf _, rfl, by simp [Diagram.id], by simp [Diagram.id]⟩

theorem shuffleBy_subset {prods : List Box} {perm : List Nat} {p : Box}
    (h : p ∈ shuffleBy prods perm) : p ∈ prods := by
  simp only [shuffleBy, List.mem_filterMap] at h
  obtain ⟨i, _, hi⟩ := h
  exact List.mem_of_getElem? hi

theorem findProd_some {nt : List Box} {s : Diagram} {tag : Ob} {ps : List Box} {p : Box}
    (h : findProd nt s tag ps = some p) : p ∈ ps ∧ [tag] = p.cod := by
  induction ps with
  | nil => simp [findProd] at h
  | cons q qs ih =>
    simp only [findProd] at h
    split at h
    · obtain ⟨a, b⟩ := ih h; exact ⟨by simp [a], b⟩
    · split at h
      · rename_i hq; cases h; exact ⟨by simp, hq⟩
      · obtain ⟨a, b⟩ := ih h; exact ⟨by simp [a], b⟩

theorem expand_spec {s : Diagram} {p : Box} {tag : Ob} {rest : Ty} (hw : s.WF)
    (hdom : s.dom = tag :: rest) (hp : [tag] = p.cod) :
    ∃ s', expand s p = .ok s' ∧ s'.WF ∧ s'.dom = p.dom ++ rest ∧ s'.cod = s.cod ∧
      s'.boxes = p :: s.boxes ∧ s'.offsets = 0 :: s.offsets := by
  have hrest : pySlice s.dom (some 1) none = rest := by
    rw [hdom]; simpa using pySlice_drop (tag :: rest) 1
  have h1 := Diagram.tensor_spec (Diagram.ofBox_wf p) (Diagram.id_wf rest)
  obtain ⟨w1, d1, c1⟩ := Diagram.tensor_props (Diagram.ofBox_wf p) (Diagram.id_wf rest) h1
  simp only [expand, hrest, tensorE, thenE, h1]
  have hc : (p.cod ++ rest) = s.dom := by rw [hdom, ← hp]; rfl
  obtain ⟨s', hs'⟩ := (Diagram.then_ok_iff w1 hw).mpr (by simpa [Diagram.ofBox, Diagram.id] using hc)
  have w' := (Diagram.then_props w1 hw hs').1
  obtain ⟨ls, _, rfl⟩ := Diagram.then_ok hs'
  exact ⟨_, hs', w', by simp [Diagram.ofBox, Diagram.id], rfl, by simp [Diagram.ofBox, Diagram.id],
    by simp [Diagram.ofBox, Diagram.id]⟩

/-- What the inner loop returns: the order of `prods` stays within the productions, a
    finished sentence is a closed derivation shorter than the depth limit; the only failure is
    an exhausted oracle stream. -/
theorem growLoop_spec (all nt : List Box) (start : Ty) (M : Nat) :
    ∀ (k : Nat) (prods : List Box) (orc : List (List Nat)) (s : Diagram),
      Deriv all start s → (∀ p ∈ prods, p ∈ all) → s.boxes.length + k = M →
      Outcome (fun res => (∀ p ∈ res.2.1, p ∈ all) ∧
          ∀ s', res.1 = some s' → Deriv all start s' ∧ s'.dom = [] ∧ s'.boxes.length < M)
        (· = .fuel) (growLoop nt k prods orc s) := by
  intro k
  induction k with
  | zero =>
    intro prods orc s _ hp _
    exact .ok ⟨hp, fun s' h' => by cases h'⟩
  | succ k ih =>
    intro prods orc s hs hp hM
    simp only [growLoop]
    cases hdom : s.dom with
    | nil => exact .ok ⟨hp, fun s' h' => by cases h'; exact ⟨hs, hdom, by omega⟩⟩
    | cons tag rest =>
      cases orc with
      | nil => exact .error rfl
      | cons perm orc' =>
        simp only
        have hp' : ∀ p ∈ shuffleBy prods perm, p ∈ all := fun p h => hp p (shuffleBy_subset h)
        cases hf : findProd nt s tag (shuffleBy prods perm) with
        | none => exact .ok ⟨hp', fun s' h' => by cases h'⟩
        | some p =>
          simp only
          obtain ⟨hmem, hcod⟩ := findProd_some hf
          obtain ⟨s', he, w', d', c', b', o'⟩ := expand_spec hs.wf hdom hcod
          simp only [he]
          have hs' : Deriv all start s' :=
            ⟨w', c'.trans hs.cod, b' ▸ List.forall_mem_cons.mpr ⟨hp' _ hmem, hs.boxes⟩,
              o' ▸ List.forall_mem_cons.mpr ⟨rfl, hs.offsets⟩⟩
          exact ih (shuffleBy prods perm) orc' s' hs' hp' (by rw [b']; simp; omega)

/-- A generated sentence: closed derivation of `start`, fewer boxes than `max_depth`. -/
def Generated (P : CfgParams) (s : Diagram) : Prop :=
  Deriv P.productions P.start s ∧ s.dom = [] ∧ s.boxes.length < P.maxDepth.toNat

theorem genLoop_spec (P : CfgParams) :
    ∀ (k : Nat) (n : Int) (prods : List Box) (orc : List (List Nat)) (cache acc : List Diagram),
      (∀ p ∈ prods, p ∈ P.productions) → (∀ s ∈ acc, Generated P s) →
      Outcome (fun res => ∀ s ∈ res, Generated P s) (· = .fuel)
        (genLoop P k n prods orc cache acc) := by
  intro k
  induction k with
  | zero =>
    intro n prods orc cache acc _ hacc
    exact .ok hacc
  | succ k ih =>
    intro n prods orc cache acc hp hacc
    simp only [genLoop]
    by_cases hc : n ≤ (if P.maxSentences = 0 then n else P.maxSentences)
    · simp only [hc, not_true_eq_false, ↓reduceIte]
      have g := growLoop_spec P.productions P.notTwice P.start P.maxDepth.toNat
        P.maxDepth.toNat prods orc (Diagram.id P.start) (Deriv.id _ _) hp (by simp [Diagram.id])
      cases hg : growLoop P.notTwice P.maxDepth.toNat prods orc (Diagram.id P.start) with
      | error e => exact .error (g.of_error hg)
      | ok res =>
        obtain ⟨o, prods', orc'⟩ := res
        obtain ⟨hp', hs⟩ := g.of_ok hg
        cases o with
        | none => exact ih n prods' orc' cache acc hp' hacc
        | some s =>
          simp only
          split
          · exact ih n prods' orc' cache acc hp' hacc
          · refine ih (n + 1) prods' orc' _ (acc ++ [s]) hp' ?_
            intro s' hs'
            rcases List.mem_append.mp hs' with h | h
            · exact hacc s' h
            · rw [List.mem_singleton.mp h]; exact hs s rfl
    · simp only [hc, not_false_eq_true, ↓reduceIte]
      exact .ok hacc

theorem cfgGenerate_outcome (P : CfgParams) (oracle : List (List Nat)) :
    Outcome (fun res => ∀ s ∈ res, Generated P s) (· = .fuel) (cfgGenerate P oracle) :=
  genLoop_spec P _ 1 P.productions oracle [] [] (fun _ h => h) (by simp)

/-! ## Part E — biclosed2rigid -/

@[simp] theorem BTy.img_nil : BTy.img [] = [] := by simp [BTy.img]
@[simp] theorem BTy.img_cons (x : BOb) (xs : BTy) : BTy.img (x :: xs) = x.img ++ BTy.img xs := by
  simp [BTy.img]

/-- The object map is monoidal. -/
theorem BTy.img_append (a b : BTy) : BTy.img (a ++ b) = BTy.img a ++ BTy.img b := by
  induction a with
  | nil => simp
  | cons x xs ih => simp [ih]

/-- `F(x << y) = F x @ (F y).l` -/
@[simp] theorem BTy.img_over (l r : BTy) :
    BTy.img (BTy.over l r) = BTy.img l ++ Ty.l (BTy.img r) := by
  simp [BTy.over, BOb.img]
/-- `F(x >> y) = (F x).r @ F y` -/
@[simp] theorem BTy.img_under (l r : BTy) :
    BTy.img (BTy.under l r) = Ty.r (BTy.img l) ++ BTy.img r := by
  simp [BTy.under, BOb.img]

theorem BTy.first_eq_take (t : BTy) : t.first = t.take 1 := pySlice_take t 1
theorem BTy.rest_eq_drop (t : BTy) : t.rest = t.drop 1 := pySlice_drop t 1

@[simp] theorem BTy.first_cons (x : BOb) (xs : BTy) : BTy.first (x :: xs) = [x] := by
  simp [BTy.first_eq_take]
@[simp] theorem BTy.rest_cons (x : BOb) (xs : BTy) : BTy.rest (x :: xs) = xs := by
  simp [BTy.rest_eq_drop]

/-! ### the rigid images -/

/-- `-n or len` as a slice bound cuts off the last `n` elements, `n = 0` included
    (rigid.py:210, 248). -/
theorem pySlice_negOr_append {α} (a b : List α) :
    pySlice (a ++ b) none (some (negOr b.length (a ++ b).length)) = a ∧
      pySlice (a ++ b) (some (negOr b.length (a ++ b).length)) none = b := by
  have h : pyIdx (a ++ b).length (negOr b.length (a ++ b).length) = a.length := by
    unfold negOr
    split
    · rw [pyIdx_nat, Nat.min_self, List.length_append]; omega
    · rw [pyIdx_neg (by omega), List.length_append, Nat.add_sub_cancel]
  rw [pySlice_prefix, pySlice_suffix, h, List.take_left, List.drop_left]
  exact ⟨rfl, rfl⟩

theorem rigidFa_has (A B : Ty) : Has (rigidFa (A ++ Ty.l B) B) (A ++ Ty.l B ++ B) A := by
  have hoff : faOff (A ++ Ty.l B) B = negOr (Ty.l B).length (A ++ Ty.l B).length := by
    simp [faOff, negOr]
  obtain ⟨h1, h2⟩ := pySlice_negOr_append A (Ty.l B)
  unfold rigidFa
  rw [hoff, h1, h2]
  exact (Has.tensorE (Has.id A) (Has.cups (Or.inl (Ty.l_r B)))).cast (by simp) (by simp)

/-- `len(left) or -len(right)` (rigid.py:216) is the length of `left`, counted from the end of
    `right` when `left` is empty. -/
theorem rigidBa_has (A B : Ty) : Has (rigidBa A (Ty.r A ++ B)) (A ++ (Ty.r A ++ B)) B := by
  have h : pyIdx (Ty.r A ++ B).length (baOff A (Ty.r A ++ B)) = (Ty.r A).length := by
    simp only [baOff, List.length_append, Ty.r_length]
    split
    · have hA : A.length = 0 := by omega
      rw [hA, Nat.zero_add]
      by_cases hB : B.length = 0
      · rw [hB]; rfl
      · rw [pyIdx_neg (by omega), Nat.sub_self]
    · rw [pyIdx_nat]; omega
  unfold rigidBa
  rw [pySlice_prefix, pySlice_suffix, h, List.take_left, List.drop_left]
  exact (Has.tensorE (Has.cups (Or.inl rfl)) (Has.id B)).cast (by simp) (by simp)

theorem rigidFc_has (A B D : Ty) :
    Has (rigidFc A B D) (A ++ Ty.l B ++ (B ++ Ty.l D)) (A ++ Ty.l D) :=
  (Has.tensorE (Has.tensorE (Has.id A) (Has.cups (Or.inl (Ty.l_r B)))) (Has.id (Ty.l D))).cast
    (by simp) (by simp)

theorem rigidBc_has (A B D : Ty) :
    Has (rigidBc A B D) (Ty.r A ++ B ++ (Ty.r B ++ D)) (Ty.r A ++ D) :=
  (Has.tensorE (Has.tensorE (Has.id (Ty.r A)) (Has.cups (Or.inl rfl))) (Has.id D)).cast
    (by simp) (by simp)

theorem rigidFx_has (A B C : Ty) :
    Has (rigidFx A B C) (A ++ Ty.l B ++ (Ty.r C ++ B)) (Ty.r C ++ A) :=
  (Has.thenE
    (Has.tensorE (Has.tensorE (Has.id A) (Has.swap (Ty.l B) (Ty.r C))) (Has.id B))
    (Has.tensorE (Has.swap A (Ty.r C)) (Has.cups (Or.inl (Ty.l_r B))))
    (by simp)).cast (by simp) (by simp)

theorem rigidBx_has (L M R : Ty) :
    Has (rigidBx L M R) (M ++ Ty.l L ++ (Ty.r M ++ R)) (R ++ Ty.l L) :=
  (Has.thenE
    (Has.tensorE (Has.tensorE (Has.id M) (Has.swap (Ty.l L) (Ty.r M))) (Has.id R))
    (Has.tensorE (Has.cups (Or.inl rfl)) (Has.swap (Ty.l L) R))
    (by simp)).cast (by simp) (by simp)

/-! ### rule boxes -/

/-- Where the code as it is translates `BA` correctly: the left side of the `Under` is exactly
    one object (finding F10).  No restriction once the repair is in. -/
def Rule.okFor (v : Variant) : Rule → Prop
  | .ba l _ => v.baRepaired = true ∨ l.length = 1
  | _ => True

/-- The repaired split `dom[:-1] / dom[-1:]` always takes the `Under` off the end; the split
    `dom[:1] / dom[1:]` of the code as it is does so when one object precedes it. -/
theorem baSplit_ok {rep : Bool} {l : BTy} (h : rep = true ∨ l.length = 1) (u : BOb) :
    baSplit rep (l ++ [u]) = (l, [u]) := by
  cases rep with
  | true =>
    obtain ⟨h1, h2⟩ := pySlice_neg_append l [u] (by simp)
    exact Prod.ext h1 h2
  | false =>
    match l, h.resolve_left (by simp) with
    | [x], _ => simp [baSplit]

/-! The image of each rule box in terms of the constructor's arguments: `dom[:1]`, `dom[1:]`
    and their `.left` / `.right` (biclosed.py:273-292) recover them from `box.dom`; FC … BX never
    look at the argument the constructor test equates with another. -/

theorem Rule.imgCore_fa (v : Variant) (l r : BTy) :
    (Rule.fa l r).imgCore v = rigidFa (BTy.img l ++ Ty.l (BTy.img r)) (BTy.img r) := by
  simp [Rule.imgCore, Rule.dom, BTy.over, BOb.img]

theorem Rule.imgCore_ba (v : Variant) {l : BTy} (r : BTy) (hok : (Rule.ba l r).okFor v) :
    (Rule.ba l r).imgCore v = rigidBa (BTy.img l) (Ty.r (BTy.img l) ++ BTy.img r) := by
  simp [Rule.imgCore, Rule.dom, BTy.under, baSplit_ok hok, BOb.img]

theorem Rule.imgCore_fc (v : Variant) (a b c d : BTy) :
    (Rule.fc a b c d).imgCore v = rigidFc (BTy.img a) (BTy.img b) (BTy.img d) := by
  simp [Rule.imgCore, Rule.dom, BTy.over, fcImg, BTy.left?, BTy.right?]

theorem Rule.imgCore_bc (v : Variant) (a b c d : BTy) :
    (Rule.bc a b c d).imgCore v = rigidBc (BTy.img a) (BTy.img b) (BTy.img d) := by
  simp [Rule.imgCore, Rule.dom, BTy.under, fcImg, BTy.left?, BTy.right?]

theorem Rule.imgCore_fx (v : Variant) (a b c d : BTy) :
    (Rule.fx a b c d).imgCore v = rigidFx (BTy.img a) (BTy.img b) (BTy.img c) := by
  simp [Rule.imgCore, Rule.dom, BTy.over, BTy.under, fxImg, BTy.left?, BTy.right?]

theorem Rule.imgCore_bx (v : Variant) (a b c d : BTy) :
    (Rule.bx a b c d).imgCore v = rigidBx (BTy.img b) (BTy.img a) (BTy.img d) := by
  simp [Rule.imgCore, Rule.dom, BTy.over, BTy.under, bxImg, BTy.left?, BTy.right?]

theorem Rule.img_has (v : Variant) (r : Rule) (hc : r.check = true) (hok : r.okFor v) :
    Has (r.img v) (BTy.img r.dom) (BTy.img r.cod) := by
  rw [Rule.img, if_pos hc]
  cases r with
  | gen name dom cod => exact Has.ofBox _
  | dgen name dom cod =>
    exact Has.ofBox (Box.dag { name := name, dom := BTy.img cod, cod := BTy.img dom })
  | fa l r =>
    rw [Rule.imgCore_fa]
    simpa [Rule.dom, Rule.cod, BTy.img_append] using rigidFa_has (BTy.img l) (BTy.img r)
  | ba l r =>
    rw [Rule.imgCore_ba v r hok]
    simpa [Rule.dom, Rule.cod, BTy.img_append] using rigidBa_has (BTy.img l) (BTy.img r)
  | fc a b c d =>
    obtain rfl : b = c := by simpa [Rule.check] using hc
    rw [Rule.imgCore_fc]
    simpa [Rule.dom, Rule.cod, BTy.img_append] using
      rigidFc_has (BTy.img a) (BTy.img b) (BTy.img d)
  | bc a b c d =>
    obtain rfl : b = c := by simpa [Rule.check] using hc
    rw [Rule.imgCore_bc]
    simpa [Rule.dom, Rule.cod, BTy.img_append] using
      rigidBc_has (BTy.img a) (BTy.img b) (BTy.img d)
  | fx a b c d =>
    obtain rfl : b = d := by simpa [Rule.check] using hc
    rw [Rule.imgCore_fx]
    simpa [Rule.dom, Rule.cod, BTy.img_append] using
      rigidFx_has (BTy.img a) (BTy.img b) (BTy.img c)
  | bx a b c d =>
    obtain rfl : a = c := by simpa [Rule.check] using hc
    rw [Rule.imgCore_bx]
    simpa [Rule.dom, Rule.cod, BTy.img_append] using
      rigidBx_has (BTy.img b) (BTy.img a) (BTy.img d)

/-! ### Curry boxes -/

/-- Where the code as it is translates `Curry(d, n_wires, left)` correctly: left currying
    always; right currying when the curried wires have a non-empty image (finding F14). -/
def curryOkFor (v : Variant) (ddom : BTy) (n : Int) (left : Bool) : Prop :=
  left = true ∨ v.curryRepaired = true ∨ BTy.img (curryWires ddom n false) ≠ []

theorem negOr_zero (len : Nat) : negOr 0 len = (len : Int) := by simp [negOr]
theorem negOr_ne {n : Int} (h : n ≠ 0) (len : Nat) : negOr n len = -n := by
  simp only [negOr]; split
  · omega
  · rfl

theorem pySlice_from_length {α} (xs : List α) : pySlice xs (some (xs.length : Int)) none = [] := by
  rw [pySlice_drop]; simp
theorem pySlice_take_zero {α} (xs : List α) : pySlice xs none (some 0) = [] := by
  have := pySlice_take xs 0; simpa using this

/-- The code as it is cuts at `-n` where the repair cuts at `-n or len`: the same unless `n = 0`. -/
theorem curryCut_eq_negOr {rep : Bool} {n : Int} (h : rep = true ∨ n ≠ 0) (len : Nat) :
    curryCut rep n len = negOr n len := by
  rcases h with rfl | h
  · rfl
  · cases rep <;> simp [curryCut, negOr_ne h]

theorem rigidCurryLeft_has {g : Diagram} (hg : g.WF) (W R : Ty) (hd : g.dom = W ++ R) :
    Has (rigidCurryLeft g (W.length : Int)) R (Ty.r W ++ g.cod) := by
  unfold rigidCurryLeft
  rw [hd, pySlice_take_append, pySlice_drop_append]
  have top := Has.tensorE (Has.caps (left := Ty.r W) (right := W) (Or.inr rfl)) (Has.id R)
  have bot := Has.tensorE (Has.id (Ty.r W)) (Has.ok hg)
  exact (Has.thenE top bot (by rw [hd]; simp)).cast (by simp) rfl

theorem rigidCurryRight_has {g : Diagram} (hg : g.WF) (rep : Bool) (C W : Ty)
    (hd : g.dom = C ++ W) (hok : rep = true ∨ W ≠ []) :
    Has (rigidCurryRight rep g (W.length : Int)) C (g.cod ++ Ty.l W) := by
  have hcut : curryCut rep (W.length : Int) g.dom.length = negOr W.length g.dom.length :=
    curryCut_eq_negOr (hok.imp id (fun h => by have := List.length_pos_iff.mpr h; omega)) _
  obtain ⟨h1, h2⟩ := pySlice_negOr_append C W
  unfold rigidCurryRight
  rw [hcut, hd, h1, h2]
  have top := Has.tensorE (Has.id C) (Has.caps (left := W) (right := Ty.l W) (Or.inr (Ty.l_r W)))
  have bot := Has.tensorE (Has.ok hg) (Has.id (Ty.l W))
  exact (Has.thenE top bot (by rw [hd]; simp)).cast (by simp) rfl

/-- Type preservation for `Curry` boxes, given a type-preserving image `g` of the curried
    diagram: every `n_wires` (negative and out-of-range included), both sides. -/
theorem curryImg_has (v : Variant) (ddom dcod : BTy) (g : Diagram) (n : Int) (left : Bool)
    (hg : g.WF) (hd : g.dom = BTy.img ddom) (hc : g.cod = BTy.img dcod)
    (hok : curryOkFor v ddom n left) :
    Has (curryImg v ddom g n left) (BTy.img (curryDom v ddom n left))
      (BTy.img (curryCod ddom dcod n left)) := by
  cases left with
  | true =>
    simp only [curryImg, rigidCurry, ↓reduceIte, curryWires, curryDom, curryCod, BTy.img_under]
    rw [← hc]
    exact rigidCurryLeft_has hg _ _ (by rw [hd, ← BTy.img_append, pySlice_split])
  | false =>
    simp only [curryImg, rigidCurry, Bool.false_eq_true, ↓reduceIte, curryWires, curryDom, curryCod,
      BTy.img_over]
    rw [← hc]
    have hok' : v.curryRepaired = true ∨
        BTy.img (pySlice ddom (some (negOr n ddom.length)) none) ≠ [] := by
      rcases hok with h | h | h
      · cases h
      · exact Or.inl h
      · exact Or.inr (by simpa [curryWires] using h)
    have hcut : curryCut v.curryRepaired n ddom.length = negOr n ddom.length := by
      refine curryCut_eq_negOr (hok'.imp id (fun h hn => h ?_)) _
      rw [hn, negOr_zero, pySlice_from_length, BTy.img_nil]
    refine rigidCurryRight_has hg _ _ _ ?_ hok'
    rw [hcut, hd, ← BTy.img_append, pySlice_split]

/-! ### biclosed diagrams -/

/-- `bdom` sits in `scan` at offset `off`. -/
def Fits (scan : BTy) (off : Int) (bdom : BTy) : Prop :=
  ∃ pre post, scan = pre ++ bdom ++ post ∧ off = (pre.length : Int)

/-- The biclosed diagram is well-typed: every box passes its constructor test and finds its
    domain at its offset (Curry boxes: the curried diagram is well-typed too). -/
def BD.Typed (v : Variant) : BD → Prop
  | .id _ => True
  | .snoc d off r => d.Typed v ∧ r.check = true ∧ Fits (d.cod v) off r.dom
  | .snocCurry d off inner n left =>
    d.Typed v ∧ inner.Typed v ∧ Fits (d.cod v) off (curryDom v inner.dom n left)

/-- No box of the diagram (nor of a curried diagram inside) is of a shape the variant
    mistranslates (F10: `BA` whose left side is not one object; F14: right-currying wires
    with an empty image). -/
def BD.Avoids (v : Variant) : BD → Prop
  | .id _ => True
  | .snoc d _ r => d.Avoids v ∧ r.okFor v
  | .snocCurry d _ inner n left => d.Avoids v ∧ inner.Avoids v ∧ curryOkFor v inner.dom n left

theorem Rule.okFor_repaired (r : Rule) : r.okFor Variant.repaired := by
  cases r <;> simp [Rule.okFor, Variant.repaired]

theorem BD.avoids_repaired (d : BD) : d.Avoids Variant.repaired := by
  induction d with
  | id _ => trivial
  | snoc d off r ih => exact ⟨ih, Rule.okFor_repaired r⟩
  | snocCurry d off inner n left ih1 ih2 =>
    exact ⟨ih1, ih2, Or.inr (Or.inl rfl)⟩

theorem scanStep_fits {pre bdom post : BTy} (bcod : BTy) :
    scanStep (pre ++ bdom ++ post) (pre.length : Int) bdom bcod = pre ++ bcod ++ post := by
  simp only [scanStep, pySlice_before, pySlice_after]

theorem imgLayer_has {res : Diagram} {D : Ty} {scan bdom bcod : BTy} {off : Int}
    {fbox : Except Err Diagram} (hres : Has (.ok res) D (BTy.img scan)) (hfit : Fits scan off bdom)
    (hbox : Has fbox (BTy.img bdom) (BTy.img bcod)) :
    Has (imgLayer res scan off bdom fbox) D (BTy.img (scanStep scan off bdom bcod)) := by
  obtain ⟨pre, post, rfl, rfl⟩ := hfit
  simp only [imgLayer, scanStep_fits, pySlice_before, pySlice_after]
  have layer := Has.tensorE (Has.tensorE (Has.id (BTy.img pre)) hbox) (Has.id (BTy.img post))
  exact (Has.thenE hres layer (by simp [BTy.img_append])).cast rfl (by simp [BTy.img_append])

/-- Type preservation of the translation of whole biclosed diagrams. -/
theorem BD.img_has (v : Variant) (d : BD) (ht : d.Typed v) (ha : d.Avoids v) :
    Has (d.img v) (BTy.img d.dom) (BTy.img (d.cod v)) := by
  induction d with
  | id t => exact Has.id _
  | snoc d off r ih =>
    obtain ⟨ht1, hc, hfit⟩ := ht
    obtain ⟨ha1, hok⟩ := ha
    obtain ⟨res, hres, rw_, rd, rc⟩ := ih ht1 ha1
    simp only [BD.img, hres, BD.dom, BD.cod]
    exact imgLayer_has ⟨res, rfl, rw_, rd, rc⟩ hfit (Rule.img_has v r hc hok)
  | snocCurry d off inner n left ih1 ih2 =>
    obtain ⟨ht1, ht2, hfit⟩ := ht
    obtain ⟨ha1, ha2, hok⟩ := ha
    obtain ⟨res, hres, rw_, rd, rc⟩ := ih1 ht1 ha1
    obtain ⟨g, hg, gw, gd, gc⟩ := ih2 ht2 ha2
    simp only [BD.img, hres, hg, BD.dom, BD.cod]
    exact imgLayer_has ⟨res, rfl, rw_, rd, rc⟩ hfit (curryImg_has v _ _ g n left gw gd gc hok)

/-- `biclosed2rigid(Curry(inner, n, left))` on the box itself. -/
theorem BD.curryBoxImg_has (v : Variant) (inner : BD) (n : Int) (left : Bool)
    (ht : inner.Typed v) (ha : inner.Avoids v) (hok : curryOkFor v inner.dom n left) :
    Has (BD.curryBoxImg v inner n left) (BTy.img (curryDom v inner.dom n left))
      (BTy.img (curryCod inner.dom (inner.cod v) n left)) := by
  obtain ⟨g, hg, gw, gd, gc⟩ := BD.img_has v inner ht ha
  simp only [BD.curryBoxImg, hg]
  exact curryImg_has v _ _ g n left gw gd gc hok

/-! ## Part F — ccg.cat2ty returns categories; tensor and composition; tree2diagram -/

/- A CCG category as a biclosed type: one object, and so on down every slash. -/
mutual
def BOb.Simple : BOb → Prop
  | .atom _ => True
  | .over l r => BTy.Simple1 l ∧ BTy.Simple1 r
  | .under l r => BTy.Simple1 l ∧ BTy.Simple1 r
def BTy.Simple1 : BTy → Prop
  | [] => False
  | x :: xs => x.Simple ∧ xs = []
end

theorem BTy.Simple1.length {t : BTy} (h : t.Simple1) : t.length = 1 := by
  match t, h with
  | [_], _ => rfl

theorem BTy.simple1_singleton {x : BOb} : BTy.Simple1 [x] ↔ x.Simple := by
  simp [BTy.Simple1]

theorem BTy.Simple1.mem {t : BTy} (h : t.Simple1) {x : BOb} (hx : x ∈ t) : x.Simple := by
  match t, h, hx with
  | [y], h, hx =>
    rw [List.mem_singleton.mp hx]
    exact BTy.simple1_singleton.mp h

/-- `cat2ty` only produces categories.  The proof follows the model's matches level by level:
    no slash — an atom; otherwise both `unbracket`s and both recursive calls must have returned,
    in the order of the slash's branch, and the result is one `Over`/`Under` of their results. -/
theorem cat2tyFuel_simple : ∀ (n : Nat) (s : List Char) (t : BTy), cat2tyFuel n s = .ok t → t.Simple1
  | 0, _, _, h => by simp [cat2tyFuel] at h
  | n + 1, s, t, h => by
    simp only [cat2tyFuel] at h
    split at h
    · cases h; simp [BTy.Simple1, BOb.Simple]
    · split at h
      · cases h
      · split at h
        · cases h
        · split at h
          · split at h
            · cases h
            · rename_i R hR
              split at h
              · cases h
              · rename_i L hL
                cases h
                exact BTy.simple1_singleton.mpr
                  ⟨cat2tyFuel_simple n _ R hR, cat2tyFuel_simple n _ L hL⟩
          · split at h
            · cases h
            · rename_i L hL
              split at h
              · cases h
              · rename_i R hR
                cases h
                exact BTy.simple1_singleton.mpr
                  ⟨cat2tyFuel_simple n _ L hL, cat2tyFuel_simple n _ R hR⟩

theorem cat2ty_simple {s : List Char} {t : BTy} (h : cat2ty s = .ok t) : t.Simple1 :=
  cat2tyFuel_simple _ _ t h

/-! ### tensor and composition of biclosed diagrams -/

theorem Fits.append_right {scan bdom : BTy} {off : Int} (h : Fits scan off bdom) (x bcod : BTy) :
    Fits (scan ++ x) off bdom ∧
      scanStep (scan ++ x) off bdom bcod = scanStep scan off bdom bcod ++ x := by
  obtain ⟨pre, post, rfl, rfl⟩ := h
  have e : pre ++ bdom ++ post ++ x = pre ++ bdom ++ (post ++ x) := by simp
  rw [e, scanStep_fits, scanStep_fits]
  exact ⟨⟨pre, post ++ x, rfl, rfl⟩, by simp⟩

theorem Fits.append_left {scan bdom : BTy} {off : Int} (h : Fits scan off bdom) (A bcod : BTy) :
    Fits (A ++ scan) (off + (A.length : Int)) bdom ∧
      scanStep (A ++ scan) (off + (A.length : Int)) bdom bcod = A ++ scanStep scan off bdom bcod := by
  obtain ⟨pre, post, rfl, rfl⟩ := h
  have e : A ++ (pre ++ bdom ++ post) = A ++ pre ++ bdom ++ post := by simp
  have eo : (pre.length : Int) + (A.length : Int) = ((A ++ pre).length : Int) := by
    simp [Int.add_comm]
  rw [e, eo, scanStep_fits, scanStep_fits]
  exact ⟨⟨A ++ pre, post, rfl, rfl⟩, by simp⟩

@[simp] theorem BD.mapDom_dom (f : BTy → BTy) (d : BD) : (d.mapDom f).dom = f d.dom := by
  induction d <;> simp_all [BD.mapDom, BD.dom]

theorem BD.mapDom_spec (v : Variant) (x : BTy) (d : BD) (ht : d.Typed v) (ha : d.Avoids v) :
    (d.mapDom (· ++ x)).Typed v ∧ (d.mapDom (· ++ x)).Avoids v ∧
      (d.mapDom (· ++ x)).cod v = d.cod v ++ x := by
  induction d with
  | id t => exact ⟨trivial, trivial, rfl⟩
  | snoc d off r ih =>
    obtain ⟨ht1, hc, hfit⟩ := ht
    obtain ⟨i1, i2, i3⟩ := ih ht1 ha.1
    obtain ⟨f, e⟩ := hfit.append_right x r.cod
    rw [← i3] at f e
    exact ⟨⟨i1, hc, f⟩, ⟨i2, ha.2⟩, e⟩
  | snocCurry d off inner n left ih _ =>
    obtain ⟨ht1, ht2, hfit⟩ := ht
    obtain ⟨i1, i2, i3⟩ := ih ht1 ha.1
    obtain ⟨f, e⟩ := hfit.append_right x (curryCod inner.dom (inner.cod v) n left)
    rw [← i3] at f e
    exact ⟨⟨i1, ht2, f⟩, ⟨i2, ha.2⟩, e⟩

@[simp] theorem BD.appendSteps_dom (a : BD) (k : Int) (b : BD) : (a.appendSteps k b).dom = a.dom := by
  induction b <;> simp_all [BD.appendSteps, BD.dom]

/-- The boxes of a well-typed `b` on top of `a`, to the right of `A`. -/
theorem BD.appendSteps_spec (v : Variant) (a : BD) (A : BTy) (hat : a.Typed v) (haa : a.Avoids v) :
    ∀ (b : BD), b.Typed v → b.Avoids v → a.cod v = A ++ b.dom →
      (a.appendSteps (A.length : Int) b).Typed v ∧ (a.appendSteps (A.length : Int) b).Avoids v ∧
        (a.appendSteps (A.length : Int) b).cod v = A ++ b.cod v := by
  intro b
  induction b with
  | id t => intro _ _ h; exact ⟨hat, haa, h⟩
  | snoc d off r ih =>
    intro ht ha h
    obtain ⟨ht1, hc, hfit⟩ := ht
    obtain ⟨i1, i2, i3⟩ := ih ht1 ha.1 h
    obtain ⟨f, e⟩ := hfit.append_left A r.cod
    rw [← i3] at f e
    exact ⟨⟨i1, hc, f⟩, ⟨i2, ha.2⟩, e⟩
  | snocCurry d off inner n left ih _ =>
    intro ht ha h
    obtain ⟨ht1, ht2, hfit⟩ := ht
    obtain ⟨i1, i2, i3⟩ := ih ht1 ha.1 h
    obtain ⟨f, e⟩ := hfit.append_left A (curryCod inner.dom (inner.cod v) n left)
    rw [← i3] at f e
    exact ⟨⟨i1, ht2, f⟩, ⟨i2, ha.2⟩, e⟩

theorem BD.tensor_spec (v : Variant) (a b : BD) (hat : a.Typed v) (haa : a.Avoids v)
    (hbt : b.Typed v) (hba : b.Avoids v) :
    (a.tensor v b).Typed v ∧ (a.tensor v b).Avoids v ∧ (a.tensor v b).dom = a.dom ++ b.dom ∧
      (a.tensor v b).cod v = a.cod v ++ b.cod v := by
  obtain ⟨m1, m2, m3⟩ := BD.mapDom_spec v b.dom a hat haa
  obtain ⟨s1, s2, s3⟩ := BD.appendSteps_spec v _ (a.cod v) m1 m2 b hbt hba m3
  exact ⟨s1, s2, by simp [BD.tensor], s3⟩

theorem BD.tensorAll_spec (v : Variant) (kids : List BD) :
    ∀ (acc : BD), acc.Typed v → acc.Avoids v → (∀ k ∈ kids, k.Typed v ∧ k.Avoids v) →
      (BD.tensorAll v acc kids).Typed v ∧ (BD.tensorAll v acc kids).Avoids v ∧
        (BD.tensorAll v acc kids).dom = acc.dom ++ kids.flatMap (·.dom) := by
  induction kids with
  | nil => intro acc h1 h2 _; exact ⟨h1, h2, by simp [BD.tensorAll]⟩
  | cons k ks ih =>
    intro acc h1 h2 hk
    obtain ⟨hkt, hka⟩ := hk k (by simp)
    obtain ⟨t1, t2, t3, _⟩ := BD.tensor_spec v acc k h1 h2 hkt hka
    obtain ⟨r1, r2, r3⟩ := ih _ t1 t2 (fun k' hk' => hk k' (by simp [hk']))
    refine ⟨r1, r2, ?_⟩
    simp only [BD.tensorAll]
    rw [r3, t3]
    simp

theorem BD.then_spec (v : Variant) {a b r : BD} (hat : a.Typed v) (haa : a.Avoids v)
    (hbt : b.Typed v) (hba : b.Avoids v) (h : a.then v b = .ok r) :
    r.Typed v ∧ r.Avoids v ∧ r.dom = a.dom ∧ r.cod v = b.cod v := by
  simp only [BD.then] at h
  split at h
  · cases h
  · rename_i hne
    simp only [ne_eq, Decidable.not_not] at hne
    cases h
    obtain ⟨s1, s2, s3⟩ := BD.appendSteps_spec v a [] hat haa b hbt hba (by simpa using hne)
    exact ⟨by simpa using s1, by simpa using s2, by simp, by simpa using s3⟩

/-! ### tree2diagram -/

/-- What `tree2diagram` returns: a well-typed closed biclosed diagram whose codomain is a
    category and which contains no box of the shapes of F10/F14 — for either variant. -/
structure TreeGood (v : Variant) (D : BTy) (d : BD) : Prop where
  typed : d.Typed v
  avoids : d.Avoids v
  dom : d.dom = D
  cod : (d.cod v).Simple1

/-- `dom or cod[0:0]` is `dom` (both read the empty type when `dom` is falsy). -/
theorem wordDom_eq (dom cod : BTy) : wordDom dom cod = dom := by
  unfold wordDom
  split
  · rename_i h
    subst h
    simp [pySlice, pyLo, pyHi, pyIdx]
  · rfl

theorem CTree.domOf_nil (t : CTree) : t.domOf [] = [] := by cases t <;> rfl

theorem mkWord_check (name : String) (cod dom : BTy) (dg : Bool) : (mkWord name cod dom dg).check = true := by
  cases dg <;> rfl

theorem mkWord_okFor (v : Variant) (name : String) (cod dom : BTy) (dg : Bool) :
    (mkWord name cod dom dg).okFor v := by
  cases dg <;> trivial

theorem mkWord_dom (name : String) (cod dom : BTy) (dg : Bool) : (mkWord name cod dom dg).dom = dom := by
  cases dg <;> simp [mkWord, Rule.dom, wordDom_eq]

theorem mkWord_cod (name : String) (cod dom : BTy) (dg : Bool) : (mkWord name cod dom dg).cod = cod := by
  cases dg <;> simp [mkWord, Rule.cod]

theorem BD.ofRule_spec (v : Variant) (r : Rule) (hc : r.check = true) (hok : r.okFor v) :
    (BD.ofRule r).Typed v ∧ (BD.ofRule r).Avoids v ∧ (BD.ofRule r).dom = r.dom ∧
      (BD.ofRule r).cod v = r.cod := by
  refine ⟨⟨trivial, hc, [], [], by simp [BD.cod], rfl⟩, ⟨trivial, hok⟩, rfl, ?_⟩
  simpa [BD.ofRule, BD.cod] using scanStep_fits (pre := []) (bdom := r.dom) (post := []) r.cod

theorem mkFA_ok {t : BTy} {box : Rule} (h : mkFA t = .ok box) :
    ∃ l r, t = [.over l r] ∧ box = .fa l r := by
  unfold mkFA at h
  split at h
  · cases h; exact ⟨_, _, rfl, rfl⟩
  · cases h

theorem mkBA_ok {t : BTy} {box : Rule} (h : mkBA t = .ok box) :
    ∃ l r, t = [.under l r] ∧ box = .ba l r := by
  unfold mkBA at h
  split at h
  · cases h; exact ⟨_, _, rfl, rfl⟩
  · cases h

theorem mkFC_ok {s t : BTy} {box : Rule} (h : mkFC s t = .ok box) :
    ∃ a b d, s = [.over a b] ∧ t = [.over b d] ∧ box = .fc a b b d := by
  unfold mkFC at h
  split at h
  · split at h
    · rename_i hbc; subst hbc; cases h; exact ⟨_, _, _, rfl, rfl, rfl⟩
    · cases h
  · cases h

/-- The rule box of an inner node, over categories: the slash types it is built from are among
    the children's codomains (`dom[:1]`, `dom[1:]`), so a `BA` has one object on its left. -/
theorem nodeBox_spec (v : Variant) {type : String} {dom cod : BTy} {box : Rule}
    (hdom : ∀ x ∈ dom, x.Simple) (hcod : cod.Simple1) (h : nodeBox type dom cod = .ok box) :
    box.check = true ∧ box.okFor v ∧ box.cod.Simple1 := by
  have hfirst : ∀ x ∈ dom.first, x.Simple := fun x hx =>
    hdom x (List.mem_of_mem_take (BTy.first_eq_take dom ▸ hx))
  have hrest : ∀ x ∈ dom.rest, x.Simple := fun x hx =>
    hdom x (List.mem_of_mem_drop (BTy.rest_eq_drop dom ▸ hx))
  simp only [nodeBox] at h
  split at h
  · obtain ⟨l, r, e, rfl⟩ := mkBA_ok h
    have hs := hrest (.under l r) (by simp [e])
    simp only [BOb.Simple] at hs
    exact ⟨rfl, Or.inr hs.1.length, hs.2⟩
  · split at h
    · obtain ⟨l, r, e, rfl⟩ := mkFA_ok h
      have hs := hfirst (.over l r) (by simp [e])
      simp only [BOb.Simple] at hs
      exact ⟨rfl, trivial, hs.1⟩
    · split at h
      · obtain ⟨a, b, d, e1, e2, rfl⟩ := mkFC_ok h
        have h1 := hfirst (.over a b) (by simp [e1])
        have h2 := hrest (.over b d) (by simp [e2])
        simp only [BOb.Simple] at h1 h2
        exact ⟨by simp [Rule.check], trivial, BTy.simple1_singleton.mpr ⟨h1.1, h2.2⟩⟩
      · cases h
        exact ⟨rfl, trivial, hcod⟩

theorem nodeBD_good (v : Variant) {type : String} {cat : List Char} {kids : List BD} {d : BD}
    (hk : ∀ k ∈ kids, TreeGood v [] k) (h : nodeBD v type cat kids = .ok d) : TreeGood v [] d := by
  simp only [nodeBD] at h
  split at h
  · cases h
  · rename_i cod hcat
    split at h
    · cases h
    · rename_i box hbox
      have hdom : ∀ x ∈ kids.flatMap (fun k => k.cod v), x.Simple := by
        intro x hx
        obtain ⟨k, hk1, hk2⟩ := List.mem_flatMap.mp hx
        exact (hk k hk1).cod.mem hk2
      obtain ⟨hc, hok, hcs⟩ := nodeBox_spec v hdom (cat2ty_simple hcat) hbox
      obtain ⟨b1, b2, _, b4⟩ := BD.ofRule_spec v box hc hok
      obtain ⟨t1, t2, t3⟩ := BD.tensorAll_spec v kids (.id []) trivial trivial
        (fun k hk' => ⟨(hk k hk').typed, (hk k hk').avoids⟩)
      obtain ⟨r1, r2, r3, r4⟩ := BD.then_spec v t1 t2 b1 b2 h
      refine ⟨r1, r2, ?_, by rw [r4, b4]; exact hcs⟩
      rw [r3, t3]
      simp only [BD.dom, List.nil_append, List.flatMap_eq_nil_iff]
      exact fun k hk' => (hk k hk').dom

mutual
theorem CTree.toBD_good (v : Variant) :
    ∀ (t : CTree) (dom : BTy) (d : BD), t.toBD v dom = .ok d → TreeGood v (t.domOf dom) d
  | .word w cat, dom, d, h => by
    simp only [CTree.toBD] at h
    split at h
    · cases h
    · rename_i cod hcat
      cases h
      obtain ⟨b1, b2, b3, b4⟩ := BD.ofRule_spec v (mkWord w cod dom false) (mkWord_check ..)
        (mkWord_okFor v ..)
      exact ⟨b1, b2, by rw [b3, mkWord_dom]; rfl, by rw [b4, mkWord_cod]; exact cat2ty_simple hcat⟩
  | .node type cat children, dom, d, h => by
    simp only [CTree.toBD] at h
    split at h
    · cases h
    · rename_i kids hkids
      exact nodeBD_good v (CTree.listToBD_good v children kids hkids) h
theorem CTree.listToBD_good (v : Variant) :
    ∀ (ts : List CTree) (ds : List BD), CTree.listToBD v ts = .ok ds → ∀ d ∈ ds, TreeGood v [] d
  | [], ds, h => by
    simp only [CTree.listToBD] at h
    cases h
    simp
  | t :: ts, ds, h => by
    simp only [CTree.listToBD] at h
    split at h
    · cases h
    · rename_i d hd
      split at h
      · cases h
      · rename_i ds' hds'
        cases h
        intro x hx
        rcases List.mem_cons.mp hx with hx | hx
        · subst hx; exact t.domOf_nil ▸ CTree.toBD_good v t [] _ hd
        · exact CTree.listToBD_good v ts ds' hds' x hx
end

/-! ## Part G — cat2ty reads back printed categories -/

/-- A CCG category: an atom (with its feature annotations, e.g. `S[dcl]`), `res/arg` or
    `res\arg`. -/
inductive Cat where
  | atom (name : List Char)
  | fwd (res arg : Cat)
  | bwd (res arg : Cat)
  deriving Repr, Inhabited

def Cat.isAtom : Cat → Bool
  | .atom _ => true
  | _ => false

/-- Parentheses around everything but an atom. -/
def Cat.wrap (c : Cat) (s : List Char) : List Char := if c.isAtom then s else '(' :: (s ++ [')'])

/-- The fully parenthesised print (depccg's format): `(S\NP)/NP`. -/
def Cat.print : Cat → List Char
  | .atom n => n
  | .fwd a b => a.wrap a.print ++ '/' :: b.wrap b.print
  | .bwd a b => a.wrap a.print ++ '\\' :: b.wrap b.print

/-- The biclosed type a category denotes: `X/Y = X << Y`, `X\Y = Y >> X`, features dropped. -/
def Cat.ty : Cat → BTy
  | .atom n => [.atom (pyRepr (removeModifier n))]
  | .fwd a b => BTy.over a.ty b.ty
  | .bwd a b => BTy.under b.ty a.ty

def PlainChar (c : Char) : Prop := c ≠ '(' ∧ c ≠ ')' ∧ c ≠ '/' ∧ c ≠ '\\'

/-- Atom names are non-empty and contain no parenthesis or slash. -/
def Cat.Plain : Cat → Prop
  | .atom n => n ≠ [] ∧ ∀ c ∈ n, PlainChar c
  | .fwd a b => a.Plain ∧ b.Plain
  | .bwd a b => a.Plain ∧ b.Plain

theorem splitCat_plain (w : List Char) (hw : ∀ c ∈ w, PlainChar c) (rest : List Char) (k : Int)
    (acc : List Char) : splitCat (w ++ rest) k acc = splitCat rest k (w.reverse ++ acc) := by
  induction w generalizing acc with
  | nil => rfl
  | cons c w ih =>
    obtain ⟨h1, h2, h3, h4⟩ := hw c (by simp)
    have := ih (fun c' hc' => hw c' (by simp [hc'])) (c :: acc)
    simp only [List.cons_append, splitCat, h1, h2, h3, h4, ↓reduceIte, false_or, false_and, this,
      List.reverse_cons, List.append_assoc, List.nil_append]

theorem splitCat_open (s : List Char) (k : Int) (acc : List Char) :
    splitCat ('(' :: s) k acc = splitCat s (k + 1) ('(' :: acc) := by simp [splitCat]
theorem splitCat_close (s : List Char) (k : Int) (acc : List Char) :
    splitCat (')' :: s) k acc = splitCat s (k - 1) (')' :: acc) := by
  simp [splitCat]
theorem splitCat_slash_deep (c : Char) (hc : c = '/' ∨ c = '\\') (s : List Char) (k : Int)
    (hk : k ≠ 0) (acc : List Char) : splitCat (c :: s) k acc = splitCat s k (c :: acc) := by
  rcases hc with rfl | rfl
  · simp only [splitCat]; rw [if_neg (by decide), if_neg (by decide), if_neg (by simp [hk])]
  · simp only [splitCat]; rw [if_neg (by decide), if_neg (by decide), if_neg (by simp [hk])]
theorem splitCat_slash_top (c : Char) (hc : c = '/' ∨ c = '\\') (s : List Char) (acc : List Char) :
    splitCat (c :: s) 0 acc = some (acc.reverse, c, s) := by
  rcases hc with rfl | rfl
  · simp only [splitCat]; rw [if_neg (by decide), if_neg (by decide), if_pos (by simp)]
  · simp only [splitCat]; rw [if_neg (by decide), if_neg (by decide), if_pos (by simp)]

/-- `splitCat` walks over `s` without finding a split point, at every parenthesis depth `≥ d`. -/
def Skipped (d : Int) (s : List Char) : Prop :=
  ∀ (rest : List Char) (k : Int) (acc : List Char), d ≤ k →
    splitCat (s ++ rest) k acc = splitCat rest k (s.reverse ++ acc)

theorem Skipped.plain {w : List Char} (hw : ∀ c ∈ w, PlainChar c) (d : Int) : Skipped d w :=
  fun rest k acc _ => splitCat_plain w hw rest k acc

theorem Skipped.parens {s : List Char} (h : Skipped 1 s) : Skipped 0 ('(' :: (s ++ [')'])) := by
  intro rest k acc hk
  simp only [List.cons_append, List.append_assoc, splitCat_open]
  rw [h _ _ _ (by omega), List.nil_append, splitCat_close, show k + 1 - 1 = k by omega]
  simp

/-- Inside parentheses a slash is no split point. -/
theorem Skipped.slash {s t : List Char} (hs : Skipped 0 s) (ht : Skipped 0 t) {sl : Char}
    (hsl : sl = '/' ∨ sl = '\\') : Skipped 1 (s ++ sl :: t) := by
  intro rest k acc hk
  simp only [List.append_assoc, List.cons_append]
  rw [hs _ _ _ (by omega), splitCat_slash_deep _ hsl _ _ (by omega), ht _ _ _ (by omega)]
  simp

theorem Cat.wrap_skipped (c : Cat) (hc : c.Plain) (h : Skipped 1 c.print) :
    Skipped 0 (c.wrap c.print) := by
  cases c with
  | atom n => exact .plain hc.2 0
  | fwd a b => exact h.parens
  | bwd a b => exact h.parens

theorem Cat.print_skipped (c : Cat) (hc : c.Plain) : Skipped 1 c.print := by
  induction c with
  | atom n => exact .plain hc.2 1
  | fwd a b iha ihb =>
    exact .slash (a.wrap_skipped hc.1 (iha hc.1)) (b.wrap_skipped hc.2 (ihb hc.2)) (Or.inl rfl)
  | bwd a b iha ihb =>
    exact .slash (a.wrap_skipped hc.1 (iha hc.1)) (b.wrap_skipped hc.2 (ihb hc.2)) (Or.inr rfl)

/-- The first top-level slash of `wrap a ++ slash :: wrap b` is that slash. -/
theorem splitCat_top (a b : Cat) (ha : a.Plain) (sl : Char) (hsl : sl = '/' ∨ sl = '\\') :
    splitCat (a.wrap a.print ++ sl :: b.wrap b.print) 0 []
      = some (a.wrap a.print, sl, b.wrap b.print) := by
  rw [a.wrap_skipped ha (a.print_skipped ha) _ 0 [] (Int.le_refl 0), splitCat_slash_top _ hsl]
  simp

theorem splitCat_atom (n : List Char) (hn : ∀ c ∈ n, PlainChar c) : splitCat n 0 [] = none := by
  have := splitCat_plain n hn [] 0 []
  simp only [List.append_nil] at this
  rw [this]; rfl

theorem Cat.print_ne_nil (c : Cat) (hc : c.Plain) : c.print ≠ [] := by
  cases c with
  | atom n => exact hc.1
  | fwd a b => simp [Cat.print]
  | bwd a b => simp [Cat.print]

theorem pySlice_inner {α} (x y : α) (p : List α) :
    pySlice (x :: (p ++ [y])) (some 1) (some (-1)) = p := by
  have hlen : (x :: (p ++ [y])).length = p.length + 2 := by simp
  have i1 : pyIdx (p.length + 2) 1 = 1 := by
    unfold pyIdx; rw [if_neg (by omega)]; simp
  have i2 : pyIdx (p.length + 2) (-1) = p.length + 1 := by
    unfold pyIdx; rw [if_pos (by omega), if_neg (by omega)]; omega
  simp only [pySlice, pyLo, pyHi, hlen, i1, i2]
  simp

/-- `unbracket` undoes `wrap` (an atom does not start with a parenthesis). -/
theorem unbracket_wrap (c : Cat) (hc : c.Plain) : unbracket (c.wrap c.print) = .ok c.print := by
  cases c with
  | atom n =>
    obtain ⟨hne, hpl⟩ := hc
    match n, hne, hpl with
    | ch :: t, _, hpl =>
      have := (hpl ch (by simp)).1
      simp [Cat.wrap, Cat.isAtom, Cat.print, unbracket, this]
  | fwd a b =>
    simp only [Cat.wrap, Cat.isAtom, Bool.false_eq_true, ↓reduceIte, unbracket, pySlice_inner]
  | bwd a b =>
    simp only [Cat.wrap, Cat.isAtom, Bool.false_eq_true, ↓reduceIte, unbracket, pySlice_inner]

theorem Cat.wrap_length_ge (c : Cat) (s : List Char) : s.length ≤ (c.wrap s).length := by
  unfold Cat.wrap; split <;> simp <;> omega

/-- One step of `cat2ty` on `wrap a ++ slash :: wrap b`, given that both sides are read back. -/
theorem cat2tyFuel_slash (a b : Cat) (ha : a.Plain) (hb : b.Plain) (sl : Char)
    (hsl : sl = '/' ∨ sl = '\\')
    (iha : ∀ fuel, a.print.length + 1 ≤ fuel → cat2tyFuel fuel a.print = .ok a.ty)
    (ihb : ∀ fuel, b.print.length + 1 ≤ fuel → cat2tyFuel fuel b.print = .ok b.ty) :
    ∀ fuel, (a.wrap a.print ++ sl :: b.wrap b.print).length + 1 ≤ fuel →
      cat2tyFuel fuel (a.wrap a.print ++ sl :: b.wrap b.print) =
        .ok (if sl = '\\' then BTy.under b.ty a.ty else BTy.over a.ty b.ty) := by
  intro fuel hf
  match fuel, hf with
  | f + 1, hf =>
    have hla := Cat.wrap_length_ge a a.print
    have hlb := Cat.wrap_length_ge b b.print
    simp only [List.length_append, List.length_cons] at hf
    simp only [cat2tyFuel, splitCat_top a b ha sl hsl, unbracket_wrap a ha, unbracket_wrap b hb,
      iha f (by omega), ihb f (by omega)]
    split <;> rfl

/-- `cat2ty` reads the print of a plain category back to the type it denotes. -/
theorem cat2tyFuel_print (c : Cat) (hc : c.Plain) :
    ∀ fuel, c.print.length + 1 ≤ fuel → cat2tyFuel fuel c.print = .ok c.ty := by
  induction c with
  | atom n =>
    intro fuel hf
    match fuel, hf with
    | f + 1, _ => simp [cat2tyFuel, Cat.print, splitCat_atom n hc.2, Cat.ty]
  | fwd a b iha ihb =>
    exact cat2tyFuel_slash a b hc.1 hc.2 '/' (Or.inl rfl) (iha hc.1) (ihb hc.2)
  | bwd a b iha ihb =>
    exact cat2tyFuel_slash a b hc.1 hc.2 '\\' (Or.inr rfl) (iha hc.1) (ihb hc.2)

end DV
