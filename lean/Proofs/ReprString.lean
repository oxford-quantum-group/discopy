/-
  Proofs/ReprString.lean — the printed STRING determines the printed syntax tree.

  `RT.render` is uniquely decodable on trees whose atoms (name / data tokens, integer literals,
  constructor and keyword names) are "safe words": non-empty and free of the six characters
  `, ( ) [ ] =` that carry the bracket structure.  This is the explicit token-hygiene hypothesis:
  it holds for the reprs of identifier-like strings (`'abc'`), ints and floats; it does NOT hold
  for list- or dict-valued `data` (those print with brackets and commas of their own).

  Method: work on `List Char`; a safe word followed by a terminator splits uniquely
  (`word_split`); every node is recognised by its head word and the character after it
  (`(` call, `=` keyword, `[` list, a delimiter: atom); arguments are decoded left to right.
-/
import Proofs.Eq

namespace DV

/-! ### Safe words -/

/-- The characters that carry structure in the printed form. -/
def structural (c : Char) : Bool :=
  c == ',' || c == '(' || c == ')' || c == '[' || c == ']' || c == '='

def SafeWord (w : List Char) : Prop := ∀ c ∈ w, structural c = false

/-- Token hygiene: non-empty, no structural character. -/
def SafeTok (s : String) : Prop := s.toList ≠ [] ∧ SafeWord s.toList

/-- What may follow an atom: end of text, or a character that closes / separates arguments. -/
def Delim (u : List Char) : Prop := u = [] ∨ ∃ c r, u = c :: r ∧ (c = ',' ∨ c = ')' ∨ c = ']')

/-- What ends a word: end of text or any structural character. -/
def Stop (u : List Char) : Prop := u = [] ∨ ∃ c r, u = c :: r ∧ structural c = true

theorem Delim.stop {u : List Char} (h : Delim u) : Stop u := by
  rcases h with rfl | ⟨c, r, rfl, hc⟩
  · exact .inl rfl
  · refine .inr ⟨c, r, rfl, ?_⟩
    rcases hc with rfl | rfl | rfl <;> decide

theorem stop_cons {c : Char} {r : List Char} (h : structural c = true) : Stop (c :: r) :=
  .inr ⟨c, r, rfl, h⟩

theorem word_split {x y u v : List Char} (hx : SafeWord x) (hy : SafeWord y) (hu : Stop u)
    (hv : Stop v) (h : x ++ u = y ++ v) : x = y ∧ u = v := by
  induction x generalizing y with
  | nil =>
    cases y with
    | nil => exact ⟨rfl, by simpa using h⟩
    | cons c y =>
      exfalso
      simp only [List.nil_append, List.cons_append] at h
      rcases hu with rfl | ⟨c', r, rfl, hc'⟩
      · cases h
      · simp only [List.cons.injEq] at h
        have := hy c (by simp)
        rw [← h.1, hc'] at this
        cases this
  | cons c x ih =>
    cases y with
    | nil =>
      exfalso
      simp only [List.nil_append, List.cons_append] at h
      rcases hv with rfl | ⟨c', r, rfl, hc'⟩
      · cases h
      · simp only [List.cons.injEq] at h
        have := hx c (by simp)
        rw [h.1, hc'] at this
        cases this
    | cons d y =>
      simp only [List.cons_append, List.cons.injEq] at h
      obtain ⟨rfl, h⟩ := h
      obtain ⟨e1, e2⟩ := ih (fun a ha => hx a (by simp [ha])) (fun a ha => hy a (by simp [ha])) h
      exact ⟨by rw [e1], e2⟩

/-! ### Rendering on character lists -/

mutual
def RT.chars : RT → List Char
  | .tok s => s.toList
  | .call fn args => fn.toList ++ '(' :: (RT.charsArgs args ++ [')'])
  | .kw key v => key.toList ++ '=' :: v.chars
  | .list xs => '[' :: (RT.charsArgs xs ++ [']'])
  | .callm fn args m => fn.toList ++ '(' :: (RT.charsArgs args ++ ')' :: '.' :: (m.toList ++ ['(', ')']))
def RT.charsArgs : List RT → List Char
  | [] => []
  | [x] => x.chars
  | x :: y :: r => x.chars ++ ',' :: ' ' :: RT.charsArgs (y :: r)
end

mutual
theorem RT.render_toList : ∀ t : RT, t.render.toList = t.chars
  | .tok s => by simp [RT.render, RT.chars]
  | .call fn args => by
    simp [RT.render, RT.chars, String.toList_append, RT.renderArgs_toList args]
  | .kw key v => by simp [RT.render, RT.chars, String.toList_append, RT.render_toList v]
  | .list xs => by simp [RT.render, RT.chars, String.toList_append, RT.renderArgs_toList xs]
  | .callm fn args m => by
    simp [RT.render, RT.chars, String.toList_append, RT.renderArgs_toList args]
theorem RT.renderArgs_toList : ∀ ts : List RT, (RT.renderArgs ts).toList = RT.charsArgs ts
  | [] => by simp [RT.renderArgs, RT.charsArgs]
  | [x] => by simp [RT.renderArgs, RT.charsArgs, RT.render_toList x]
  | x :: y :: r => by
    simp [RT.renderArgs, RT.charsArgs, String.toList_append, RT.render_toList x,
      RT.renderArgs_toList (y :: r)]
end

/-! ### Hygienic trees -/

mutual
/-- Every atom, constructor name, keyword and method name is a safe word. -/
def RT.Good : RT → Prop
  | .tok s => SafeTok s
  | .call fn args => SafeTok fn ∧ RT.GoodList args
  | .kw key v => SafeTok key ∧ v.Good
  | .list xs => RT.GoodList xs
  | .callm fn args m => SafeTok fn ∧ RT.GoodList args ∧ SafeTok m
def RT.GoodList : List RT → Prop
  | [] => True
  | x :: xs => x.Good ∧ RT.GoodList xs
end

theorem RT.goodList_iff {xs : List RT} : RT.GoodList xs ↔ ∀ x ∈ xs, x.Good := by
  induction xs with
  | nil => simp [RT.GoodList]
  | cons x xs ih => simp [RT.GoodList, ih]

/-- The text after the first argument: a closer, or `, ` and the remaining arguments. -/
def tailC (xs : List RT) (c : Char) (u : List Char) : List Char :=
  match xs with
  | [] => c :: u
  | y :: r => ',' :: ' ' :: (RT.charsArgs (y :: r) ++ c :: u)

theorem charsArgs_cons (x : RT) (xs : List RT) (c : Char) (u : List Char) :
    RT.charsArgs (x :: xs) ++ c :: u = x.chars ++ tailC xs c u := by
  cases xs with
  | nil => simp [RT.charsArgs, tailC]
  | cons y r => simp [RT.charsArgs, tailC]

theorem delim_closer {c : Char} (hc : c = ')' ∨ c = ']') (u : List Char) : Delim (c :: u) :=
  .inr ⟨c, u, rfl, .inr hc⟩

theorem delim_comma {u : List Char} : Delim (',' :: u) := .inr ⟨',', u, rfl, .inl rfl⟩

theorem String.eq_of_toList_eq {a b : String} (h : a.toList = b.toList) : a = b :=
  String.toList_inj.mp h

/-! ### A node is its head word and what follows it

  Every node starts with a (possibly empty) safe word; the character after the word tells the
  constructor apart: `(` call, `=` keyword, `[` list (empty word), a delimiter or the end: atom. -/

def RT.word : RT → List Char
  | .tok s => s.toList
  | .call fn _ => fn.toList
  | .kw key _ => key.toList
  | .list _ => []
  | .callm fn _ _ => fn.toList

/-- The text of `t` after its head word, followed by `u`. -/
def RT.restK : RT → List Char → List Char
  | .tok _, u => u
  | .call _ args, u => '(' :: (RT.charsArgs args ++ ')' :: u)
  | .kw _ v, u => '=' :: (v.chars ++ u)
  | .list xs, u => '[' :: (RT.charsArgs xs ++ ']' :: u)
  | .callm _ args m, u => '(' :: (RT.charsArgs args ++ ')' :: '.' :: (m.toList ++ '(' :: ')' :: u))

def RT.opener : RT → Option Char
  | .tok _ => none
  | .call _ _ => some '('
  | .kw _ _ => some '='
  | .list _ => some '['
  | .callm _ _ _ => some '('

def isOpener (c : Char) : Bool := c == '(' || c == '=' || c == '['

theorem RT.chars_append (t : RT) (u : List Char) : t.chars ++ u = t.word ++ t.restK u := by
  cases t <;> simp [RT.chars, RT.word, RT.restK]

theorem RT.Good.word_safe {t : RT} (h : t.Good) : SafeWord t.word := by
  cases t with
  | tok s => exact h.2
  | call fn args => exact h.1.2
  | kw key v => exact h.1.2
  | list xs => intro c hc; cases hc
  | callm fn args m => exact h.1.2

theorem RT.restK_stop (t : RT) {u : List Char} (hu : Delim u) : Stop (t.restK u) := by
  cases t with
  | tok s => exact hu.stop
  | _ => exact stop_cons rfl

/-- Behind the head word stands the opener, or (atom) a delimiter or nothing. -/
theorem RT.restK_opener (t : RT) {u : List Char} (hu : Delim u) :
    (t.restK u).head?.filter isOpener = t.opener := by
  cases t with
  | tok s => rcases hu with rfl | ⟨c, r, rfl, rfl | rfl | rfl⟩ <;> rfl
  | _ => rfl

theorem closer_ne_comma {c : Char} (hc : c = ')' ∨ c = ']') : c ≠ ',' := by
  rcases hc with rfl | rfl <;> decide

/-- A hygienic tree never starts with a closer: its first character is the first of a safe word, or
    the `[` of a list. -/
theorem RT.Good.not_closer {t : RT} (h : t.Good) {c : Char} (hc : c = ')' ∨ c = ']')
    {u w : List Char} (e : c :: u = t.chars ++ w) : False := by
  have hs : structural c = true := by rcases hc with rfl | rfl <;> rfl
  rw [RT.chars_append] at e
  have hw := h.word_safe
  cases hw' : t.word with
  | cons d r =>
    rw [hw'] at e hw
    rw [(List.cons.inj e).1, hw d (List.mem_cons_self ..)] at hs
    cases hs
  | nil =>
    cases t with
    | list xs =>
      rw [hw'] at e
      rw [(List.cons.inj e).1] at hc
      exact absurd hc (by decide)
    | tok s => exact h.1 hw'
    | call fn _ => exact h.1.1 hw'
    | kw k _ => exact h.1.1 hw'
    | callm fn _ _ => exact h.1.1 hw'

/-- Two hygienic nodes that read alike up to delimiters have the same head word, the same
    continuation and the same opener. -/
theorem RT.heads {s t : RT} {u v : List Char} (hs : s.Good) (ht : t.Good) (hu : Delim u)
    (hv : Delim v) (h : s.chars ++ u = t.chars ++ v) :
    s.word = t.word ∧ s.restK u = t.restK v ∧ s.opener = t.opener := by
  rw [RT.chars_append, RT.chars_append] at h
  obtain ⟨hw, hr⟩ := word_split hs.word_safe ht.word_safe (s.restK_stop hu) (t.restK_stop hv) h
  exact ⟨hw, hr, by rw [← s.restK_opener hu, ← t.restK_opener hv, hr]⟩

theorem Delim.not_dot {r : List Char} (h : Delim ('.' :: r)) : False := by
  rcases h with h | ⟨c, r', h, hc⟩
  · cases h
  · simp only [List.cons.injEq] at h
    rcases hc with rfl | rfl | rfl <;> simp at h

/-! ### Unique decoding -/

mutual
/-- A hygienic tree followed by a delimiter is read back uniquely.  In each case the other tree has
    the same opener, which leaves the same constructor, or `f(…)` against `f(…).m()`: there the
    arguments agree and a delimiter would have to be the `.`. -/
theorem RT.dec : ∀ (s t : RT) (u v : List Char), s.Good → t.Good → Delim u → Delim v →
    s.chars ++ u = t.chars ++ v → s = t ∧ u = v
  | .tok a => fun t u v hs ht hu hv h => by
    obtain ⟨hw, hr, ho⟩ := RT.heads hs ht hu hv h
    cases t with
    | tok b => exact ⟨by rw [String.eq_of_toList_eq hw], hr⟩
    | _ => simp [RT.opener] at ho
  | .call fn args => fun t u v hs ht hu hv h => by
    obtain ⟨hw, hr, ho⟩ := RT.heads hs ht hu hv h
    cases t with
    | call fn' args' =>
      simp only [RT.restK, List.cons.injEq, true_and] at hr
      obtain ⟨e3, e4⟩ := RT.decArgs args args' ')' u v (.inl rfl) hs.2 ht.2 hr
      exact ⟨by rw [String.eq_of_toList_eq hw, e3], e4⟩
    | callm fn' args' m =>
      simp only [RT.restK, List.cons.injEq, true_and] at hr
      obtain ⟨_, e4⟩ := RT.decArgs args args' ')' u _ (.inl rfl) hs.2 ht.2.1 hr
      exact (e4 ▸ hu).not_dot.elim
    | _ => simp [RT.opener] at ho
  | .kw k x => fun t u v hs ht hu hv h => by
    obtain ⟨hw, hr, ho⟩ := RT.heads hs ht hu hv h
    cases t with
    | kw k' y =>
      simp only [RT.restK, List.cons.injEq, true_and] at hr
      obtain ⟨e3, e4⟩ := RT.dec x y u v hs.2 ht.2 hu hv hr
      exact ⟨by rw [String.eq_of_toList_eq hw, e3], e4⟩
    | _ => simp [RT.opener] at ho
  | .list xs => fun t u v hs ht hu hv h => by
    obtain ⟨hw, hr, ho⟩ := RT.heads hs ht hu hv h
    cases t with
    | list ys =>
      simp only [RT.restK, List.cons.injEq, true_and] at hr
      obtain ⟨e3, e4⟩ := RT.decArgs xs ys ']' u v (.inr rfl) hs ht hr
      exact ⟨by rw [e3], e4⟩
    | _ => simp [RT.opener] at ho
  | .callm fn args m => fun t u v hs ht hu hv h => by
    obtain ⟨hw, hr, ho⟩ := RT.heads hs ht hu hv h
    cases t with
    | call fn' args' =>
      simp only [RT.restK, List.cons.injEq, true_and] at hr
      obtain ⟨_, e4⟩ := RT.decArgs args args' ')' _ v (.inl rfl) hs.2.1 ht.2 hr
      exact (e4 ▸ hv).not_dot.elim
    | callm fn' args' m' =>
      simp only [RT.restK, List.cons.injEq, true_and] at hr
      obtain ⟨e3, e4⟩ := RT.decArgs args args' ')' _ _ (.inl rfl) hs.2.1 ht.2.1 hr
      simp only [List.cons.injEq, true_and] at e4
      obtain ⟨e5, e6⟩ := word_split hs.2.2.2 ht.2.2.2 (stop_cons rfl) (stop_cons rfl) e4
      simp only [List.cons.injEq, true_and] at e6
      exact ⟨by rw [String.eq_of_toList_eq hw, e3, String.eq_of_toList_eq e5], e6⟩
    | _ => simp [RT.opener] at ho
/-- An argument list followed by its closer is read back uniquely: after the first argument stands
    the closer or a comma, never both. -/
theorem RT.decArgs : ∀ (xs ys : List RT) (c : Char) (u v : List Char), (c = ')' ∨ c = ']') →
    RT.GoodList xs → RT.GoodList ys →
    RT.charsArgs xs ++ c :: u = RT.charsArgs ys ++ c :: v → xs = ys ∧ u = v
  | [], [] => fun c u v _ _ _ h => ⟨rfl, (List.cons.inj h).2⟩
  | [], y :: r => fun c u v hc _ hy h => by
    rw [charsArgs_cons] at h
    exact (hy.1.not_closer hc h).elim
  | x :: xs, [] => fun c u v hc hx _ h => by
    rw [charsArgs_cons] at h
    exact (hx.1.not_closer hc h.symm).elim
  | [x], [y] => fun c u v hc hx hy h => by
    obtain ⟨rfl, e2⟩ := RT.dec x y _ _ hx.1 hy.1 (delim_closer hc u) (delim_closer hc v) h
    exact ⟨rfl, (List.cons.inj e2).2⟩
  | [x], y :: y' :: r' => fun c u v hc hx hy h => by
    rw [charsArgs_cons, charsArgs_cons] at h
    obtain ⟨_, e2⟩ := RT.dec x y _ _ hx.1 hy.1 (delim_closer hc u) delim_comma h
    exact (closer_ne_comma hc (List.cons.inj e2).1).elim
  | x :: x' :: r, [y] => fun c u v hc hx hy h => by
    rw [charsArgs_cons, charsArgs_cons] at h
    obtain ⟨_, e2⟩ := RT.dec x y _ _ hx.1 hy.1 delim_comma (delim_closer hc v) h
    exact (closer_ne_comma hc (List.cons.inj e2).1.symm).elim
  | x :: x' :: r, y :: y' :: r' => fun c u v hc hx hy h => by
    rw [charsArgs_cons, charsArgs_cons] at h
    obtain ⟨rfl, e2⟩ := RT.dec x y _ _ hx.1 hy.1 delim_comma delim_comma h
    obtain ⟨e3, e4⟩ := RT.decArgs (x' :: r) (y' :: r') c u v hc hx.2 hy.2
      (List.cons.inj (List.cons.inj e2).2).2
    exact ⟨by rw [e3], e4⟩
end

/-- The printed string of a hygienic tree determines the tree. -/
theorem RT.render_inj {s t : RT} (hs : s.Good) (ht : t.Good) (h : s.render = t.render) : s = t := by
  have e : s.chars ++ [] = t.chars ++ [] := by
    rw [List.append_nil, List.append_nil, ← RT.render_toList, ← RT.render_toList, h]
  exact (RT.dec s t [] [] hs ht (.inl rfl) (.inl rfl) e).1

/-! ### The trees printed by the `__repr__` methods are hygienic -/

theorem structural_of_isDigit {c : Char} (h : c.isDigit = true) : structural c = false := by
  simp only [Char.isDigit, Bool.and_eq_true, decide_eq_true_eq] at h
  have h1 : 48 ≤ c.val.toNat := by have := h.1; simpa [UInt32.le_iff_toNat_le] using this
  have h2 : c.val.toNat ≤ 57 := by have := h.2; simpa [UInt32.le_iff_toNat_le] using this
  have ne : ∀ d : Char, (d.val.toNat < 48 ∨ 57 < d.val.toNat) → (c == d) = false := by
    intro d hd
    rw [beq_eq_false_iff_ne]
    rintro rfl
    omega
  simp [structural, ne ',' (by decide), ne '(' (by decide), ne ')' (by decide), ne '[' (by decide),
    ne ']' (by decide), ne '=' (by decide)]

theorem safeTok_nat (n : Nat) : SafeTok n.repr := by
  refine ⟨?_, ?_⟩
  · rw [Nat.toList_repr]; exact Nat.toDigits_ne_nil
  · intro c hc
    rw [Nat.toList_repr] at hc
    exact structural_of_isDigit (Nat.isDigit_of_mem_toDigits (by decide) (by decide) hc)

/-- Python int literals are hygienic. -/
theorem safeTok_int (i : Int) : SafeTok (toString i) := by
  rw [Int.toString_eq_repr, Int.repr_eq_if]
  split
  · exact safeTok_nat _
  · have := safeTok_nat (-i).toNat
    refine ⟨by simp [String.toList_append], ?_⟩
    intro c hc
    simp only [String.toList_append, List.mem_append] at hc
    rcases hc with hc | hc
    · have : c = '-' := by simpa using hc
      subst this; decide
    · exact this.2 c hc

/-- Token hygiene of a type / box / diagram: every name, and every `data` payload that is not
    `None`, is a safe word. -/
def Ty.TokensSafe (t : Ty) : Prop := ∀ x ∈ t, SafeTok x.name
def Box.TokensSafe (b : Box) : Prop :=
  SafeTok b.name ∧ (b.data = "-" ∨ SafeTok b.data) ∧ Ty.TokensSafe b.dom ∧ Ty.TokensSafe b.cod
def Diagram.TokensSafe (d : Diagram) : Prop :=
  Ty.TokensSafe d.dom ∧ Ty.TokensSafe d.cod ∧ ∀ b ∈ d.boxes, b.TokensSafe

/-- Hygiene of a literal: the hypothesis is an auto-param that `decide +kernel` closes at each call site
    (`lit_safe "Ty"`), so it only applies to closed strings. -/
theorem lit_safe (s : String)
    (h : (s.toList ≠ [] ∧ s.toList.all (fun c => !structural c)) := by decide +kernel) :
    SafeTok s := ⟨h.1, fun c hc => by simpa using List.all_eq_true.mp h.2 c hc⟩

theorem reprTTy_good {t : Ty} (h : Ty.TokensSafe t) : (reprTTy t).Good := by
  refine ⟨lit_safe "Ty", RT.goodList_iff.mpr ?_⟩
  intro e he
  obtain ⟨x, hx, rfl⟩ := List.mem_map.mp he
  unfold reprTTyEntry reprTOb
  split
  · exact h x hx
  · exact ⟨lit_safe "Ob", h x hx, ⟨lit_safe "z", safeTok_int _⟩, trivial⟩

theorem Ty.TokensSafe.take {t : Ty} (h : Ty.TokensSafe t) (n : Nat) : Ty.TokensSafe (t.take n) :=
  fun x hx => h x (List.mem_of_mem_take hx)
theorem Ty.TokensSafe.drop {t : Ty} (h : Ty.TokensSafe t) (n : Nat) : Ty.TokensSafe (t.drop n) :=
  fun x hx => h x (List.mem_of_mem_drop hx)

theorem reprTGenArgs_good {n : String} {d c : Ty} {x : String} (hn : SafeTok n)
    (hd : Ty.TokensSafe d) (hc : Ty.TokensSafe c) (hx : x = "-" ∨ SafeTok x) :
    RT.GoodList (reprTGenArgs n d c x) := by
  unfold reprTGenArgs reprTData
  split
  · exact ⟨hn, reprTTy_good hd, reprTTy_good hc, trivial⟩
  · rename_i hne
    have : SafeTok x := hx.resolve_left hne
    exact ⟨hn, reprTTy_good hd, reprTTy_good hc, ⟨lit_safe "data", this⟩, trivial⟩

theorem reprTBox_good {b : Box} (h : b.TokensSafe) : (reprTBox b).Good := by
  obtain ⟨hn, hx, hd, hc⟩ := h
  unfold reprTBox
  split
  · split
    · exact ⟨lit_safe "Box", reprTGenArgs_good hn hc hd hx, lit_safe "dagger"⟩
    · exact ⟨lit_safe "Box", reprTGenArgs_good hn hd hc hx⟩
  · exact ⟨lit_safe "Swap", reprTTy_good (hd.take 1), reprTTy_good (hd.drop 1), trivial⟩
  · exact ⟨lit_safe "Cup", reprTTy_good (hd.take 1), reprTTy_good (hd.drop 1), trivial⟩
  · exact ⟨lit_safe "Cap", reprTTy_good (hc.take 1), reprTTy_good (hc.drop 1), trivial⟩

theorem reprTDiagram_good {d : Diagram} (h : d.TokensSafe) : (reprTDiagram d).Good := by
  obtain ⟨hd, hc, hb⟩ := h
  have full : (reprTFull d).Good := by
    refine ⟨lit_safe "Diagram", ⟨lit_safe "dom", reprTTy_good hd⟩, ⟨lit_safe "cod", reprTTy_good hc⟩,
      ⟨lit_safe "boxes", RT.goodList_iff.mpr ?_⟩, ⟨lit_safe "offsets", RT.goodList_iff.mpr ?_⟩, trivial⟩
    · intro e he
      obtain ⟨b, hbm, rfl⟩ := List.mem_map.mp he
      exact reprTBox_good (hb b hbm)
    · intro e he
      obtain ⟨o, _, rfl⟩ := List.mem_map.mp he
      exact safeTok_int o
  rcases reprTDiagram_cases d with ⟨_, e⟩ | ⟨b, hbx, _, e⟩ | e <;> rw [e]
  · exact ⟨lit_safe "Id", reprTTy_good hd, trivial⟩
  · exact reprTBox_good (hb b (by simp [hbx]))
  · exact full

/-- The printed STRING of a diagram determines its printed syntax tree, under token hygiene. -/
theorem reprDiagram_determines_tree {a b : Diagram} (ha : a.TokensSafe) (hb : b.TokensSafe)
    (h : reprDiagram a = reprDiagram b) : reprTDiagram a = reprTDiagram b :=
  RT.render_inj (reprTDiagram_good ha) (reprTDiagram_good hb) h

/-- **String-level injectivity of `repr`**: well-typed diagrams (over boxes the Python classes can
    produce, with hygienic name/data tokens) that print alike are `==`. -/
theorem repr_inj {a b : Diagram} (ha : a.WF) (hb : b.WF) (hca : a.Canon) (hcb : b.Canon)
    (hta : a.TokensSafe) (htb : b.TokensSafe) (h : reprDiagram a = reprDiagram b) :
    a.eqv b = true :=
  reprTDiagram_inj ha hb hca hcb (reprDiagram_determines_tree hta htb h)

/-- The same across box instances and plain diagrams. -/
theorem Val.repr_inj {u v : Val} (hu : u.WF) (hv : v.WF) (hcu : u.toDiagram.Canon)
    (hcv : v.toDiagram.Canon) (htu : u.toDiagram.TokensSafe) (htv : v.toDiagram.TokensSafe)
    (h : u.repr = v.repr) : u.eqv v = true := by
  apply Val.reprT_inj hu hv hcu hcv
  rw [Val.reprT_eq_toDiagram, Val.reprT_eq_toDiagram]
  apply RT.render_inj (reprTDiagram_good htu) (reprTDiagram_good htv)
  simpa [Val.repr, Val.reprT_eq_toDiagram] using h

def Sum.TokensSafe (s : Sum) : Prop :=
  Ty.TokensSafe s.dom ∧ Ty.TokensSafe s.cod ∧ ∀ t ∈ s.terms, t.TokensSafe

theorem reprTSum_good {s : Sum} (h : s.TokensSafe) : (reprTSum s).Good := by
  obtain ⟨hd, hc, ht⟩ := h
  unfold reprTSum
  split
  · exact ⟨lit_safe "Sum", trivial, ⟨lit_safe "dom", reprTTy_good hd⟩,
      ⟨lit_safe "cod", reprTTy_good hc⟩, trivial⟩
  · rename_i t ts hts
    refine ⟨lit_safe "Sum", RT.goodList_iff.mpr ?_, trivial⟩
    intro e he
    obtain ⟨d, hdm, rfl⟩ := List.mem_map.mp he
    exact reprTDiagram_good (ht d (by rw [hts]; exact hdm))

theorem reprTy_inj {s t : Ty} (hs : Ty.TokensSafe s) (ht : Ty.TokensSafe t)
    (h : reprTy s = reprTy t) : s = t :=
  reprTTy_inj (RT.render_inj (reprTTy_good hs) (reprTTy_good ht) h)

theorem reprBox_inj {a b : Box} (ha : a.Canon) (hb : b.Canon) (hta : a.TokensSafe)
    (htb : b.TokensSafe) (h : reprBox a = reprBox b) : a = b :=
  reprTBox_inj ha hb (RT.render_inj (reprTBox_good hta) (reprTBox_good htb) h)

end DV
