/-
  Proofs/Downgrade.lean — `downgrade()` keeps `==`, hash and print coherence (C03, derived values).

  * `Box.downgrade` keeps `dom`/`cod`, yields a generic box, is idempotent, fixes generic boxes.
  * `Diagram.downgrade` is total on well-typed diagrams (`downgrade_total`: the scanning constructor
    accepts the well-typed `Diagram.downgraded`), and whatever it returns is well-typed with the same
    `dom`, `cod`, offsets and the downgraded boxes (`downgrade_ok`).
  * `==` is a congruence for it — equal diagrams have THE SAME downgrade (`downgrade_congr`), so
    the downgrades are `==` (`downgrade_eqv_congr`) and print, hence hash, alike
    (`downgrade_repr_congr`): whatever history the two values have.
  * `reprM_congr`: on `monoidal` values (types print names only) `==` values print alike.
  * As far as true: the printed form of a downgraded value does NOT determine it any more
    (`reprBoxM_not_inj`: the winding numbers are kept by `==` but no longer printed).
-/
import Model.Downgrade
import Proofs.LayoutDiagram
import Proofs.Eq

namespace DV

/-! ### boxes -/

@[simp] theorem Box.downgrade_dom (b : Box) : b.downgrade.dom = b.dom := by
  unfold Box.downgrade; cases b.kind <;> rfl

@[simp] theorem Box.downgrade_cod (b : Box) : b.downgrade.cod = b.cod := by
  unfold Box.downgrade; cases h : b.kind <;> simp

theorem Box.downgrade_kind (b : Box) : b.downgrade.kind = .gen := by
  unfold Box.downgrade; cases h : b.kind <;> simp [h]

theorem Box.downgrade_gen {b : Box} (h : b.kind = .gen) : b.downgrade = b := by
  unfold Box.downgrade; rw [h]

theorem Box.downgrade_idem (b : Box) : b.downgrade.downgrade = b.downgrade :=
  Box.downgrade_gen b.downgrade_kind

/-- The copied `__dict__`: `data` and the dagger flag travel unchanged. -/
theorem Box.downgrade_data (b : Box) : b.downgrade.data = b.data ∧ b.downgrade.dagger = b.dagger := by
  unfold Box.downgrade; cases h : b.kind <;> simp

/-! ### diagrams -/

def Layer.downgrade (l : Layer) : Layer := { l with box := l.box.downgrade }

@[simp] theorem Layer.downgrade_dom (l : Layer) : l.downgrade.dom = l.dom := by
  simp [Layer.downgrade, Layer.dom]
@[simp] theorem Layer.downgrade_cod (l : Layer) : l.downgrade.cod = l.cod := by
  simp [Layer.downgrade, Layer.cod]

theorem chain_downgrade {s c : Ty} {ls : List Layer} (h : Chain s ls c) :
    Chain s (ls.map Layer.downgrade) c := by
  induction ls generalizing s with
  | nil => exact h
  | cons l ls ih =>
    obtain ⟨h1, h2⟩ := h
    refine ⟨by simpa using h1, ?_⟩
    simpa using ih h2

/-- The diagram `downgrade()` returns on a well-typed diagram, written out. -/
def Diagram.downgraded (d : Diagram) : Diagram :=
  ⟨d.dom, d.cod, d.boxes.map Box.downgrade, d.offsets,
    ⟨d.layers.dom, d.layers.cod, d.layers.boxes.map Layer.downgrade⟩⟩

theorem Diagram.downgraded_wf {d : Diagram} (h : d.WF) : d.downgraded.WF := by
  refine ⟨h.ldom, h.lcod, ?_, ?_, ?_⟩
  · simp [Diagram.downgraded, h.boxes, Layer.downgrade, Function.comp_def]
  · simp [Diagram.downgraded, h.offsets, Layer.downgrade, Function.comp_def]
  · exact chain_downgrade h.chain

theorem Diagram.downgrade_total {d : Diagram} (h : d.WF) : ∃ d', d.downgrade = .ok d' :=
  Layout.mk?_of_wf (Diagram.downgraded_wf h)

/-- What `downgrade()` returns, whenever it returns. -/
theorem Diagram.downgrade_ok {d d' : Diagram} (h : d.downgrade = .ok d') :
    d'.WF ∧ d'.dom = d.dom ∧ d'.cod = d.cod ∧ d'.boxes = d.boxes.map Box.downgrade ∧
      d'.offsets = d.offsets := Diagram.mk?_ok h

/-- `==` diagrams have the same downgrade (as results: the same value or the same error). -/
theorem Diagram.downgrade_congr {a b : Diagram} (h : a.eqv b = true) : a.downgrade = b.downgrade := by
  rw [Diagram.eqv_iff] at h
  obtain ⟨h1, h2, h3, h4⟩ := h
  simp [Diagram.downgrade, h1, h2, h3, h4]

theorem Diagram.downgrade_eqv_congr {a b a' b' : Diagram} (h : a.eqv b = true)
    (ha : a.downgrade = .ok a') (hb : b.downgrade = .ok b') : a'.eqv b' = true := by
  rw [Diagram.downgrade_congr h, hb] at ha
  cases ha
  exact Diagram.eqv_refl _

/-! ### printing `monoidal` values -/

theorem reprTDiagramM_congr {a b : Diagram} (h : a.eqv b = true) :
    reprTDiagramM a = reprTDiagramM b := by
  rw [Diagram.eqv_iff] at h
  obtain ⟨h1, h2, h3, h4⟩ := h
  simp [reprTDiagramM, reprTFullM, h1, h2, h3, h4]

/-- `==` values of `monoidal` print alike: `__hash__ = hash(repr(self))` agrees on them. -/
theorem reprM_congr {a b : Diagram} (h : a.eqv b = true) : reprDiagramM a = reprDiagramM b := by
  simp [reprDiagramM, reprTDiagramM_congr h]

theorem Diagram.downgrade_repr_congr {a b a' b' : Diagram} (h : a.eqv b = true)
    (ha : a.downgrade = .ok a') (hb : b.downgrade = .ok b') :
    reprDiagramM a' = reprDiagramM b' := reprM_congr (Diagram.downgrade_eqv_congr h ha hb)

theorem reprM_ofBox (b : Box) : reprDiagramM (Diagram.ofBox b) = reprBoxM b := by
  simp [reprDiagramM, reprBoxM, reprTDiagramM, Diagram.ofBox]

/-- At winding number 0 (every value of the `monoidal` family) the two printers agree on types… -/
theorem reprTTyMonoidal_eq {t : Ty} (h : ∀ x ∈ t, x.z = 0) : reprTTyMonoidal t = reprTTy t := by
  unfold reprTTy reprTTyMonoidal
  congr 1
  apply List.map_congr_left
  intro x hx
  simp [reprTTyEntry, h x hx]

/-- … and on generic boxes and swaps. -/
theorem reprTBoxM_eq {b : Box} (hd : ∀ x ∈ b.dom, x.z = 0) (hc : ∀ x ∈ b.cod, x.z = 0) :
    reprTBoxM b = reprTBox b := by
  have t1 : ∀ x ∈ b.dom.take 1, x.z = 0 := fun x hx => hd x (List.mem_of_mem_take hx)
  have t2 : ∀ x ∈ b.dom.drop 1, x.z = 0 := fun x hx => hd x (List.mem_of_mem_drop hx)
  have t3 : ∀ x ∈ b.cod.take 1, x.z = 0 := fun x hx => hc x (List.mem_of_mem_take hx)
  have t4 : ∀ x ∈ b.cod.drop 1, x.z = 0 := fun x hx => hc x (List.mem_of_mem_drop hx)
  unfold reprTBoxM reprTBox reprTGenArgsM reprTGenArgs
  rw [reprTTyMonoidal_eq hd, reprTTyMonoidal_eq hc, reprTTyMonoidal_eq t1, reprTTyMonoidal_eq t2,
    reprTTyMonoidal_eq t3, reprTTyMonoidal_eq t4]
  cases b.kind <;> rfl

/-! ### as far as true -/

/-- The printed form of a downgraded value no longer determines it: `==` still compares the
    winding numbers (`downgrade` keeps the objects), `monoidal.Ty.__repr__` does not print them. -/
theorem reprBoxM_not_inj :
    ∃ a b : Box, a.downgrade ≠ b.downgrade ∧ reprBoxM a.downgrade = reprBoxM b.downgrade :=
  ⟨{ name := "'f'", dom := [⟨"'a'", -1⟩], cod := [] }, { name := "'f'", dom := [⟨"'a'", 1⟩], cod := [] },
    by decide +kernel, by decide +kernel⟩

end DV
