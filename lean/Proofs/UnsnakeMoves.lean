/-
  Proofs/UnsnakeMoves.lean — C07: the four obstruction-moving loops of `unsnake`
  (rewriting.py:404-428), each with its in-place index updates, never raise, keep the snake
  invariant, and yield a chain of legal single interchanges.  The loop is treated once, under an
  arbitrary invariant (`moveObstructions_chain`); each of the four loops then contributes its
  invariant and the proof that one round keeps it.  An invariant has the shape
  `pending → Diagram → target → ro → Prop` the loop lemma asks for: the two loops that move right
  obstructions pass `[]` for `ro` and the identity for `bump`, so their invariants ignore `ro`.
  Line numbers are those Model/Snake.lean uses (the snapshot it transcribes; later `fix:` commits
  have shifted `unsnake` in /repo by seven lines).
-/
import Proofs.UnsnakeClassify
import Proofs.Snake

namespace DV

/-! ### Chains of accepted steps -/

/-- Every consecutive pair is one legal interchange or one yank. -/
def StepChain : Diagram → List Diagram → Prop
  | _, [] => True
  | d, s :: ss => (istep d s || ystep d s) = true ∧ StepChain s ss

theorem StepChain.append {d : Diagram} {a b : List Diagram} (ha : StepChain d a)
    (hb : StepChain (lastOr d a) b) : StepChain d (a ++ b) := by
  induction a generalizing d with
  | nil => exact hb
  | cons x xs ih => exact ⟨ha.1, ih ha.2 hb⟩

theorem StepChain.check {d : Diagram} {steps : List Diagram} (left : Bool) (k : Nat)
    (h : StepChain d steps) : checkSnakeTrace left d steps k = none := by
  induction steps generalizing d k with
  | nil => rfl
  | cons s ss ih =>
    simp only [checkSnakeTrace]
    have : sstep left d s = true := by
      unfold sstep; rw [h.1]; rfl
    rw [if_pos this]
    exact ih (k+1) h.2

/-- Every consecutive pair is one legal interchange. -/
def IChain : Diagram → List Diagram → Prop
  | _, [] => True
  | d, s :: ss => istep d s = true ∧ IChain s ss

theorem IChain.stepChain {d : Diagram} {a : List Diagram} (h : IChain d a) : StepChain d a := by
  induction a generalizing d with
  | nil => trivial
  | cons x xs ih => exact ⟨by rw [h.1]; rfl, ih h.2⟩

theorem IChain.append {d : Diagram} {a b : List Diagram} (ha : IChain d a)
    (hb : IChain (lastOr d a) b) : IChain d (a ++ b) := by
  induction a generalizing d with
  | nil => exact hb
  | cons x xs ih => exact ⟨ha.1, ih ha.2 hb⟩

/-- Interchanges only permute the boxes. -/
theorem IChain.length_eq {d : Diagram} {a : List Diagram} (hd : d.WF) (h : IChain d a) :
    (lastOr d a).boxes.length = d.boxes.length := by
  induction a generalizing d with
  | nil => rfl
  | cons x xs ih =>
    obtain ⟨i, j, hx⟩ := istep_inv h.1
    exact (ih (Diagram.interchange_wf hd hx).1 h.2).trans (Diagram.interchange_perm hd hx).length_eq

/-- `moveObstructions` under an invariant `Inv pending d target ro` of its state: if every round's
    `interchange(box, target)` succeeds, is a legal step and re-establishes the invariant for the
    updated target and re-numbered `ro`, then the loop never raises, yields a chain of legal
    interchanges and ends in a state satisfying the invariant with nothing pending. -/
theorem moveObstructions_chain {bump : Nat → Nat → Nat} {dt : Int}
    {Inv : List Nat → Diagram → Int → List Nat → Prop}
    (step : ∀ {box rest d t ro}, Inv (box :: rest) d t ro →
      ∃ d', d.interchange box t false = .ok d' ∧ istep d d' = true ∧
        Inv rest d' (t + dt) (ro.map (bump box)))
    (obs : List Nat) : ∀ {d : Diagram} {t : Int} {ro : List Nat} (acc : List Diagram),
    Inv obs d t ro →
    ∃ d1 t1 ro1 steps, moveObstructions bump dt obs d t ro acc = .ok (d1, t1, ro1, acc ++ steps) ∧
      IChain d steps ∧ lastOr d steps = d1 ∧ Inv [] d1 t1 ro1 := by
  induction obs with
  | nil => intro d t ro acc h; exact ⟨d, t, ro, [], by simp [moveObstructions], trivial, rfl, h⟩
  | cons box rest ih =>
    intro d t ro acc h
    obtain ⟨d', hd', hi, h'⟩ := step h
    obtain ⟨d1, t1, ro1, steps, hmv, hch, hla, hinv⟩ := ih (acc ++ [d']) h'
    refine ⟨d1, t1, ro1, d' :: steps, ?_, ⟨hi, hch⟩, hla, hinv⟩
    simp only [moveObstructions, hd', hmv, List.append_assoc, List.singleton_append]

/-! ### Left snake, first loop: left obstructions move up above the cap (lines 406-412) -/

/-- The cap `cb` sits at the target index, the block between it and the cup is classified by the
    cap's left leg, and `lo` are the left obstructions still to be moved. -/
def LeftUpInv (cb : Box) (cupI : Box × Int) (S : List (Box × Int)) (j' : Int)
    (lo : List Nat) (d : Diagram) (t : Int) (ro : List Nat) : Prop :=
  d.WF ∧ ∃ P capI M, d.items = P ++ capI :: (M ++ cupI :: S) ∧ t = (P.length : Int) ∧
    capI.1 = cb ∧ classify (P.length + 1) capI.2 M = some (j', lo, ro)

theorem leftUp_step {cb : Box} {cupI : Box × Int} {S : List (Box × Int)} {j' : Int} {l : Nat}
    {lo : List Nat} {d : Diagram} {t : Int} {ro : List Nat}
    (h : LeftUpInv cb cupI S j' (l :: lo) d t ro) :
    ∃ d', d.interchange l t false = .ok d' ∧ istep d d' = true ∧
      LeftUpInv cb cupI S j' lo d' (t + 1) (ro.map (fun r => if r < l then r + 1 else r)) := by
  obtain ⟨hd, P, capI, M, hit, rfl, hcb, hcl⟩ := h
  -- the first left obstruction `L`, below the cap and a block `Rs` lying right of the leg
  obtain ⟨Rs, L, M', ro2, rfl, rfl, hRs, hL, hcl2, rfl⟩ := classify_first_left hcl
  have hit' : d.items = P ++ (capI :: Rs) ++ L :: (M' ++ cupI :: S) := by rw [hit]; simp
  have hcond : ∀ x ∈ capI :: Rs, x.2 ≥ L.2 + L.1.dom.length := by
    intro x hx
    rcases List.mem_cons.mp hx with rfl | hx
    · omega
    · have := hRs x hx; omega
  obtain ⟨d', hd', hst, w', it'⟩ := Diagram.interchange_up_items hd hit' hcond (List.cons_ne_nil _ _)
    (i := P.length + 1 + Rs.length) (Nat.add_right_comm _ 1 _)
  refine ⟨d', hd', hst, w', P ++ [L],
    shiftItem ((L.1.cod.length : Int) - L.1.dom.length) capI,
    Rs.map (shiftItem ((L.1.cod.length : Int) - L.1.dom.length)) ++ M', by rw [it']; simp,
    by simp, hcb, ?_⟩
  -- the shifted block is classified as before, with the indices of `Rs` bumped
  rw [List.length_append, List.length_singleton]
  exact classify_remove_first_left hRs hcl2

/-! ### Left snake, second loop: right obstructions move down below the cup (lines 413-416) -/

/-- Cap and the boxes above it stay put; the block `M` between cap and cup lies right of the cup,
    its indices (last first) are pending, and the cup sits at the target index. -/
def RightDownInv (P : List (Box × Int)) (capI cupI : Box × Int)
    (obs : List Nat) (d : Diagram) (t : Int) (_ : List Nat) : Prop :=
  d.WF ∧ ∃ M S, d.items = P ++ capI :: (M ++ cupI :: S) ∧
    obs = (List.range' (P.length + 1) M.length).reverse ∧
    t = ((P.length + 1 + M.length : Nat) : Int) ∧ ∀ x ∈ M, x.2 ≥ cupI.2 + cupI.1.dom.length

theorem rightDown_step {P : List (Box × Int)} {capI cupI : Box × Int} {r : Nat} {obs : List Nat}
    {d : Diagram} {t : Int} {ro : List Nat} (h : RightDownInv P capI cupI (r :: obs) d t ro) :
    ∃ d', d.interchange r t false = .ok d' ∧ istep d d' = true ∧
      RightDownInv P capI cupI obs d' (t + -1) (ro.map (fun r => r)) := by
  obtain ⟨hd, M, S, hit, hobs, rfl, hM⟩ := h
  -- the last box `R` of the block is the one to move
  rcases List.eq_nil_or_concat M with rfl | ⟨M0, R, rfl⟩
  · cases hobs
  rw [List.concat_eq_append] at hit hobs hM ⊢
  rw [List.length_append, List.length_singleton, List.range'_concat, List.reverse_append] at hobs
  simp only [List.reverse_cons, List.reverse_nil, List.nil_append, List.cons_append,
    List.cons.injEq, Nat.one_mul] at hobs
  obtain ⟨rfl, rfl⟩ := hobs
  have hsw : swapItems false R cupI = some (cupI, (R.1, R.2 - cupI.1.dom.length + cupI.1.cod.length)) := by
    unfold swapItems; rw [if_neg (by simp), if_pos (hM R (by simp))]
  have hit' : d.items = (P ++ capI :: M0) ++ R :: cupI :: S := by rw [hit]; simp
  obtain ⟨d', hd', _, hst, w', it'⟩ := Diagram.interchange_adj_items hd hit' hsw
    (i := P.length + 1 + M0.length) (j := P.length + 1 + (M0 ++ [R]).length)
    (by simp only [List.length_append, List.length_cons]; omega) (by simp; omega)
  exact ⟨d', hd', hst, w', M0, (R.1, R.2 - cupI.1.dom.length + cupI.1.cod.length) :: S,
    by rw [it']; simp, rfl, by simp; omega, fun z hz => hM z (by simp [hz])⟩

/-! ### Right snake, first loop: left obstructions move down below the cup (lines 418-424) -/

/-- The cup `cb` sits at the target index, the block between cap and cup is classified by the
    cap's right leg (at `j`), and `lo` (last first) are the left obstructions still to be moved. -/
def LeftDownInv (P : List (Box × Int)) (capI : Box × Int) (cb : Box) (j : Int)
    (obs : List Nat) (d : Diagram) (t : Int) (ro : List Nat) : Prop :=
  d.WF ∧ ∃ M cupI S lo, d.items = P ++ capI :: (M ++ cupI :: S) ∧ obs = lo.reverse ∧
    t = ((P.length + 1 + M.length : Nat) : Int) ∧ cupI.1 = cb ∧
    classify (P.length + 1) j M = some (cupI.2, lo, ro)

theorem leftDown_step {P : List (Box × Int)} {capI : Box × Int} {cb : Box} {j : Int} {l : Nat}
    {obs : List Nat} {d : Diagram} {t : Int} {ro : List Nat} (hcb : 1 ≤ cb.dom.length)
    (h : LeftDownInv P capI cb j (l :: obs) d t ro) :
    ∃ d', d.interchange l t false = .ok d' ∧ istep d d' = true ∧
      LeftDownInv P capI cb j obs d' (t + -1) (ro.map (fun r => if r > l then r - 1 else r)) := by
  obtain ⟨hd, M, cupI, S, lo, hit, hobs, rfl, rfl, hcl⟩ := h
  have hne : lo ≠ [] := by intro e; rw [e] at hobs; cases hobs
  -- the last left obstruction `L`, above a block `Rs` lying right of the leg, and the cup
  obtain ⟨M0, L, Rs, jl, lo0, ro0, rfl, hcl0, rfl, hL, ej, hRs, rfl⟩ := classify_last_left hcl hne
  rw [List.reverse_append] at hobs
  simp only [List.reverse_cons, List.reverse_nil, List.nil_append, List.cons_append,
    List.cons.injEq] at hobs
  obtain ⟨rfl, rfl⟩ := hobs
  have hit' : d.items = (P ++ capI :: M0) ++ L :: ((Rs ++ [cupI]) ++ S) := by rw [hit]; simp
  -- `hcb`: the cup has an input, so `L` (possibly a scalar at the cup's offset) is not right of it
  have hcond : ∀ y ∈ Rs ++ [cupI],
      ¬ (L.2 ≥ y.2 + y.1.dom.length) ∧ y.2 ≥ L.2 + L.1.cod.length := by
    intro y hy
    rcases List.mem_append.mp hy with hy | hy
    · have := hRs y hy; omega
    · simp only [List.mem_singleton] at hy; subst hy; omega
  obtain ⟨d', hd', hst, w', it'⟩ := Diagram.interchange_down_items hd hit' hcond (by simp)
    (i := P.length + 1 + M0.length) (j := P.length + 1 + (M0 ++ L :: Rs).length)
    (by simp only [List.length_append, List.length_cons]; omega)
    (by simp only [List.length_append, List.length_cons, List.length_nil]; omega)
  refine ⟨d', hd', hst, w',
    M0 ++ Rs.map (shiftItem ((L.1.dom.length : Int) - L.1.cod.length)),
    shiftItem ((L.1.dom.length : Int) - L.1.cod.length) cupI, L :: S, lo0, by rw [it']; simp, rfl,
    by simp; omega, rfl, ?_⟩
  -- the shortened block is classified as before, with the indices of `Rs` bumped
  have e : (shiftItem ((L.1.dom.length : Int) - L.1.cod.length) cupI).2 = jl := by
    simp only [shiftItem]; omega
  rw [e]
  exact classify_remove_last_left hcl0 (fun x hx => by have := hRs x hx; omega)

/-! ### Right snake, second loop: right obstructions move up above the cap (lines 425-428) -/

/-- Cup and the boxes below it stay put; the block `M` between cap and cup lies right of the cap,
    its indices are pending, and the cap sits at the target index. -/
def RightUpInv (capI cupI : Box × Int) (S : List (Box × Int))
    (obs : List Nat) (d : Diagram) (t : Int) (_ : List Nat) : Prop :=
  d.WF ∧ ∃ P M, d.items = P ++ capI :: (M ++ cupI :: S) ∧
    obs = List.range' (P.length + 1) M.length ∧ t = (P.length : Int) ∧
    ∀ x ∈ M, ¬ (capI.2 ≥ x.2 + x.1.dom.length) ∧ x.2 ≥ capI.2 + capI.1.cod.length

theorem rightUp_step {capI cupI : Box × Int} {S : List (Box × Int)} {r : Nat} {obs : List Nat}
    {d : Diagram} {t : Int} {ro : List Nat} (h : RightUpInv capI cupI S (r :: obs) d t ro) :
    ∃ d', d.interchange r t false = .ok d' ∧ istep d d' = true ∧
      RightUpInv capI cupI S obs d' (t + 1) (ro.map (fun r => r)) := by
  obtain ⟨hd, P, M, hit, hobs, rfl, hM⟩ := h
  -- the first box `R` of the block is the one to move
  cases M with
  | nil => cases hobs
  | cons R M' =>
  rw [List.length_cons, List.range'_succ, List.cons.injEq] at hobs
  obtain ⟨rfl, rfl⟩ := hobs
  obtain ⟨hR1, hR2⟩ := hM R (by simp)
  have hsw : swapItems false capI R = some ((R.1, R.2 - capI.1.cod.length + capI.1.dom.length), capI) := by
    unfold swapItems; rw [if_neg (by simp), if_neg hR1, if_pos hR2]
  have hit' : d.items = P ++ capI :: R :: (M' ++ cupI :: S) := by rw [hit]; simp
  obtain ⟨d', _, hd', hst, w', it'⟩ := Diagram.interchange_adj_items hd hit' hsw rfl rfl
  exact ⟨d', hd', hst, w', P ++ [(R.1, R.2 - capI.1.cod.length + capI.1.dom.length)], M',
    by rw [it']; simp, by simp, by simp, fun z hz => hM z (by simp [hz])⟩

end DV
