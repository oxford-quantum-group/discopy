/-
  Proofs/TensorInterchange.lean — evaluation is invariant under `Diagram.interchange`
  (rewriting.py:9-78): if the layer-by-layer composite of `d` is defined, the one of
  `d.interchange(i, j, left)` is the same tensor, and so is the one of `d.normal_form(left)`
  (a sequence of interchanges).  Core: `Tensor.layer_exchange`.
-/
import Proofs.TensorFunctor
import Proofs.TensorExchange
import Proofs.Interchange

namespace DV
namespace TFunctor
open NDArray Tensor

section
variable {R : Type} [CommSemiring R] [StarRing R]

theorem layerFold_append (F : TFunctor R) : ∀ (xs ys : List Layer) (acc : Tensor R),
    F.layerFold acc (xs ++ ys) = match F.layerFold acc xs with
      | .error e => .error e
      | .ok a => F.layerFold a ys
  | [], ys, acc => rfl
  | x :: xs, ys, acc => by
    simp only [List.cons_append, TFunctor.layerFold]
    cases F.layer x with
    | error e => rfl
    | ok t =>
      simp only
      cases acc.then t with
      | error e => rfl
      | ok a => exact layerFold_append F xs ys a

theorem layer_ok (F : TFunctor R) (l : Layer) {t : Tensor R} (h : F.box l.box = .ok t) :
    F.layer l = .ok (layerT (F.ty l.left) (F.ty l.right) t) := by
  unfold TFunctor.layer; rw [h]; rfl

/-- One step of the fold, when it succeeds. -/
theorem layerFold_cons_ok (F : TFunctor R) (acc : Tensor R) (l : Layer) (ls : List Layer)
    {t : Tensor R} (h : F.layerFold acc (l :: ls) = .ok t) :
    ∃ b, F.box l.box = .ok b ∧ acc.cod = (layerT (F.ty l.left) (F.ty l.right) b).dom ∧
      F.layerFold (thenCore acc (layerT (F.ty l.left) (F.ty l.right) b)) ls = .ok t := by
  simp only [TFunctor.layerFold] at h
  cases hb : F.box l.box with
  | error e => rw [TFunctor.layer, hb] at h; cases h
  | ok b =>
    rw [layer_ok F l hb] at h
    simp only at h
    cases ht : acc.then (layerT (F.ty l.left) (F.ty l.right) b) with
    | error e => rw [ht] at h; cases h
    | ok a =>
      rw [ht] at h
      obtain ⟨hc, rfl⟩ := then_eq_ok ht
      exact ⟨b, rfl, hc, h⟩

/-- The fold keeps well-formedness and tracks the type. -/
theorem layerFold_ok_spec (F : TFunctor R) : ∀ (ls : List Layer) (S c : Ty) (acc t : Tensor R),
    Chain S ls c → acc.WF → acc.cod = F.ty S → (∀ l ∈ ls, BoxOK F l.box) →
    F.layerFold acc ls = .ok t → t.WF ∧ t.dom = acc.dom ∧ t.cod = F.ty c
  | [], S, c, acc, t, hch, hw, hc, _, h => by
    have : S = c := hch
    subst this
    cases h
    exact ⟨hw, rfl, hc⟩
  | l :: ls, S, c, acc, t, hch, hw, hc, hbox, h => by
    obtain ⟨hS, hch'⟩ := hch
    obtain ⟨b, hb, hcd, h'⟩ := layerFold_cons_ok F acc l ls h
    obtain ⟨bw, bd, bc⟩ := hbox l (List.mem_cons_self) b hb
    have := layerFold_ok_spec F ls l.cod c _ t hch'
      (thenCore_wf acc _ hw (layerT_wf _ _ b bw) hcd)
      (by rw [thenCore_cod, layerT_cod, bc, ← ty_layer_cod])
      (fun l' hl' => hbox l' (List.mem_cons_of_mem _ hl')) h'
    exact ⟨this.1, this.2.1, this.2.2⟩

/-- Two consecutive layers composed first (associativity). -/
theorem layerFold_two (F : TFunctor R) (acc : Tensor R) (l0 l1 : Layer) (ls : List Layer)
    (f g : Tensor R) (hacc : acc.WF) (hf : f.WF) (hg : g.WF)
    (h0 : F.box l0.box = .ok f) (h1 : F.box l1.box = .ok g)
    (hc0 : acc.cod = (layerT (F.ty l0.left) (F.ty l0.right) f).dom)
    (hc1 : (layerT (F.ty l0.left) (F.ty l0.right) f).cod
      = (layerT (F.ty l1.left) (F.ty l1.right) g).dom) :
    F.layerFold acc (l0 :: l1 :: ls)
      = F.layerFold (thenCore acc (thenCore (layerT (F.ty l0.left) (F.ty l0.right) f)
          (layerT (F.ty l1.left) (F.ty l1.right) g))) ls := by
  simp only [TFunctor.layerFold]
  rw [layer_ok F l0 h0, layer_ok F l1 h1]
  simp only
  rw [then_ok hc0]
  simp only
  rw [then_ok (by rw [thenCore_cod]; exact hc1)]
  simp only
  rw [then_assoc acc _ _ hacc (layerT_wf _ _ f hf) (layerT_wf _ _ g hg) hc0 hc1]

/-- **Exchange of two adjacent layers on disjoint wires leaves the fold unchanged**
    (box `b0` to the left of box `b1`). -/
theorem layerFold_exchange (F : TFunctor R) (acc : Tensor R) (Lt Mt Rt : Ty) (b0 b1 : Box)
    (ls : List Layer) (f g : Tensor R) (hacc : acc.WF)
    (h0 : F.box b0 = .ok f) (h1 : F.box b1 = .ok g) (ok0 : BoxOK F b0) (ok1 : BoxOK F b1)
    (hc : acc.cod = F.ty (Lt ++ b0.dom ++ (Mt ++ b1.dom ++ Rt))) :
    F.layerFold acc (⟨Lt, b0, Mt ++ b1.dom ++ Rt⟩ :: ⟨Lt ++ b0.cod ++ Mt, b1, Rt⟩ :: ls)
      = F.layerFold acc (⟨Lt ++ b0.dom ++ Mt, b1, Rt⟩ :: ⟨Lt, b0, Mt ++ b1.cod ++ Rt⟩ :: ls) := by
  obtain ⟨fw, fd, fc⟩ := ok0 f h0
  obtain ⟨gw, gd, gc⟩ := ok1 g h1
  have t1 : F.ty (Mt ++ b1.dom ++ Rt) = (F.ty Mt ++ g.dom) ++ F.ty Rt := by
    simp [ty_append, gd]
  have t2 : F.ty (Lt ++ b0.cod ++ Mt) = (F.ty Lt ++ f.cod) ++ F.ty Mt := by
    simp [ty_append, fc]
  have t3 : F.ty (Lt ++ b0.dom ++ Mt) = (F.ty Lt ++ f.dom) ++ F.ty Mt := by
    simp [ty_append, fd]
  have t4 : F.ty (Mt ++ b1.cod ++ Rt) = (F.ty Mt ++ g.cod) ++ F.ty Rt := by
    simp [ty_append, gc]
  rw [layerFold_two F acc ⟨Lt, b0, Mt ++ b1.dom ++ Rt⟩ ⟨Lt ++ b0.cod ++ Mt, b1, Rt⟩ ls f g hacc fw gw
      h0 h1 (by rw [hc]; simp [ty_append, fd, gd, List.append_assoc])
      (by simp [ty_append, fc, gd, List.append_assoc]),
    layerFold_two F acc ⟨Lt ++ b0.dom ++ Mt, b1, Rt⟩ ⟨Lt, b0, Mt ++ b1.cod ++ Rt⟩ ls g f hacc gw fw
      h1 h0 (by rw [hc]; simp [ty_append, fd, gd, List.append_assoc])
      (by simp [ty_append, fd, gc, List.append_assoc])]
  simp only
  rw [t1, t2, t3, t4, layer_exchange (F.ty Lt) (F.ty Mt) (F.ty Rt) f g fw gw]

/-! ### the adjacent interchange of rewriting.py:53-78 -/

/-- The fold over the two exchanged layers, in both cases of rewriting.py:57-73.  In each case
    `l0.cod = l1.dom` is split at the shorter of the two prefixes (`append_split`), which recovers
    the wires `Mt` between the boxes and puts both layers in the form `layerFold_exchange` takes;
    the two cases are mirror images. -/
theorem layerFold_choice (F : TFunctor R) (acc : Tensor R) {left : Bool} {o0 o1 : Int}
    {l0 l1 y0 y1 : Layer} (ls : List Layer) (hacc : acc.WF) (hcod : acc.cod = F.ty l0.dom)
    (hchain : l0.cod = l1.dom) (ok0 : BoxOK F l0.box) (ok1 : BoxOK F l1.box)
    (h : interchangeChoice left (l0.left.length : Int) (l1.left.length : Int) l0 l1
      = .ok (o0, o1, y0, y1))
    {t : Tensor R} (ht : F.layerFold acc (l0 :: l1 :: ls) = .ok t) :
    F.layerFold acc (y1 :: y0 :: ls) = .ok t := by
  obtain ⟨f, hf, _, ht1⟩ := layerFold_cons_ok F acc l0 (l1 :: ls) ht
  obtain ⟨g, hg, _, _⟩ := layerFold_cons_ok F _ l1 ls ht1
  have hch : (l0.left ++ l0.box.cod) ++ l0.right = l1.left ++ (l1.box.dom ++ l1.right) := by
    have := hchain
    simp only [Layer.cod, Layer.dom, List.append_assoc] at this ⊢
    exact this
  rcases interchangeChoice_ok h with ⟨hc, he⟩ | ⟨hc, he⟩
  · -- box0 is to the left of box1
    have hlen : (l0.left ++ l0.box.cod).length ≤ l1.left.length := by
      simp only [List.length_append]; omega
    obtain ⟨e1, e2⟩ := append_split hch hlen
    simp only [leftCase, Prod.mk.injEq] at he
    obtain ⟨_, _, rfl, rfl⟩ := he
    rw [pySlice_drop]
    generalize hM : l1.left.drop (l0.left ++ l0.box.cod).length = Mt at e1 e2
    have hl0 : l0 = ⟨l0.left, l0.box, Mt ++ l1.box.dom ++ l1.right⟩ := by
      cases l0; simp only [Layer.mk.injEq, true_and] at e2 ⊢; rw [e2]; simp
    have hl1 : l1 = ⟨l0.left ++ l0.box.cod ++ Mt, l1.box, l1.right⟩ := by
      cases l1; simp only [Layer.mk.injEq, and_true] at e1 ⊢; exact e1
    rw [hl0, hl1] at ht
    simp only at ht
    rw [← layerFold_exchange F acc l0.left Mt l1.right l0.box l1.box ls f g hacc hf hg ok0 ok1
      (by rw [hcod]; conv_lhs => rw [hl0]
          simp [Layer.dom, List.append_assoc])]
    exact ht
  · -- box0 is to the right of box1
    have hch' : (l1.left ++ l1.box.dom) ++ l1.right = l0.left ++ (l0.box.cod ++ l0.right) := by
      simp only [List.append_assoc] at hch ⊢; exact hch.symm
    have hlen : (l1.left ++ l1.box.dom).length ≤ l0.left.length := by
      simp only [List.length_append]; omega
    obtain ⟨e1, e2⟩ := append_split hch' hlen
    simp only [rightCase, Prod.mk.injEq] at he
    obtain ⟨_, _, rfl, rfl⟩ := he
    rw [pySlice_drop]
    generalize hM : l0.left.drop (l1.left ++ l1.box.dom).length = Mt at e1 e2
    have hl0 : l0 = ⟨l1.left ++ l1.box.dom ++ Mt, l0.box, l0.right⟩ := by
      cases l0; simp only [Layer.mk.injEq, and_true] at e1 ⊢; exact e1
    have hl1 : l1 = ⟨l1.left, l1.box, Mt ++ l0.box.cod ++ l0.right⟩ := by
      cases l1; simp only [Layer.mk.injEq, true_and] at e2 ⊢; rw [e2]; simp
    rw [hl0, hl1] at ht
    simp only at ht
    rw [layerFold_exchange F acc l1.left Mt l0.right l1.box l0.box ls g f hacc hg hf ok1 ok0
      (by rw [hcod]; conv_lhs => rw [hl0]
          simp [Layer.dom, List.append_assoc])]
    exact ht

/-- **One adjacent interchange does not change the evaluation**, and keeps the boxes. -/
theorem layerwise_interchangeAdj (F : TFunctor R) {d d' : Diagram} {i : Nat} {left : Bool}
    (hwf : d.WF) (hbox : ∀ b ∈ d.boxes, BoxOK F b) (h : d.interchangeAdj i left = .ok d') :
    (∀ b ∈ d'.boxes, b ∈ d.boxes) ∧
    ∀ t, F.layerwise d = .ok t → F.layerwise d' = .ok t := by
  obtain ⟨l0, l1, o0, o1, y0, y1, e2, e3, hch, _, hdom', _, hboxes'⟩ :=
    Diagram.interchangeAdj_ok hwf h
  refine ⟨fun b hb => (Diagram.interchangeAdj_perm hwf h).mem_iff.1 hb, fun t ht => ?_⟩
  have hbl : ∀ l ∈ d.layers.boxes, BoxOK F l.box := fun l hl => hbox _ (box_mem_of_wf hwf hl)
  have hsplit := list_split_pair e2 e3
  have hchain := chain_of_wf hwf
  rw [hsplit] at hchain
  obtain ⟨_, h1, _⟩ := chain_append.mp hchain
  obtain ⟨m, hc1, hm, hcl, _⟩ := chain_append.mp h1
  unfold TFunctor.layerwise at ht ⊢
  rw [hsplit, List.append_assoc, layerFold_append] at ht
  rw [hdom', hboxes', List.append_assoc, layerFold_append]
  cases hpre : F.layerFold (Tensor.id (F.ty d.dom)) (d.layers.boxes.take i) with
  | error e => rw [hpre] at ht; cases ht
  | ok a =>
    rw [hpre] at ht
    obtain ⟨aw, _, ac⟩ := layerFold_ok_spec F _ d.dom m _ a hc1 (id_wf _) rfl
      (fun l hl => hbl l (List.mem_of_mem_take hl)) hpre
    exact layerFold_choice F a _ aw (by rw [ac, hm]) hcl (hbl l0 (List.mem_of_getElem? e2))
      (hbl l1 (List.mem_of_getElem? e3)) hch ht

/-! ### `interchange(i, j)` and `normal_form` are sequences of adjacent interchanges -/

/-- `d'` is well-typed, has (some of) the boxes of `d`, and evaluates to the same tensor. -/
def Pres (F : TFunctor R) (d d' : Diagram) : Prop :=
  d'.WF ∧ (∀ b ∈ d'.boxes, b ∈ d.boxes) ∧ ∀ t, F.layerwise d = .ok t → F.layerwise d' = .ok t

theorem Pres.refl (F : TFunctor R) {d : Diagram} (hd : d.WF) : Pres F d d :=
  ⟨hd, fun _ h => h, fun _ h => h⟩

theorem Pres.trans {F : TFunctor R} {d d' d'' : Diagram} (h1 : Pres F d d') (h2 : Pres F d' d'') :
    Pres F d d'' :=
  ⟨h2.1, fun b hb => h1.2.1 b (h2.2.1 b hb), fun t ht => h2.2.2 t (h1.2.2 t ht)⟩

theorem Pres.call_eq {F : TFunctor R} {d d' : Diagram} (p : Pres F d d') (hwf : d.WF)
    (hsw : ∀ b ∈ d.boxes, SwapOK b) (hbox : ∀ b ∈ d.boxes, BoxOK F b) {t : Tensor R}
    (ht : F.call d = .ok t) : F.call d' = .ok t := by
  rw [call_eq_layerwise F d hwf hsw hbox] at ht
  rw [call_eq_layerwise F d' p.1 (fun b hb => hsw b (p.2.1 b hb)) (fun b hb => hbox b (p.2.1 b hb))]
  exact p.2.2 t ht

theorem pres_interchangeAdj (F : TFunctor R) {d d' : Diagram} {i : Nat} {left : Bool}
    (hwf : d.WF) (hbox : ∀ b ∈ d.boxes, BoxOK F b) (h : d.interchangeAdj i left = .ok d') :
    Pres F d d' :=
  ⟨(Diagram.interchangeAdj_wf hwf h).1, (layerwise_interchangeAdj F hwf hbox h).1,
    (layerwise_interchangeAdj F hwf hbox h).2⟩

theorem pres_interchangePath (F : TFunctor R) {left : Bool} {ks : List Nat} {d d' : Diagram}
    (hd : d.WF) (hbox : ∀ b ∈ d.boxes, BoxOK F b) (h : interchangePath left ks d = .ok d') :
    Pres F d d' := by
  induction ks generalizing d with
  | nil => cases h; exact Pres.refl F hd
  | cons k ks ih =>
    obtain ⟨d1, hd1, h⟩ := ok_of_bind h
    have p1 := pres_interchangeAdj F hd hbox hd1
    exact p1.trans (ih p1.1 (fun b hb => hbox b (p1.2.1 b hb)) h)

/-- **`d.interchange(i, j, left)` evaluates to the same tensor as `d`**: it is a path of adjacent
    interchanges (`Diagram.interchange_eq_path`). -/
theorem pres_interchange (F : TFunctor R) {d d' : Diagram} {i j : Int} {left : Bool}
    (hd : d.WF) (hbox : ∀ b ∈ d.boxes, BoxOK F b) (h : d.interchange i j left = .ok d') :
    Pres F d d' := by
  rw [Diagram.interchange_eq_path] at h
  split at h
  · cases h
  · exact pres_interchangePath F hd hbox h

theorem pres_normalizePass (F : TFunctor R) {left : Bool} {n i : Nat} {d d' : Diagram}
    {acc steps : List Diagram} (hd : d.WF) (hbox : ∀ b ∈ d.boxes, BoxOK F b)
    (h : normalizePass left n i d acc = .ok (d', steps)) : Pres F d d' := by
  induction n generalizing i d acc with
  | zero =>
    simp only [normalizePass, Except.ok.injEq, Prod.mk.injEq] at h
    obtain ⟨rfl, _⟩ := h
    exact Pres.refl F hd
  | succ n ih =>
    simp only [normalizePass] at h
    split at h
    · split at h
      · cases h
      · rename_i d1 hd1
        have p1 := pres_interchange F hd hbox hd1
        exact p1.trans (ih p1.1 (fun b hb => hbox b (p1.2.1 b hb)) h)
    · exact ih hd hbox h

theorem pres_normalFormLoop (F : TFunctor R) {left : Bool} {fuel : Nat} {d d' : Diagram}
    {cache : List Diagram} (hd : d.WF) (hbox : ∀ b ∈ d.boxes, BoxOK F b)
    (h : normalFormLoop left fuel d cache = .ok d') : Pres F d d' := by
  induction fuel generalizing d cache with
  | zero => simp [normalFormLoop] at h
  | succ fuel ih =>
    simp only [normalFormLoop] at h
    split at h
    · cases h
    · rename_i d1 steps hpass
      have p1 := pres_normalizePass F hd hbox hpass
      split at h
      · cases h; exact Pres.refl F hd
      · split at h
        · cases h
        · exact p1.trans (ih p1.1 (fun b hb => hbox b (p1.2.1 b hb)) h)

/-- **`d.normal_form(left=…)` evaluates to the same tensor as `d`.** -/
theorem pres_normalForm (F : TFunctor R) {d d' : Diagram} {left : Bool} {fuel : Nat}
    (hd : d.WF) (hbox : ∀ b ∈ d.boxes, BoxOK F b) (h : d.normalForm left fuel = .ok d') :
    Pres F d d' :=
  pres_normalFormLoop F hd hbox h

end
end TFunctor
end DV
