/-
  Proofs/TkBasic.lean — lists and adjacent swaps, post-selection dictionaries and post-processing
  circuits: the lemmas C13 rests on.
-/
import Model.TkSpec

namespace DV.Tk
open DV

/-! ### lists -/

theorem insertAt_map {α β} (f : α → β) (xs : List α) (off : Nat) (new : List α) :
    (insertAt xs off new).map f = insertAt (xs.map f) off (new.map f) := by
  simp [insertAt, List.map_take, List.map_drop]

theorem removeAt_map {α β} (f : α → β) (xs : List α) (off n : Nat) :
    (removeAt xs off n).map f = removeAt (xs.map f) off n := by
  simp [removeAt, List.map_take, List.map_drop]

theorem removeRegs_eq (xs : List Nat) (off n : Nat) : removeRegs xs off n = removeAt xs off n := rfl

theorem swapAt_map {α β} (f : α → β) (xs : List α) (off : Nat) :
    (swapAt xs off).map f = swapAt (xs.map f) off := by
  simp [swapAt, List.map_take, List.map_drop, List.map_reverse]

theorem mem_insertAt {α} {xs : List α} {off : Nat} {new : List α} {x : α}
    (h : x ∈ insertAt xs off new) : x ∈ xs ∨ x ∈ new := by
  simp only [insertAt, List.mem_append] at h
  rcases h with (h | h) | h
  · exact .inl (List.mem_of_mem_take h)
  · exact .inr h
  · exact .inl (List.mem_of_mem_drop h)

theorem mem_removeAt {α} {xs : List α} {off n : Nat} {x : α} (h : x ∈ removeAt xs off n) : x ∈ xs := by
  simp only [removeAt, List.mem_append] at h
  rcases h with h | h
  · exact List.mem_of_mem_take h
  · exact List.mem_of_mem_drop h

theorem mem_swapAt {α} {xs : List α} {off : Nat} {x : α} (h : x ∈ swapAt xs off) : x ∈ xs := by
  simp only [swapAt, List.mem_append, List.mem_reverse] at h
  rcases h with (h | h) | h
  · exact List.mem_of_mem_take h
  · exact List.mem_of_mem_drop (List.mem_of_mem_take h)
  · exact List.mem_of_mem_drop h

theorem split_one {α} {xs : List α} {k : Nat} {x : α} (h : xs[k]? = some x) :
    xs = xs.take k ++ x :: xs.drop (k + 1) := by
  obtain ⟨hk, rfl⟩ := List.getElem?_eq_some_iff.mp h
  rw [← List.drop_eq_getElem_cons hk, List.take_append_drop]

theorem split_two {α} {xs : List α} {k : Nat} {x y : α} (hx : xs[k]? = some x) (hy : xs[k+1]? = some y) :
    xs = xs.take k ++ [x, y] ++ xs.drop (k + 2) := by
  have e : xs.drop (k + 1) = y :: xs.drop (k + 2) := by
    obtain ⟨hk, rfl⟩ := List.getElem?_eq_some_iff.mp hy
    exact List.drop_eq_getElem_cons hk
  conv => lhs; rw [split_one hx, e]
  simp

theorem swapAt_split {α} (pre post : List α) (x y : α) :
    swapAt (pre ++ [x, y] ++ post) pre.length = pre ++ [y, x] ++ post := by
  simp [swapAt, List.drop_append]

theorem take_length_le {α} {xs : List α} {k : Nat} (h : k ≤ xs.length) : (xs.take k).length = k := by
  simp [List.length_take]; omega

theorem swapAt_perm {α} (xs : List α) (off : Nat) : (swapAt xs off).Perm xs := by
  have e : xs = xs.take off ++ ((xs.drop off).take 2 ++ xs.drop (off + 2)) := by
    rw [← List.drop_drop, List.take_append_drop, List.take_append_drop]
  conv => rhs; rw [e]
  rw [swapAt, List.append_assoc]
  exact ((List.reverse_perm _).append_right _).append_left _

theorem swapAt_length {α} (xs : List α) (off : Nat) : (swapAt xs off).length = xs.length :=
  (swapAt_perm xs off).length_eq

theorem transp_fix {a b r : Nat} (h1 : r ≠ a) (h2 : r ≠ b) : transp a b r = r := by
  simp [transp, h1, h2]

theorem transp_transp (a b r : Nat) : transp a b (transp a b r) = r := by
  unfold transp; grind

theorem transp_inj {a b x y : Nat} (h : transp a b x = transp a b y) : x = y := by
  rw [← transp_transp a b x, h, transp_transp]

theorem swapAt_eq_map_transp {xs : List Nat} {k a b : Nat} (nd : xs.Nodup)
    (ha : xs[k]? = some a) (hb : xs[k + 1]? = some b) : swapAt xs k = xs.map (transp a b) := by
  have hk : (xs.take k).length = k := take_length_le (Nat.le_of_lt (List.getElem?_eq_some_iff.mp ha).1)
  have e := split_two ha hb
  rw [e, List.nodup_append, List.nodup_append] at nd
  obtain ⟨⟨_, hab, hA⟩, _, hC⟩ := nd
  have fix : ∀ l : List Nat, (∀ x ∈ l, x ≠ a ∧ x ≠ b) → l.map (transp a b) = l := by
    intro l hl
    exact (List.map_congr_left fun x hx => transp_fix (hl x hx).1 (hl x hx).2).trans (List.map_id' l)
  have s := swapAt_split (xs.take k) (xs.drop (k + 2)) a b
  rw [hk, ← e] at s
  rw [s]
  conv => rhs; rw [e]
  simp only [List.map_append, List.map_cons, List.map_nil]
  rw [fix _ (fun x hx => ⟨hA x hx a (by simp), hA x hx b (by simp)⟩),
    fix _ (fun x hx => ⟨(hC a (by simp) x hx).symm, (hC b (by simp) x hx).symm⟩)]
  simp [transp, eq_comm]

theorem swapAt_map_transp {xs : List Nat} {k a b : Nat} (nd : xs.Nodup)
    (ha : xs[k]? = some a) (hb : xs[k + 1]? = some b) : (swapAt xs k).map (transp a b) = xs := by
  rw [swapAt_eq_map_transp nd ha hb, List.map_map]
  exact (List.map_congr_left fun r _ => transp_transp a b r).trans (List.map_id' _)

theorem swapAt_eq {α} {xs : List α} {off : Nat} {x y : α} (hx : xs[off]? = some x) (hy : xs[off + 1]? = some y) :
    swapAt xs off = xs.take off ++ [y, x] ++ xs.drop (off + 2) := by
  have s := swapAt_split (xs.take off) (xs.drop (off + 2)) x y
  rw [take_length_le (Nat.le_of_lt (List.getElem?_eq_some_iff.mp hx).1), ← split_two hx hy] at s
  exact s

theorem swapAt_swapAt {α} (xs : List α) (off : Nat) (h : off + 1 < xs.length) :
    swapAt (swapAt xs off) off = xs := by
  obtain ⟨x, hx⟩ : ∃ x, xs[off]? = some x := ⟨_, List.getElem?_eq_getElem (by omega)⟩
  obtain ⟨y, hy⟩ : ∃ y, xs[off + 1]? = some y := ⟨_, List.getElem?_eq_getElem h⟩
  have s := swapAt_split (xs.take off) (xs.drop (off + 2)) y x
  rw [take_length_le (by omega), ← swapAt_eq hx hy] at s
  rw [s]
  exact (split_two hx hy).symm

theorem foldl_swapAt_length {α} (offs : List Nat) (xs : List α) :
    (offs.foldl swapAt xs).length = xs.length := by
  induction offs generalizing xs with
  | nil => rfl
  | cons o os ih => rw [List.foldl_cons, ih, swapAt_length]

theorem foldl_swapAt_perm {α} (offs : List Nat) (xs : List α) : (offs.foldl swapAt xs).Perm xs := by
  induction offs generalizing xs with
  | nil => exact .refl _
  | cons o os ih => exact (ih _).trans (swapAt_perm xs o)

/-- Swaps act on positions: renaming the wires commutes with them. -/
theorem foldl_swapAt_map {α β} (f : α → β) (os : List Nat) (xs : List α) :
    os.foldl swapAt (xs.map f) = (os.foldl swapAt xs).map f := by
  induction os generalizing xs with
  | nil => rfl
  | cons o os ih => simp only [List.foldl_cons, ← swapAt_map, ih]

/-- Undoing a list of swaps in the reverse order restores the wire order — for any swaps whatever
    (tk.py:335 `swaps >> … >> swaps[::-1]`). -/
theorem foldl_swapAt_reverse {α} (offs : List Nat) (xs : List α) (h : ∀ o ∈ offs, o + 1 < xs.length) :
    (offs ++ offs.reverse).foldl swapAt xs = xs := by
  induction offs generalizing xs with
  | nil => rfl
  | cons o os ih =>
    have ho := h o (by simp)
    have hl := swapAt_length xs o
    rw [List.reverse_cons, ← List.append_assoc, List.foldl_append, List.cons_append, List.foldl_cons,
      List.foldl_cons, List.foldl_nil,
      ih _ (by intro o' ho'; rw [hl]; exact h o' (by simp [ho']))]
    exact swapAt_swapAt _ _ ho

theorem foldl_swapAt_range' {α} (A M C : List α) (x : α) :
    (List.range' A.length M.length).foldl swapAt (A ++ x :: (M ++ C)) = A ++ (M ++ x :: C) := by
  induction M generalizing A with
  | nil => rfl
  | cons m M ih =>
    have s := swapAt_split A (M ++ C) x m
    have := ih (A ++ [m])
    simp only [List.length_append, List.length_singleton, List.append_assoc, List.cons_append,
      List.nil_append] at s this
    rw [List.length_cons, List.range'_succ, List.foldl_cons, List.cons_append, s, this]
    rfl

theorem foldl_swapAt_range'_reverse {α} (A M C : List α) (x : α) :
    (List.range' A.length M.length).reverse.foldl swapAt (A ++ (M ++ x :: C)) = A ++ x :: (M ++ C) := by
  rw [← foldl_swapAt_range' A M C x, ← List.foldl_append]
  apply foldl_swapAt_reverse
  intro o ho
  simp only [List.mem_range'_1] at ho
  simp only [List.length_append, List.length_cons]
  omega

theorem split_at_two {α} {xs : List α} {i j : Nat} {x y : α} (hij : i < j)
    (hx : xs[i]? = some x) (hy : xs[j]? = some y) :
    xs = xs.take i ++ x :: ((xs.take j).drop (i + 1) ++ y :: xs.drop (j + 1)) := by
  have e := split_one (xs := xs.take j) (k := i) (x := x) (by rw [List.getElem?_take_of_lt hij]; exact hx)
  rw [List.take_take, Nat.min_eq_left (Nat.le_of_lt hij)] at e
  conv => lhs; rw [split_one hy, e]
  simp only [List.append_assoc, List.cons_append]

/-- Swaps at `i, …, j-1` carry the wire at `i` to `j`, right after the wire that was at `j`. -/
theorem foldl_swapAt_moveRight {α} {xs : List α} {i j : Nat} {x y : α} (hij : i < j)
    (hx : xs[i]? = some x) (hy : xs[j]? = some y) :
    ∃ A C, (List.range' i (j - i)).foldl swapAt xs = A ++ [y, x] ++ C ∧ A.length = j - 1 := by
  have hj := (List.getElem?_eq_some_iff.mp hy).1
  have hA : (xs.take i).length = i := take_length_le (by omega)
  have hM : ((xs.take j).drop (i + 1)).length = j - (i + 1) := by
    rw [List.length_drop, take_length_le (Nat.le_of_lt hj)]
  refine ⟨xs.take i ++ (xs.take j).drop (i + 1), xs.drop (j + 1), ?_, by rw [List.length_append, hA, hM]; omega⟩
  have h := foldl_swapAt_range' (xs.take i) ((xs.take j).drop (i + 1) ++ [y]) (xs.drop (j + 1)) x
  rw [hA, List.length_append, hM, List.length_singleton, show j - (i + 1) + 1 = j - i by omega] at h
  conv => lhs; rw [split_at_two hij hx hy]
  simpa only [List.append_assoc, List.cons_append, List.nil_append] using h

/-- Swaps at `j-1, …, i+1` carry the wire at `j` to `i + 1`, right after the wire at `i`. -/
theorem foldl_swapAt_moveLeft {α} {xs : List α} {i j : Nat} {x y : α} (hij : i < j)
    (hx : xs[i]? = some x) (hy : xs[j]? = some y) :
    ∃ A C, (List.range' (i + 1) (j - (i + 1))).reverse.foldl swapAt xs = A ++ [x, y] ++ C ∧ A.length = i := by
  have hj := (List.getElem?_eq_some_iff.mp hy).1
  have hA : (xs.take i).length = i := take_length_le (by omega)
  have hM : ((xs.take j).drop (i + 1)).length = j - (i + 1) := by
    rw [List.length_drop, take_length_le (Nat.le_of_lt hj)]
  refine ⟨xs.take i, (xs.take j).drop (i + 1) ++ xs.drop (j + 1), ?_, hA⟩
  have h := foldl_swapAt_range'_reverse (xs.take i ++ [x]) ((xs.take j).drop (i + 1)) (xs.drop (j + 1)) y
  rw [List.length_append, hA, List.length_singleton, hM] at h
  conv => lhs; rw [split_at_two hij hx hy]
  simpa only [List.append_assoc, List.cons_append, List.nil_append] using h

/-! ### post-selection dictionaries -/

theorem PS.has_eq_isSome (ps : PS) (k : Nat) : ps.has k = (ps.get k).isSome := by
  induction ps with
  | nil => rfl
  | cons e t ih =>
    simp only [PS.has, PS.get, List.any_cons, List.find?_cons] at *
    by_cases h : e.1 == k <;> simp [h, ih]

theorem PS.get_cons (e : Nat × Nat) (t : PS) (k : Nat) :
    PS.get (e :: t) k = if e.1 = k then some e.2 else PS.get t k := by
  simp only [PS.get, List.find?_cons]
  by_cases h : e.1 = k
  · simp [h]
  · have : (e.1 == k) = false := by simpa using h
    simp [h, this]

theorem PS.has_cons (e : Nat × Nat) (t : PS) (k : Nat) :
    PS.has (e :: t) k = (decide (e.1 = k) || PS.has t k) := by
  simp only [PS.has, List.any_cons]
  by_cases h : e.1 = k
  · simp [h]
  · simp [h]

theorem PS.get_nil (k : Nat) : PS.get [] k = none := rfl

theorem PS.get_erase (ps : PS) (o k : Nat) : (ps.erase o).get k = if k = o then none else ps.get k := by
  unfold PS.erase PS.get
  rw [List.find?_filter]
  by_cases h : k = o
  · subst h
    rw [if_pos rfl, List.find?_eq_none.mpr (by simp), Option.map_none]
  · rw [if_neg h]
    congr 2
    funext e
    by_cases he : e.1 = k
    · simp [he, h]
    · simp [he]

theorem PS.get_map_set (ps : PS) (k' v k : Nat) :
    PS.get (ps.map (fun e => if e.1 == k' then (k', v) else e)) k =
      if k = k' then (if ps.has k' then some v else none) else ps.get k := by
  induction ps with
  | nil => simp [PS.get, PS.has]
  | cons e t ih =>
    rw [List.map_cons, PS.get_cons, ih, PS.has_cons, PS.get_cons]
    by_cases h1 : e.1 = k' <;> by_cases h2 : k = k'
    · subst h2; simp [h1]
    · have : ¬ (k' = k) := fun h => h2 h.symm
      simp [h1, h2, this]
    · subst h2; simp [h1]
    · simp [h1, h2]

theorem PS.get_append_single (ps : PS) (k' v k : Nat) :
    PS.get (ps ++ [(k', v)]) k = match ps.get k with | some x => some x | none => if k = k' then some v else none := by
  induction ps with
  | nil => simp [PS.get]; by_cases h : k' = k <;> simp [h, eq_comm]
  | cons e t ih =>
    rw [List.cons_append, PS.get_cons, PS.get_cons, ih]
    by_cases h : e.1 = k <;> simp [h]

theorem PS.get_set (ps : PS) (k' v k : Nat) :
    (ps.set k' v).get k = if k = k' then some v else ps.get k := by
  unfold PS.set
  split
  · rename_i hh
    rw [PS.get_map_set]; simp [hh]
  · rename_i hh
    rw [PS.get_append_single]
    have hn : ps.get k' = none := by
      have := PS.has_eq_isSome ps k'
      rw [this] at hh
      cases h : ps.get k' <;> simp_all
    by_cases h2 : k = k'
    · subst h2; simp [hn]
    · simp [h2]; cases ps.get k <;> rfl

theorem PS.has_set (ps : PS) (k' v k : Nat) : (ps.set k' v).has k = (decide (k = k') || ps.has k) := by
  rw [PS.has_eq_isSome, PS.get_set, PS.has_eq_isSome]
  by_cases h : k = k' <;> simp [h]

/-- A renaming none of whose sources is post-selected leaves the dictionary alone. -/
theorem PS.rename_of_not_has (ps : PS) (ren : List (Nat × Nat))
    (h : ∀ r ∈ ren, ps.has r.1 = false) : ps.rename ren = ps := by
  have : ren.filter (fun r => ps.has r.1) = [] := by
    apply List.filter_eq_nil_iff.mpr
    intro r hr; simp [h r hr]
  simp [PS.rename, this]

theorem PS.get_foldl_erase (olds : List (Nat × Nat)) (ps : PS) (k : Nat) :
    (olds.foldl (fun p r => p.erase r.1) ps).get k =
      if k ∈ olds.map (·.1) then none else ps.get k := by
  induction olds generalizing ps with
  | nil => simp
  | cons r t ih =>
    simp only [List.foldl_cons, List.map_cons, List.mem_cons]
    rw [ih, PS.get_erase]
    by_cases h1 : k = r.1 <;> by_cases h2 : k ∈ t.map (·.1) <;> simp [h1, h2]

theorem PS.get_foldl_set (kvs : List (Nat × Nat)) (p : PS) (k : Nat)
    (hnd : (kvs.map (·.1)).Nodup) :
    (kvs.foldl (fun p e => p.set e.1 e.2) p).get k =
      match kvs.find? (·.1 == k) with
      | some e => some e.2
      | none => p.get k := by
  induction kvs generalizing p with
  | nil => simp
  | cons e t ih =>
    simp only [List.map_cons, List.nodup_cons] at hnd
    simp only [List.foldl_cons, List.find?_cons]
    rw [ih _ hnd.2, PS.get_set]
    by_cases h1 : e.1 = k
    · subst h1
      have : t.find? (·.1 == e.1) = none := by
        apply List.find?_eq_none.mpr
        intro x hx hxe
        apply hnd.1
        simp only [List.mem_map]
        exact ⟨x, hx, by simpa using hxe⟩
      simp [this]
    · have hb : (e.1 == k) = false := by simpa using h1
      simp [Ne.symm h1, hb]

/-! ### post-processing circuits on values -/

theorem applyCG_snd_length (cg : List CG) (bw : List BV) (name : String) (i o off : Nat)
    (h : off + i ≤ bw.length) : (applyCG cg bw name i o off).2.length = bw.length - i + o := by
  simp [applyCG, outs, List.length_take, List.length_drop]; omega

/-- Width bookkeeping of a list of post-processing layers: every box fits. -/
def fits : Nat → List (PBox × Nat) → Option Nat
  | w, [] => some w
  | w, (b, off) :: rest => if off + b.nin ≤ w then fits (w - b.nin + b.nout) rest else none

theorem fits_append {w : Nat} {l1 l2 : List (PBox × Nat)} {w1 : Nat} (h : fits w l1 = some w1) :
    fits w (l1 ++ l2) = fits w1 l2 := by
  induction l1 generalizing w with
  | nil => simp [fits] at h; subst h; rfl
  | cons a t ih =>
    obtain ⟨b, off⟩ := a
    simp only [fits, List.cons_append] at *
    split at h
    · rename_i hw; simp [hw]; exact ih h
    · cases h

theorem stepRun_suffix (s : List CG × List BV) (l : PBox × Nat) (sfx : List BV)
    (h : l.2 + l.1.nin ≤ s.2.length) :
    PP.stepRun (s.1, s.2 ++ sfx) l = ((PP.stepRun s l).1, (PP.stepRun s l).2 ++ sfx) := by
  obtain ⟨b, off⟩ := l
  cases b with
  | swap =>
    simp only [PBox.nin] at h
    simp only [PP.stepRun, swapAt]
    rw [List.take_append_of_le_length (by omega), List.drop_append_of_le_length (by omega),
      List.drop_append_of_le_length h, List.take_append_of_le_length (by simp; omega)]
    simp
  | gate name i o =>
    simp only [PBox.nin] at h
    simp only [PP.stepRun, applyCG]
    rw [List.drop_append_of_le_length (by omega), List.take_append_of_le_length (by simp; omega),
      List.take_append_of_le_length (by omega), List.drop_append_of_le_length h]
    simp

theorem stepRun_length (s : List CG × List BV) (l : PBox × Nat) (h : l.2 + l.1.nin ≤ s.2.length) :
    (PP.stepRun s l).2.length = s.2.length - l.1.nin + l.1.nout := by
  obtain ⟨b, off⟩ := l
  cases b with
  | swap => simp [PP.stepRun, swapAt_length, PBox.nin, PBox.nout] at *; omega
  | gate name i o => simp only [PP.stepRun, PBox.nin, PBox.nout] at *; exact applyCG_snd_length _ _ _ _ _ _ h

/-- Running layers that fit in width `|s.2|` ignores any further wires on the right. -/
theorem foldl_stepRun_suffix (layers : List (PBox × Nat)) (s : List CG × List BV) (sfx : List BV)
    (w : Nat) (hfit : fits s.2.length layers = some w) :
    layers.foldl PP.stepRun (s.1, s.2 ++ sfx) =
      ((layers.foldl PP.stepRun s).1, (layers.foldl PP.stepRun s).2 ++ sfx) ∧
    (layers.foldl PP.stepRun s).2.length = w := by
  induction layers generalizing s with
  | nil => simp [fits] at hfit; simp [hfit]
  | cons l t ih =>
    obtain ⟨b, off⟩ := l
    simp only [fits] at hfit
    split at hfit
    · rename_i hw
      simp only [List.foldl_cons]
      rw [stepRun_suffix s (b, off) sfx hw]
      have hl := stepRun_length s (b, off) hw
      simp only at hl
      exact ih (PP.stepRun s (b, off)) (by rw [hl]; exact hfit)
    · cases hfit

/-- The swaps of `add_bit` are those at `m-1, …, k`. -/
theorem moveSwaps_eq (k m : Nat) :
    moveSwaps k m = (List.range' k (m - k)).reverse.map fun o => (PBox.swap, o) := by
  induction m with
  | zero => simp [moveSwaps]
  | succ m ih =>
    simp only [moveSwaps]
    split
    · rename_i hkm
      rw [ih, show m + 1 - k = m - k + 1 by omega, List.range'_concat, List.reverse_append]
      simp only [List.reverse_cons, List.reverse_nil, List.nil_append, List.singleton_append, List.map_cons,
        Nat.one_mul, show k + (m - k) = m by omega]
    · rw [show m + 1 - k = 0 by omega]; rfl

theorem foldl_stepRun_swaps (os : List Nat) (s : List CG × List BV) :
    (os.map fun o => (PBox.swap, o)).foldl PP.stepRun s = (s.1, os.foldl swapAt s.2) := by
  induction os generalizing s with
  | nil => rfl
  | cons o os ih => rw [List.map_cons, List.foldl_cons, ih]; rfl

/-- They bring the new wire (just right of `pre`) to position `k`. -/
theorem foldl_moveSwaps (k : Nat) (pre : List BV) (x : BV) (sfx : List BV) (cg : List CG)
    (hk : k ≤ pre.length) :
    (moveSwaps k pre.length).foldl PP.stepRun (cg, pre ++ [x] ++ sfx) =
      (cg, pre.take k ++ [x] ++ pre.drop k ++ sfx) := by
  have h := foldl_swapAt_range'_reverse (pre.take k) (pre.drop k) sfx x
  rw [take_length_le hk, List.length_drop, ← List.append_assoc, List.take_append_drop] at h
  rw [moveSwaps_eq, foldl_stepRun_swaps]
  simp only [List.append_assoc, List.cons_append, List.nil_append] at h ⊢
  rw [h]

theorem moveSwaps_nil {k m : Nat} (h : moveSwaps k m = []) : m ≤ k := by
  rw [moveSwaps_eq] at h
  simp only [List.map_eq_nil_iff, List.reverse_eq_nil_iff, List.range'_eq_nil_iff] at h
  omega

theorem fits_moveSwaps (k m : Nat) (w : Nat) (hw : m + 1 ≤ w) : fits w (moveSwaps k m) = some w := by
  induction m with
  | zero => simp [moveSwaps, fits]
  | succ m ih =>
    simp only [moveSwaps]
    split
    · simp only [fits, PBox.nin, PBox.nout]
      have : m + 2 ≤ w := by omega
      simp [this]
      have : w - 2 + 2 = w := by omega
      rw [this]; exact ih (by omega)
    · rfl

theorem fits_succ {w c : Nat} {l : List (PBox × Nat)} (h : fits w l = some c) :
    fits (w + 1) l = some (c + 1) := by
  induction l generalizing w with
  | nil => simp [fits] at *; omega
  | cons a t ih =>
    obtain ⟨b, off⟩ := a
    simp only [fits] at *
    split at h
    · rename_i hw
      have : off + b.nin ≤ w + 1 := by omega
      simp only [this, ↓reduceIte]
      have e : w + 1 - b.nin + b.nout = (w - b.nin + b.nout) + 1 := by omega
      rw [e]; exact ih h
    · cases h

/-- Well-formed post-processing: its layers fit, from `dom` to `cod`. -/
def PP.WF (pp : PP) : Prop := fits pp.dom pp.layers = some pp.cod

/-- `add_bit(unit, offset)`: the new circuit, run on one more input, gives the result of the old
    one with the new value inserted at `offset`; it is well-formed again, one wider at both ends,
    the old result has the width `cod`, and the new circuit has no boxes only if the old one had
    none and the wire went to the right end. -/
theorem PP.addWire_run {pp pp' : PP} {k : Nat} (hwf : pp.WF) (h : pp.addWire k = .ok pp')
    (ws : List BV) (x : BV) (hws : ws.length = pp.dom) :
    pp'.run (ws ++ [x]) = ((pp.run ws).1, insertAt (pp.run ws).2 k [x]) ∧ pp'.WF ∧
      pp'.dom = pp.dom + 1 ∧ pp'.cod = pp.cod + 1 ∧ (pp.run ws).2.length = pp.cod ∧ k ≤ pp.cod ∧
      (pp'.layers = [] → pp.layers = [] ∧ pp.cod ≤ k) := by
  unfold PP.addWire at h
  split at h
  · cases h
  · rename_i hk
    cases h
    have hfit : fits (([] : List CG), ws).2.length pp.layers = some pp.cod := by
      unfold PP.WF at hwf; simpa [hws] using hwf
    obtain ⟨hrun, hlen⟩ := foldl_stepRun_suffix pp.layers ([], ws) [x] pp.cod hfit
    refine ⟨?_, ?_, rfl, rfl, hlen, by omega, fun hl => ⟨(List.append_eq_nil_iff.mp hl).1, moveSwaps_nil (List.append_eq_nil_iff.mp hl).2⟩⟩
    · simp only [PP.run, List.foldl_append]
      rw [hrun]
      have hk' : k ≤ (List.foldl PP.stepRun ([], ws) pp.layers).2.length := by rw [hlen]; omega
      have := foldl_moveSwaps k (List.foldl PP.stepRun ([], ws) pp.layers).2 x []
        (List.foldl PP.stepRun ([], ws) pp.layers).1 hk'
      rw [hlen] at this
      simp only [List.append_nil] at this
      rw [this]; simp [insertAt]
    · unfold PP.WF at *
      simp only
      have h1 : fits (pp.dom + 1) pp.layers = some (pp.cod + 1) := fits_succ hwf
      rw [fits_append h1]
      exact fits_moveSwaps k pp.cod (pp.cod + 1) (by omega)

/-- `post_process` with one box. -/
theorem PP.post_run {pp pp' : PP} {box : PBox} {off : Nat} (hwf : pp.WF) (h : pp.post box off = .ok pp')
    (ws : List BV) :
    pp'.run ws = PP.stepRun (pp.run ws) (box, off) ∧ pp'.WF ∧ pp'.dom = pp.dom ∧
      pp'.cod = pp.cod - box.nin + box.nout ∧ off + box.nin ≤ pp.cod := by
  unfold PP.post at h
  split at h
  · cases h
  · rename_i hk
    cases h
    refine ⟨by simp [PP.run, List.foldl_append], ?_, rfl, rfl, by omega⟩
    unfold PP.WF at *
    simp only
    rw [fits_append hwf]
    have : off + box.nin ≤ pp.cod := by omega
    simp [fits, this]

end DV.Tk
