/-
  Proofs/Functor.lean — C04: `>>` in closed form, images of types (tensor, adjoints), the loop of
  `Functor.apply` over `bs1 ++ bs2` and from an accumulated result, the dagger of a generator.
-/
import Proofs.WFOps
import Proofs.Laws
import Model.Functor

namespace DV

theorem Diagram.thenD_assoc (a b c : Diagram) : (a.thenD b).thenD c = a.thenD (b.thenD c) := by
  simp [Diagram.thenD, List.append_assoc]

theorem Diagram.id_thenD {d : Diagram} (hd : d.WF) {t : Ty} (h : d.dom = t) :
    (Diagram.id t).thenD d = d := by
  cases d with | mk dom cod boxes offsets layers =>
  cases layers with | mk ld lc lb =>
  have h1 := hd.ldom
  simp only at h h1
  subst h h1
  simp [Diagram.thenD, Diagram.id, LArrow.id]

theorem Diagram.thenD_id {d : Diagram} (hd : d.WF) {t : Ty} (h : d.cod = t) :
    d.thenD (Diagram.id t) = d := by
  cases d with | mk dom cod boxes offsets layers =>
  cases layers with | mk ld lc lb =>
  have h1 := hd.lcod
  simp only at h h1
  subst h h1
  simp [Diagram.thenD, Diagram.id, LArrow.id]

/-! ### Associativity of `>>` as an equality of results (no well-typedness needed)

  `F`: from `(a >> b) >> c` forward to `a >> (b >> c)`; `R`: the reverse; `M`: from the two middle
  products `a >> b` and `b >> c` to both bracketings. -/

theorem Diagram.then_assocF {a b c x y : Diagram} (h1 : a.then b = .ok x) (h2 : x.then c = .ok y) :
    ∃ z, b.then c = .ok z ∧ a.then z = .ok y := by
  obtain ⟨c1, rfl⟩ := Diagram.then_ok' h1
  obtain ⟨c2, rfl⟩ := Diagram.then_ok' h2
  exact ⟨b.thenD c, Diagram.then_eq_thenD c2,
    by rw [Diagram.then_eq_thenD (b := b.thenD c) c1, Diagram.thenD_assoc]⟩

theorem Diagram.then_assocR {a b c z y : Diagram} (h1 : b.then c = .ok z) (h2 : a.then z = .ok y) :
    ∃ x, a.then b = .ok x ∧ x.then c = .ok y := by
  obtain ⟨c1, rfl⟩ := Diagram.then_ok' h1
  obtain ⟨c2, rfl⟩ := Diagram.then_ok' h2
  exact ⟨a.thenD b, Diagram.then_eq_thenD c2,
    by rw [Diagram.then_eq_thenD (a := a.thenD b) c1, Diagram.thenD_assoc]⟩

theorem Diagram.then_assocM {a b c x z : Diagram} (h1 : a.then b = .ok x) (h2 : b.then c = .ok z) :
    ∃ y, x.then c = .ok y ∧ a.then z = .ok y := by
  obtain ⟨c1, rfl⟩ := Diagram.then_ok' h1
  obtain ⟨c2, rfl⟩ := Diagram.then_ok' h2
  exact ⟨(a.thenD b).thenD c, Diagram.then_eq_thenD (a := a.thenD b) c2,
    by rw [Diagram.then_eq_thenD (b := b.thenD c) c1, Diagram.thenD_assoc]⟩

/-! ### Images of types -/

theorem Functor.ty_cons_ok (F : Functor) {o : Ob} {os t : Ty} :
    F.ty (o :: os) = .ok t ↔ ∃ t1 ts, F.ob1 o = .ok t1 ∧ F.ty os = .ok ts ∧ t = t1 ++ ts := by
  rw [Functor.ty]
  cases F.ob1 o with
  | error e => simp
  | ok t1 =>
    cases F.ty os with
    | error e => simp
    | ok ts => simp [eq_comm]

theorem Functor.ty_append (F : Functor) {a b ta tb : Ty} (ha : F.ty a = .ok ta) (hb : F.ty b = .ok tb) :
    F.ty (a ++ b) = .ok (ta ++ tb) := by
  induction a generalizing ta with
  | nil => cases ha; exact hb
  | cons o os ih =>
    obtain ⟨t1, ts, h1, hs, rfl⟩ := F.ty_cons_ok.mp ha
    exact F.ty_cons_ok.mpr ⟨t1, ts ++ tb, h1, ih hs, List.append_assoc ..⟩

theorem Functor.ty_append_inv (F : Functor) {a b t : Ty} (h : F.ty (a ++ b) = .ok t) :
    ∃ ta tb, F.ty a = .ok ta ∧ F.ty b = .ok tb ∧ t = ta ++ tb := by
  induction a generalizing t with
  | nil => exact ⟨[], t, rfl, h, rfl⟩
  | cons o os ih =>
    obtain ⟨t1, ts, h1, hs, rfl⟩ := F.ty_cons_ok.mp h
    obtain ⟨ta, tb, ha, hb, rfl⟩ := ih hs
    exact ⟨t1 ++ ta, tb, F.ty_cons_ok.mpr ⟨t1, ta, h1, ha, rfl⟩, hb, (List.append_assoc ..).symm⟩

/-- `F` is well-typed on box `b`: its image is a well-typed diagram from the image of the domain
    to the image of the codomain (the only requirement the property puts on a functor). -/
def Functor.okOn (F : Functor) (b : Box) : Prop :=
  ∀ x, F.box b = .ok x → x.WF ∧ F.ty b.dom = .ok x.dom ∧ F.ty b.cod = .ok x.cod

/-! ### The loop over `bs1 ++ bs2`, and from an accumulated result (used by `Functor.apply_then`) -/

/-- The type reached by scanning boxes and offsets from `scan` (monoidal.py:844). -/
def scanAfter : Ty → List Box → List Int → Ty
  | scan, b :: bs, o :: os =>
    scanAfter (pySlice scan none (some o) ++ b.cod ++ pySlice scan (some (o + b.dom.length)) none) bs os
  | scan, _, _ => scan

theorem Functor.stepBox_scan (F : Functor) {scan scan' : Ty} {result res : Diagram} {b : Box}
    {off : Int} (h : F.stepBox scan result b off = .ok (scan', res)) :
    scan' = pySlice scan none (some off) ++ b.cod ++ pySlice scan (some (off + b.dom.length)) none := by
  unfold Functor.stepBox at h
  split at h
  · split at h
    · cases h
    · split at h
      · cases h
      · split at h
        · cases h
        · simp only [Except.ok.injEq, Prod.mk.injEq] at h; exact h.1.symm
  all_goals cases h

/-- A layer read off its own domain: what `F` slices off the scan at the layer's offset. -/
theorem Layer.slice_left (l : Layer) : pySlice l.dom none (some (l.left.length : Int)) = l.left := by
  rw [pySlice_take]; simp [Layer.dom]

theorem Layer.slice_right (l : Layer) :
    pySlice l.dom (some ((l.left.length : Int) + l.box.dom.length)) none = l.right := by
  have e : ((l.left.length : Int) + (l.box.dom.length : Int)) =
      ((l.left.length + l.box.dom.length : Nat) : Int) := by simp
  rw [e, pySlice_drop]; simp [Layer.dom]

theorem Functor.loop_append_eq (F : Functor) {scan : Ty} {res : Diagram} {bs1 bs2 : List Box}
    {os1 os2 : List Int} (hlen : bs1.length = os1.length) :
    F.loop scan res (bs1 ++ bs2) (os1 ++ os2) =
      match F.loop scan res bs1 os1 with
      | .error e => .error e
      | .ok r1 => F.loop (scanAfter scan bs1 os1) r1 bs2 os2 := by
  induction bs1 generalizing scan res os1 with
  | nil =>
    cases os1 with
    | nil => rfl
    | cons o os => simp at hlen
  | cons b bs ih =>
    cases os1 with
    | nil => simp at hlen
    | cons o os =>
      simp only [List.cons_append, Functor.loop, scanAfter]
      cases hstep : F.stepBox scan res b o with
      | error e => rfl
      | ok p =>
        obtain ⟨scan', res'⟩ := p
        cases F.stepBox_scan hstep
        exact ih (by simpa using hlen)

theorem Functor.loop_append (F : Functor) {scan : Ty} {res r : Diagram} {bs1 bs2 : List Box}
    {os1 os2 : List Int} (hlen : bs1.length = os1.length)
    (h : F.loop scan res (bs1 ++ bs2) (os1 ++ os2) = .ok r) :
    ∃ r1, F.loop scan res bs1 os1 = .ok r1 ∧ F.loop (scanAfter scan bs1 os1) r1 bs2 os2 = .ok r := by
  rw [F.loop_append_eq hlen] at h
  split at h
  · cases h
  · exact ⟨_, ‹_›, h⟩

theorem Functor.loop_append' (F : Functor) {scan : Ty} {res r1 r : Diagram} {bs1 bs2 : List Box}
    {os1 os2 : List Int} (hlen : bs1.length = os1.length)
    (h1 : F.loop scan res bs1 os1 = .ok r1)
    (h2 : F.loop (scanAfter scan bs1 os1) r1 bs2 os2 = .ok r) :
    F.loop scan res (bs1 ++ bs2) (os1 ++ os2) = .ok r := by
  rw [F.loop_append_eq hlen, h1]; exact h2

theorem Functor.stepBox_acc (F : Functor) {scan scan' : Ty} {a r0 r0' res : Diagram} {b : Box}
    {o : Int} (h0 : a.then r0 = .ok r0') (h : F.stepBox scan r0 b o = .ok (scan', res)) :
    ∃ res', F.stepBox scan r0' b o = .ok (scan', res') ∧ a.then res = .ok res' := by
  unfold Functor.stepBox at h ⊢
  split at h
  · rename_i l r x hl hr hx
    split at h
    · cases h
    · rename_i lx hlx
      split at h
      · cases h
      · rename_i layer hlayer
        split at h
        · cases h
        · rename_i res0 hres
          simp only [Except.ok.injEq, Prod.mk.injEq] at h
          obtain ⟨rfl, rfl⟩ := h
          obtain ⟨y, hy1, hy2⟩ := Diagram.then_assocM h0 hres
          exact ⟨y, by simp only [hy1], hy2⟩
  all_goals cases h

/-- Running the loop from `a >> r0` is `a >>` running it from `r0`. -/
theorem Functor.loop_acc (F : Functor) {scan : Ty} {a r0 r0' q : Diagram} {bs : List Box}
    {os : List Int} (h0 : a.then r0 = .ok r0') (h : F.loop scan r0 bs os = .ok q) :
    ∃ q', F.loop scan r0' bs os = .ok q' ∧ a.then q = .ok q' := by
  induction bs generalizing scan r0 r0' os with
  | nil => simp only [Functor.loop, Except.ok.injEq] at h; subst h; exact ⟨r0', rfl, h0⟩
  | cons b bs ih =>
    cases os with
    | nil => simp only [Functor.loop, Except.ok.injEq] at h; subst h; exact ⟨r0', rfl, h0⟩
    | cons o os =>
      simp only [Functor.loop] at h ⊢
      split at h
      · cases h
      · rename_i scan' res hstep
        obtain ⟨res', hs', ht'⟩ := F.stepBox_acc h0 hstep
        simp only [hs']
        exact ih ht' h

theorem scanAfter_chain {scan c : Ty} {ls : List Layer} (h : Chain scan ls c) :
    scanAfter scan (ls.map (·.box)) (ls.map (fun l => (l.left.length : Int))) = c := by
  induction ls generalizing scan with
  | nil => exact h
  | cons l ls ih =>
    obtain ⟨rfl, hc⟩ := h
    simp only [List.map_cons, scanAfter]
    rw [Layer.slice_left, Layer.slice_right]
    exact ih hc

/-! ### Adjoints: `F(t.l) = F(t).l`, `F(t.r) = F(t).r` for every winding number -/

@[simp] theorem Ob.l_r (o : Ob) : o.l.r = o := by cases o; simp [Ob.l, Ob.r]
@[simp] theorem Ob.r_l (o : Ob) : o.r.l = o := by cases o; simp [Ob.l, Ob.r]

theorem Ty.l_r (t : Ty) : Ty.r (Ty.l t) = t := by
  simp [Ty.l, Ty.r, List.map_reverse, Function.comp_def]
theorem Ty.r_l (t : Ty) : Ty.l (Ty.r t) = t := by
  simp [Ty.l, Ty.r, List.map_reverse, Function.comp_def]

theorem Ty.l_append (a b : Ty) : Ty.l (a ++ b) = Ty.l b ++ Ty.l a := by simp [Ty.l]
theorem Ty.r_append (a b : Ty) : Ty.r (a ++ b) = Ty.r b ++ Ty.r a := by simp [Ty.r]

theorem iterate_succ' {α} (f : α → α) (n : Nat) (x : α) : iterate f (n+1) x = f (iterate f n x) := by
  induction n generalizing x with
  | zero => rfl
  | succ n ih => simp only [iterate] at ih ⊢; exact ih (f x)

/-- `t` shifted by `z` winding numbers, as `Functor.ob1` does it: `.r` taken `z` times for `z ≥ 0`,
    `.l` taken `-z` times for `z < 0`. -/
def Ty.shift (z : Int) (t : Ty) : Ty :=
  if z < 0 then iterate Ty.l (-z).toNat t else iterate Ty.r z.toNat t

theorem Functor.ob1_ok_iff (F : Functor) {o : Ob} {t : Ty} :
    F.ob1 o = .ok t ↔ ∃ t0, F.ob.lookup o.name = some t0 ∧ Ty.shift o.z t0 = t := by
  unfold Functor.ob1
  cases F.ob.lookup o.name with
  | none => simp
  | some t0 =>
    have : (if o.z < 0 then .ok (iterate Ty.l (-o.z).toNat t0) else .ok (iterate Ty.r o.z.toNat t0) :
        Except Err Ty) = .ok (Ty.shift o.z t0) := by unfold Ty.shift; split <;> rfl
    simp [this]

theorem Ty.shift_natCast (n : Nat) (t : Ty) : Ty.shift n t = iterate Ty.r n t := by
  rw [Ty.shift, if_neg (by omega), Int.toNat_natCast]

theorem Ty.shift_neg_natCast (n : Nat) (t : Ty) : Ty.shift (-(n : Int)) t = iterate Ty.l n t := by
  cases n with
  | zero => rfl
  | succ n => rw [Ty.shift, if_pos (by omega), Int.neg_neg, Int.toNat_natCast]

theorem Ty.shift_pred (z : Int) (t : Ty) : Ty.shift (z - 1) t = Ty.l (Ty.shift z t) := by
  obtain ⟨n, rfl | rfl⟩ := Int.eq_nat_or_neg z
  · cases n with
    | zero => exact Ty.shift_neg_natCast 1 t
    | succ n =>
      rw [show ((n + 1 : Nat) : Int) - 1 = (n : Int) by omega, Ty.shift_natCast, Ty.shift_natCast,
        iterate_succ', Ty.r_l]
  · rw [show -(n : Int) - 1 = -((n + 1 : Nat) : Int) by omega, Ty.shift_neg_natCast,
      Ty.shift_neg_natCast, iterate_succ']

theorem Ty.shift_succ (z : Int) (t : Ty) : Ty.shift (z + 1) t = Ty.r (Ty.shift z t) := by
  obtain ⟨n, rfl | rfl⟩ := Int.eq_nat_or_neg z
  · rw [show (n : Int) + 1 = ((n + 1 : Nat) : Int) by omega, Ty.shift_natCast, Ty.shift_natCast,
      iterate_succ']
  · cases n with
    | zero => exact Ty.shift_natCast 1 t
    | succ n =>
      rw [show -((n + 1 : Nat) : Int) + 1 = -(n : Int) by omega, Ty.shift_neg_natCast,
        Ty.shift_neg_natCast, iterate_succ', Ty.l_r]

theorem Functor.ob1_l (F : Functor) {o : Ob} {t : Ty} (h : F.ob1 o = .ok t) :
    F.ob1 o.l = .ok (Ty.l t) := by
  obtain ⟨t0, h0, rfl⟩ := F.ob1_ok_iff.mp h
  exact F.ob1_ok_iff.mpr ⟨t0, h0, Ty.shift_pred o.z t0⟩

theorem Functor.ob1_r (F : Functor) {o : Ob} {t : Ty} (h : F.ob1 o = .ok t) :
    F.ob1 o.r = .ok (Ty.r t) := by
  obtain ⟨t0, h0, rfl⟩ := F.ob1_ok_iff.mp h
  exact F.ob1_ok_iff.mpr ⟨t0, h0, Ty.shift_succ o.z t0⟩

/-- An operation on objects that the functor follows (`hob`) and that reverses types. -/
theorem Functor.ty_reverse_map (F : Functor) {f : Ob → Ob} {G : Ty → Ty}
    (hG : ∀ a b, G (a ++ b) = G b ++ G a)
    (hob : ∀ {o t}, F.ob1 o = .ok t → F.ob1 (f o) = .ok (G t)) {t t' : Ty} (h : F.ty t = .ok t') :
    F.ty (t.reverse.map f) = .ok (G t') := by
  induction t generalizing t' with
  | nil =>
    cases h
    have : G [] = [] := by simpa using congrArg List.length (hG [] [])
    rw [this]; rfl
  | cons o os ih =>
    obtain ⟨t1, ts, h1, hs, rfl⟩ := F.ty_cons_ok.mp h
    rw [List.reverse_cons, List.map_append, hG]
    exact F.ty_append (ih hs) (F.ty_cons_ok.mpr ⟨G t1, [], hob h1, rfl, (List.append_nil _).symm⟩)

/-- Rigid functors send left adjoints to left adjoints, for types of any length and any winding
    numbers. -/
theorem Functor.ty_l (F : Functor) {t t' : Ty} (h : F.ty t = .ok t') : F.ty (Ty.l t) = .ok (Ty.l t') :=
  F.ty_reverse_map Ty.l_append F.ob1_l h

theorem Functor.ty_r (F : Functor) {t t' : Ty} (h : F.ty t = .ok t') : F.ty (Ty.r t) = .ok (Ty.r t') :=
  F.ty_reverse_map Ty.r_append F.ob1_r h

/-- The image of a daggered generator is the dagger of the image of the generator. -/
theorem Functor.box_dagger (F : Functor) (b : Box) (hk : b.kind = .gen) (hd : b.dagger = false)
    {x : Diagram} (hx : F.box b = .ok x) : F.box b.dag = .ok x.dagger := by
  have hdag : b.dag.dagger = true := by simp [Box.dag, hk, hd]
  have hkd : b.dag.kind = .gen := by simp [Box.dag, hk]
  simp only [Functor.box, hk, hd] at hx
  simp only [Functor.box, hkd, hdag, if_true, Box.dag_dag]
  simp only [Bool.false_eq_true, if_false] at hx
  rw [hx]

end DV
