/-
  Proofs/CircuitTables.lean — the per-gate hypotheses of the whole-circuit theorems of
  Proofs/CircuitCyc8.lean hold on the gate set of the model: by kernel evaluation (`decide`) of the exact
  arithmetic for the fixed tables, and for rotations at every phase index `n : ℤ` (even unless CU1) by Proofs/RotCyc8.lean.

  Gate set (`unitaryGates`, closed under `Gate.dagger`):
    * the table `GATES` = SWAP, CZ, CX, H, S, T, X, Y, Z;
    * Rx, Ry, Rz, CRz, CRx at the phases `n/8`, `n` even, and CU1 at all `n/8` (`0 ≤ n < 16`; `rotOK_all`
      holds for all `n : ℤ`);
    * `Controlled(g)` for the one-qubit table gates and for Rx, Ry, Rz at the even phases;
    * the daggers of all of these (flagged `S†`, `T†`, `Y†`, negated phases, rebuilt controlled gates).
  Kets and bras (the lists `ketGates`, `braGates` of ≤ 4 bits; `ket_ok`, `bra_ok` of Proofs/KetBra.lean hold for every
  bitstring), scalars (all normalised values) and square-root scalars `sqrt(z)` (all normalised
  values of the root; `z` non-real or non-negative) for the dagger statement; scalars for the ZX statements.
  The rebuilt-controlled dagger of `Controlled(S)`, `Controlled(T)` is correct only with F2 repaired
  (`f2Fixed`), so `dagOK` for these four gates is stated under that switch.
-/
import Proofs.KetBra

namespace DV.Gates
open DV

def tableGates : List Gate := named.map (·.2)

def rotGates : List Gate :=
  rotKinds.flatMap fun k => (if k = .CU1 then allPhases else evenPhases).map (Gate.rot k)

/-- Controlled gates whose rebuilt dagger does not depend on F2 (un-flagged Hermitian or rotation targets). -/
def ctrlGates : List Gate :=
  [gH, gX, gY, gZ].map (fun g => Gate.ctrl (.q g)) ++
  [RotKind.Rx, .Ry, .Rz].flatMap fun k => evenPhases.map fun n => Gate.ctrl (.rot k n)

/-- `Controlled(S)`, `Controlled(T)`: their daggers evaluate correctly only with F2 repaired. -/
def ctrlGatesF2 : List Gate := [gS, gT].map fun g => Gate.ctrl (.q g)

def unitaryBase : List Gate := tableGates ++ rotGates ++ ctrlGates
/-- The unitary gate set, closed under dagger. -/
def unitaryGates : List Gate := unitaryBase ++ unitaryBase.map Gate.dagger
def unitaryGatesF2 : List Gate := ctrlGatesF2 ++ ctrlGatesF2.map Gate.dagger

/-- All bitstrings of length ≤ 4. -/
def bitstringsUpTo4 : List (List Bool) := bitstringsUpTo3 ++ bits 4
def ketGates : List Gate := bitstringsUpTo4.map Gate.ket
def braGates : List Gate := bitstringsUpTo4.map Gate.bra

/-! ### C11 -/

theorem tableGates_ok : ∀ g ∈ tableGates ++ tableGates.map Gate.dagger,
    g.isoOK = true ∧ g.coisoOK = true ∧ g.dagOK = true := by decide +kernel

theorem evenPhases_even : ∀ n ∈ evenPhases, n % 2 = 0 := by decide

theorem phases_exact {k : RotKind} {n : Int} (h : n ∈ (if k = .CU1 then allPhases else evenPhases)) :
    k = .CU1 ∨ n % 2 = 0 := by
  by_cases hk : k = .CU1
  · exact .inl hk
  · rw [if_neg hk] at h; exact .inr (evenPhases_even n h)

theorem mem_rotGates {g : Gate} (h : g ∈ rotGates) : ∃ k n, g = .rot k n ∧ (k = .CU1 ∨ n % 2 = 0) := by
  simp only [rotGates, List.mem_flatMap, List.mem_map] at h
  obtain ⟨k, _, n, hn, rfl⟩ := h
  exact ⟨k, n, rfl, phases_exact hn⟩

/-- The tabulated rotations and their daggers (negated phase indices) are instances of `rotOK_all`. -/
theorem rotGates_ok : ∀ g ∈ rotGates ++ rotGates.map Gate.dagger,
    g.isoOK = true ∧ g.coisoOK = true ∧ g.dagOK = true := by
  intro g hg
  rcases List.mem_append.1 hg with h | h
  · obtain ⟨k, n, rfl, hkn⟩ := mem_rotGates h
    exact rotOK_all k n hkn
  · obtain ⟨g', hg', rfl⟩ := List.mem_map.1 h
    obtain ⟨k, n, rfl, hkn⟩ := mem_rotGates hg'
    exact rotOK_all k (-n) (hkn.imp_right fun h => by omega)

theorem IsMat.eq_two_by_two {R : Type} [Zero R] {U : Mat R} (h : IsMat 2 2 U) :
    ∃ a b c d, U = [[a, b], [c, d]] :=
  ⟨ent U 0 0, ent U 0 1, ent U 1 0, ent U 1 1, h.eq_tab.trans (by simp [tab, List.range_succ])⟩

section Ring
variable {R : Type} [CommRing R]

/-- `Controlled` is multiplicative on one-qubit matrices … -/
theorem ctrl_mul (a b c d e f g h : R) :
    mul (ctrlArr [[a, b], [c, d]]) (ctrlArr [[e, f], [g, h]]) = ctrlArr (mul [[a, b], [c, d]] [[e, f], [g, h]]) := by
  mat_simp

/-- … hence `Controlled(U)` is unitary when `U` is. -/
theorem ctrl_unitary [StarRing R] {U : Mat R} (hU : IsMat 2 2 U) :
    (mul U (dagger U) = identity 2 → mul (ctrlArr U) (dagger (ctrlArr U)) = identity 4) ∧
    (mul (dagger U) U = identity 2 → mul (dagger (ctrlArr U)) (ctrlArr U) = identity 4) := by
  obtain ⟨a, b, c, d, rfl⟩ := hU.eq_two_by_two
  rw [ctrl_dagger]
  simp only [dagger, transpose, Conj.conj, List.map, List.zipWith]
  constructor <;> intro h <;> rw [ctrl_mul, h] <;> simp [ctrlArr, identity]

end Ring

section Hom
variable {R S : Type} [Zero R] [One R] [Add R] [Mul R] [Neg R] [Conj R]
variable [Zero S] [One S] [Add S] [Mul S] [Neg S] [Conj S]

theorem mapM_ctrlArr {f : R → S} (hf : IsHom f) (U : Mat R) : mapM f (ctrlArr U) = ctrlArr (mapM f U) := by
  simp [mapM, ctrlArr, hf.zero, hf.one, Function.comp_def]

theorem AllEnt.ctrlArr {P : R → Prop} (hP : IsClosed P) {U : Mat R} (hU : AllEnt P U) : AllEnt P (ctrlArr U) := by
  have h0 := hP.zero
  have h1 := hP.one
  simp only [AllEnt, DV.Gates.ctrlArr, List.mem_append, List.mem_map] at hU ⊢
  rintro r (hr | ⟨r', hr', rfl⟩) x hx
  · simp only [List.mem_cons, List.not_mem_nil, or_false] at hr
    rcases hr with rfl | rfl <;> simp only [List.mem_cons, List.not_mem_nil, or_false] at hx <;>
      rcases hx with rfl | rfl | rfl | rfl <;> assumption
  · simp only [List.mem_cons] at hx
    rcases hx with rfl | rfl | hx
    · exact h0
    · exact h0
    · exact hU r' hr' x hx
end Hom

/-- **`Controlled(g)` for a one-qubit target that carries no dagger flag, nor does its dagger** (rotations,
    gates declared self-adjoint): unitary when `g` is, and the rebuilt controlled gate (gates.py:286) evaluates
    to the adjoint when `g†` does. -/
theorem ctrl_ok_of {g : Gate} (hf : g.isDagger = false) (hf' : g.dagger.isDagger = false) (hd : g.dom = 1)
    (hc : g.cod = 1) (h : g.isoOK = true ∧ g.coisoOK = true ∧ g.dagOK = true) :
    (Gate.ctrl g).isoOK = true ∧ (Gate.ctrl g).coisoOK = true ∧ (Gate.ctrl g).dagOK = true := by
  have e : (Gate.ctrl g).eval = ctrlArr g.eval := by
    simp only [Gate.eval, Gate.evalW, Gate.arrayW, show (Gate.ctrl g).isDagger = false from rfl, hf, Bool.and_false,
      Bool.false_eq_true, if_false]
  have e' : (Gate.ctrl g).dagger.eval = ctrlArr g.dagger.eval := by
    simp only [Gate.dagger, Gate.eval, Gate.evalW, Gate.arrayW, show (Gate.ctrl g.dagger).isDagger = false from rfl,
      hf', Bool.and_false, Bool.false_eq_true, if_false]
  obtain ⟨hi, hco, hdg⟩ := h
  simp only [Gate.isoOK, Gate.coisoOK, Gate.dagOK, Bool.and_eq_true, beq_iff_eq] at hi hco hdg
  obtain ⟨hm, hn⟩ := Gate.shapeOK_spec hi.1
  rw [hd, hc] at hm
  have hC := hn.ctrlArr nrm_closed
  have hs : (Gate.ctrl g).shapeOK = true := by
    refine Gate.shapeOK_of ?_ (e ▸ hC)
    obtain ⟨a, b, c, d, hU⟩ := hm.eq_two_by_two
    rw [e, hU]
    simp [IsMat, ctrlArr, Gate.dom, Gate.cod, hd, hc, pow2]
  have hv := ctrl_unitary (hm.mapM (f := Cyc8.val))
  simp only [Gate.isoOK, Gate.coisoOK, Gate.dagOK, hs, Bool.true_and, beq_iff_eq, e, e', Gate.dom, Gate.cod, hd, hc]
  refine ⟨?_, ?_, ?_⟩
  · apply eq_of_val (hC.mul nrm_closed (hC.dagger nrm_closed)) (AllEnt.idQ nrm_closed _)
    rw [mapM_mul val_isHom, mapM_dagger val_isHom, mapM_ctrlArr val_isHom, mapM_idQ val_isHom]
    refine hv.1 ?_
    rw [← mapM_dagger val_isHom, ← mapM_mul val_isHom, hi.2, hd, mapM_idQ val_isHom]; rfl
  · apply eq_of_val ((hC.dagger nrm_closed).mul nrm_closed hC) (AllEnt.idQ nrm_closed _)
    rw [mapM_mul val_isHom, mapM_dagger val_isHom, mapM_ctrlArr val_isHom, mapM_idQ val_isHom]
    refine hv.2 ?_
    rw [← mapM_dagger val_isHom, ← mapM_mul val_isHom, hco.2, hc, mapM_idQ val_isHom]; rfl
  · rw [hdg.2]
    apply eq_of_val ((hn.dagger nrm_closed).ctrlArr nrm_closed) (hC.dagger nrm_closed)
    obtain ⟨a, b, c, d, hU⟩ := (hm.mapM (f := Cyc8.val)).eq_two_by_two
    rw [mapM_dagger val_isHom, mapM_ctrlArr val_isHom, mapM_ctrlArr val_isHom, mapM_dagger val_isHom, hU, ctrl_dagger]

/-- The four controlled table gates are evaluated; a controlled rotation is unitary because the rotation is. -/
theorem ctrlGates_ok : ∀ g ∈ ctrlGates ++ ctrlGates.map Gate.dagger,
    g.isoOK = true ∧ g.coisoOK = true ∧ g.dagOK = true := by
  have named : ∀ g ∈ [gH, gX, gY, gZ].map (fun g => Gate.ctrl (.q g)) ++
      ([gH, gX, gY, gZ].map fun g => Gate.ctrl (.q g)).map Gate.dagger,
      g.isoOK = true ∧ g.coisoOK = true ∧ g.dagOK = true := by decide +kernel
  have rot : ∀ g ∈ [RotKind.Rx, .Ry, .Rz].flatMap (fun k => evenPhases.map fun n => Gate.ctrl (.rot k n)),
      ∃ k n, g = .ctrl (.rot k n) ∧ k.nq = 1 ∧ n % 2 = 0 := by
    intro g hg
    simp only [List.mem_flatMap, List.mem_map, List.mem_cons, List.not_mem_nil, or_false] at hg
    obtain ⟨k, hk, n, hn, rfl⟩ := hg
    exact ⟨k, n, rfl, by rcases hk with rfl | rfl | rfl <;> rfl, evenPhases_even n hn⟩
  have ok : ∀ k n, k.nq = 1 → n % 2 = 0 → (Gate.ctrl (.rot k n)).isoOK = true ∧
      (Gate.ctrl (.rot k n)).coisoOK = true ∧ (Gate.ctrl (.rot k n)).dagOK = true :=
    fun k n hk hn => ctrl_ok_of rfl rfl hk hk (rotOK_all k n (.inr hn))
  intro g hg
  simp only [ctrlGates, List.map_append, List.mem_append] at hg
  rcases hg with (h | h) | (h | h)
  · exact named g (List.mem_append_left _ h)
  · obtain ⟨k, n, rfl, hk, hn⟩ := rot g h
    exact ok k n hk hn
  · exact named g (List.mem_append_right _ h)
  · obtain ⟨g', hg', rfl⟩ := List.mem_map.1 h
    obtain ⟨k, n, rfl, hk, hn⟩ := rot g' hg'
    exact ok k (-n) hk (by omega)

/-- Every gate of the set is unitary (both sides) and its dagger evaluates to the adjoint. -/
theorem unitaryGates_ok : ∀ g ∈ unitaryGates, g.isoOK = true ∧ g.coisoOK = true ∧ g.dagOK = true := by
  intro g hg
  simp only [unitaryGates, unitaryBase, List.mem_append, List.map_append] at hg
  rcases hg with ((h | h) | h) | ((h | h) | h)
  · exact tableGates_ok g (List.mem_append_left _ h)
  · exact rotGates_ok g (List.mem_append_left _ h)
  · exact ctrlGates_ok g (List.mem_append_left _ h)
  · exact tableGates_ok g (List.mem_append_right _ h)
  · exact rotGates_ok g (List.mem_append_right _ h)
  · exact ctrlGates_ok g (List.mem_append_right _ h)

/-- `Controlled(S)`, `Controlled(T)` and their daggers: unitary in both positions of the switch; the
    dagger evaluates to the adjoint with F2 repaired (as it is: `F2_witness`). -/
theorem unitaryGatesF2_ok : ∀ g ∈ unitaryGatesF2,
    g.isoOK = true ∧ g.coisoOK = true ∧ (f2Fixed = true → g.dagOK = true) := by decide +kernel

/-- Kets are isometries, bras co-isometries, Ket ↔ Bra is the adjoint: `ket_ok`, `bra_ok` (every bitstring) on the
    lists of ≤ 4 bits. -/
theorem ketBra_ok :
    (∀ g ∈ ketGates, g.isoOK = true ∧ g.dagOK = true) ∧
    (∀ g ∈ braGates, g.coisoOK = true ∧ g.dagOK = true) := by
  constructor <;> intro g hg <;> obtain ⟨bs, _, rfl⟩ := List.mem_map.1 hg
  · exact ket_ok bs
  · exact bra_ok bs

/-- Scalars: `⟦s†⟧ = ⟦s⟧†` for every normalised value. -/
theorem scalar_dagOK (z : Cyc8) (hz : z.isNormal = true) : (Gate.scalar z).dagOK = true := by
  simp [Gate.dagOK, Gate.shapeOK, isMatB, allNormalB, Gate.eval, Gate.evalW, Gate.isDagger, Gate.arrayW,
    Gate.dagger, Gate.dom, Gate.cod, pow2, hz, dagger, transpose, Conj.conj]

/-- A user-defined `QuantumGate` on ZERO qubits (a global phase `QuantumGate(name, 0, [z])`, gates.py:21-46)
    that carries a dagger flag (`_dagger = False`, the default of the constructor, or `True` after
    `.dagger()`): `⟦g†⟧ = ⟦g⟧†` for every name, flag and normalised entry.  (With `_dagger = None` the gate
    is declared self-adjoint and the statement holds only for a real entry.) -/
theorem phase0_dagOK (name : String) (z : Cyc8) (b : Bool) (hz : z.isNormal = true) :
    (Gate.q ⟨name, 0, [[z]], some b⟩).dagOK = true := by
  have hc : z.conj.isNormal = true := Cyc8.isNormal_conj hz
  cases b <;>
    simp [Gate.dagOK, Gate.shapeOK, isMatB, allNormalB, Gate.eval, Gate.evalW, Gate.isDagger, Gate.arrayW,
      Gate.dagger, QGate.dagger, Gate.dom, Gate.cod, pow2, hz, hc, dagger, transpose, Conj.conj, Cyc8.conj_conj]

/-- Square-root scalars `sqrt(z)` with value `r`: `⟦s†⟧ = ⟦s⟧†` whenever the box is not taken for self-adjoint
    (every non-real `z`) or its value is real (`z ≥ 0`) — i.e. everywhere but at negative real `z` (F4k). -/
theorem sqrt_dagOK (z r : Cyc8) (hr : r.isNormal = true) (h : sqrtSelfAdjoint z r = false ∨ r.conj = r) :
    (Gate.sqrt z r).dagOK = true := by
  have hs : (Gate.sqrt z r).shapeOK = true := by
    simp [Gate.shapeOK, isMatB, allNormalB, Gate.eval, Gate.evalW, Gate.isDagger, Gate.arrayW, Gate.dom, Gate.cod,
      pow2, hr]
  have he : (Gate.sqrt z r).dagger.eval = dagger (Gate.sqrt z r).eval := (sqrt_dagger_iff z r f2Fixed).2 h
  simp [Gate.dagOK, hs, he]

end DV.Gates
