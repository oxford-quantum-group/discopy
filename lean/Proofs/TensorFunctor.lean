/-
  Proofs/TensorFunctor.lean — the single-pass evaluation of `tensor.Functor.__call__`
  (Model/Tensor.lean `TFunctor.call`, tensor.py:365-391) equals the layer-by-layer composite
  (`TFunctor.layerwise`).

  Shape invariant (`Inv`): the running array has axes `[F dom | F scan | 1 … 1]` (the trailing
  axes of size one come from the `or (1, )` of tensor.py:128, see Model/Tensor.lean).  What the
  induction carries along with it (`stepI_spec`, `loopI_spec`): reshaped to a tensor
  `F dom → F scan` (`accOf`), the running array IS the composite of the layers so far.
  The loop is treated with `self(box)` abstracted as a function `I` (`TFunctor.callI`,
  Model/TensorBubble.lean), so that the same theorem serves functors with bubbles;
  `TFunctor.call` is the case `I = F.box`.
-/
import Proofs.TensorCups
import Model.TensorBubble

namespace DV
namespace TFunctor
open NDArray Tensor

section
variable {R : Type} [CommSemiring R] [StarRing R]

theorem ty_append (F : TFunctor R) (s t : Ty) : F.ty (s ++ t) = F.ty s ++ F.ty t := by
  simp [TFunctor.ty]

theorem ty_nil (F : TFunctor R) : F.ty [] = [] := rfl

theorem dim_append (F : TFunctor R) (s t : Ty) : F.dim (s ++ t) = F.dim s + F.dim t := by
  simp [TFunctor.dim, ty_append]

/-- `self(box)` has the type the functor assigns to the box. -/
def BoxOK (F : TFunctor R) (b : Box) : Prop :=
  ∀ t, F.box b = .ok t → t.WF ∧ t.dom = F.ty b.dom ∧ t.cod = F.ty b.cod

/-- A `Swap` box exchanges its first wire with the rest (monoidal.py:717-735). -/
def SwapOK (b : Box) : Prop :=
  b.kind = .swap → b.cod = pySlice b.dom (some 1) none ++ pySlice b.dom none (some 1)

/-- The loop invariant on the shape of the running array. -/
def Inv (F : TFunctor R) (ddom S : Ty) (arr : NDArray R) : Prop :=
  ∃ m, arr.shape = (F.ty ddom ++ F.ty S) ++ padShape m ∧ arr.WF

/-- The running array seen as a tensor `F dom → F scan`. -/
def accOf (F : TFunctor R) (ddom S : Ty) (arr : NDArray R) : Tensor R :=
  Tensor.mk' (F.ty ddom) (F.ty S) arr

theorem accOf_wf {F : TFunctor R} {ddom S : Ty} {arr : NDArray R} (h : Inv F ddom S arr) :
    (accOf F ddom S arr).WF := by
  obtain ⟨m, hs, hw⟩ := h
  exact mk'_wf_pad _ _ _ 0 m hw (by simpa using hs)

theorem accOf_entry {F : TFunctor R} {ddom S : Ty} {arr : NDArray R} {m : Nat}
    (hs : arr.shape = (F.ty ddom ++ F.ty S) ++ padShape m) {x : List Nat}
    (hx : x.length = (F.ty ddom ++ F.ty S).length) :
    (accOf F ddom S arr).entry x = arr.get (x ++ padIdx m) := by
  have := entry_mk'_pad (F.ty ddom) (F.ty S) arr 0 m (by simpa using hs) hx
  unfold accOf
  simpa using this

/-! ### bookkeeping of the scan -/

theorem layer_left (l : Layer) : pySlice l.dom none (some (l.left.length : Int)) = l.left := by
  rw [pySlice_take]; simp [Layer.dom, List.append_assoc]

theorem layer_right (l : Layer) :
    pySlice l.dom (some ((l.left.length : Int) + l.box.dom.length)) none = l.right := by
  have : ((l.left.length : Int) + l.box.dom.length) = ((l.left.length + l.box.dom.length : Nat) : Int) := by
    simp
  rw [this, pySlice_drop]
  simp [Layer.dom]

theorem nextScan_layer (l : Layer) : nextScan l.dom l.box l.left.length = l.cod := by
  unfold nextScan
  rw [layer_left, layer_right]
  rfl

theorem ty_layer_dom (F : TFunctor R) (l : Layer) :
    F.ty l.dom = (F.ty l.left ++ F.ty l.box.dom) ++ F.ty l.right := by
  simp [Layer.dom, ty_append]

theorem ty_layer_cod (F : TFunctor R) (l : Layer) :
    F.ty l.cod = (F.ty l.left ++ F.ty l.box.cod) ++ F.ty l.right := by
  simp [Layer.cod, ty_append]

theorem padShape_add (m k : Nat) : padShape (m + k) = padShape m ++ padShape k := by
  unfold padShape; exact List.replicate_add ..

theorem padIdx_add (m k : Nat) : padIdx (m + k) = padIdx m ++ padIdx k := by
  unfold padIdx; exact List.replicate_add ..

/-- The running tensor after a step is the old one composed with the layer of `t` as soon as
    its entries are the contraction over the wires the box eats. -/
theorem accOf_eq_then_layer {F : TFunctor R} {ddom : Ty} {l : Layer} {arr arr' : NDArray R}
    {t : Tensor R} (hinv : Inv F ddom l.dom arr) (hinv' : Inv F ddom l.cod arr') (ht : t.WF)
    (hd : t.dom = F.ty l.box.dom) (hc : t.cod = F.ty l.box.cod)
    (h : ∀ {i l' bc rr : List Nat}, InRange (F.ty ddom) i → InRange (F.ty l.left) l' →
      InRange t.cod bc → InRange (F.ty l.right) rr →
      (accOf F ddom l.cod arr').entry (i ++ ((l' ++ bc) ++ rr))
        = sumOver t.dom (fun bd => (accOf F ddom l.dom arr).entry (i ++ ((l' ++ bd) ++ rr))
            * t.entry (bd ++ bc))) :
    accOf F ddom l.cod arr'
      = thenCore (accOf F ddom l.dom arr) (layerT (F.ty l.left) (F.ty l.right) t) := by
  have hacc := accOf_wf hinv
  have hcod : (accOf F ddom l.dom arr).cod = (F.ty l.left ++ t.dom) ++ F.ty l.right := by
    rw [hd, ← ty_layer_dom]; rfl
  have hcod' : F.ty l.cod = (F.ty l.left ++ t.cod) ++ F.ty l.right := by
    rw [ty_layer_cod, hc]
  apply ext_entry
    (t := thenCore (accOf F ddom l.dom arr) (layerT (F.ty l.left) (F.ty l.right) t))
    (accOf_wf hinv') (thenCore_wf _ _ hacc (layerT_wf _ _ t ht) hcod) rfl hcod'
  intro x hx
  have hx' : InRange (F.ty ddom ++ ((F.ty l.left ++ t.cod) ++ F.ty l.right)) x := by
    rw [← hcod']; exact hx
  obtain ⟨i, y, rfl, hi, hy⟩ := hx'.split
  obtain ⟨lb, rr, rfl, hlb, hrr⟩ := hy.split
  obtain ⟨l', bc, rfl, hl', hbc⟩ := hlb.split
  rw [h hi hl' hbc hrr, then_layer_entry _ t _ _ hacc ht hcod hi hl' hbc hrr]

/-! ### the non-swap branch, tensor.py:380-390 -/

/-- tensor.py:380-385.  The axis of size one of a scalar `self(box)` is counted with the
    trailing ones of the running array. -/
theorem boxContract_spec (F : TFunctor R) (ddom : Ty) (l : Layer) (arr : NDArray R)
    (t : Tensor R) (m : Nat)
    (hs : arr.shape = (F.ty ddom ++ F.ty l.dom) ++ padShape m) (ht : t.WF)
    (hd : t.dom = F.ty l.box.dom) :
    (F.boxContract ddom ⟨l.dom, arr⟩ l.box l.left.length t).shape
        = (F.ty ddom ++ F.ty l.left) ++ (F.ty l.right ++ padShape (m + spad t.dom t.cod))
            ++ t.cod ∧
    ∀ {i l' rr bc : List Nat}, InRange (F.ty ddom) i → InRange (F.ty l.left) l' →
      InRange (F.ty l.right) rr → InRange t.cod bc →
      (F.boxContract ddom ⟨l.dom, arr⟩ l.box l.left.length t).get
          ((i ++ l') ++ (rr ++ padIdx (m + spad t.dom t.cod)) ++ bc)
        = sumOver t.dom (fun j => arr.get (((i ++ l') ++ j) ++ (rr ++ padIdx m))
            * t.entry (j ++ bc)) := by
  have hsa : arr.shape = (F.ty ddom ++ F.ty l.left) ++ t.dom ++ (F.ty l.right ++ padShape m) := by
    rw [hs, ty_layer_dom, hd]; simp [List.append_assoc]
  have hsb : t.arr.shape = t.dom ++ (padShape (spad t.dom t.cod) ++ t.cod) := by
    rw [ht.shape, ashape_eq_padM, List.append_assoc]
  have hsrc : pyRange (F.dim ddom + F.dim (pySlice l.dom none (some (l.left.length : Int))))
      (F.dim ddom + F.dim (pySlice l.dom none (some (l.left.length : Int))) + F.dim l.box.dom)
      = List.range' (F.ty ddom ++ F.ty l.left).length t.dom.length := by
    rw [layer_left, pyRange_add, TFunctor.dim, TFunctor.dim, TFunctor.dim, ← hd, List.length_append]
  have htgt : pyRange 0 (F.dim l.box.dom) = List.range' 0 t.dom.length := by
    rw [pyRange_zero, TFunctor.dim, ← hd]
  have hb := tensordotAxes_block arr t.arr hsa hsb
  unfold TFunctor.boxContract
  simp only
  rw [hsrc, htgt, padShape_add, padIdx_add]
  refine ⟨by rw [hb.1]; simp only [List.append_assoc], ?_⟩
  intro i l' rr bc hi hl' hrr hbc
  have := hb.2 (inRange_append hi hl') (inRange_append hrr (inRange_padShape m))
    (inRange_append (inRange_padShape (spad t.dom t.cod)) hbc)
  simp only [List.append_assoc] at this ⊢
  rw [this]
  apply sumOver_congr
  intro j hj
  rw [entry_eq_get_padM ht hj]
  simp only [List.append_assoc]

/-- tensor.py:386-389: the new codomain axes (last) move next to the left wires.  Stated for any
    array `a` of the shape `boxContract_spec` produces and any state with the right scan, so that
    the large term `F.boxContract …` occurs only in the caller `stepBox_spec`. -/
theorem boxMoveBack_spec (F : TFunctor R) (ddom : Ty) (l : Layer) (a : NDArray R)
    (Bc : List Nat) (m : Nat) (hBc : Bc = F.ty l.box.cod)
    (hs : a.shape = (F.ty ddom ++ F.ty l.left) ++ (F.ty l.right ++ padShape m) ++ Bc)
    (st : St R) (hst : st.scan = l.dom) :
    (F.boxMoveBack ddom st l.box l.left.length a).shape
        = (F.ty ddom ++ F.ty l.cod) ++ padShape m ∧
    ∀ {i l' rr bc : List Nat}, InRange (F.ty ddom) i → InRange (F.ty l.left) l' →
      InRange (F.ty l.right) rr → InRange Bc bc →
      (F.boxMoveBack ddom st l.box l.left.length a).get
          ((i ++ ((l' ++ bc) ++ rr)) ++ padIdx m)
        = a.get ((i ++ l') ++ (rr ++ padIdx m) ++ bc) := by
  have hs' : a.shape = (F.ty ddom ++ F.ty l.left) ++ (F.ty l.right ++ padShape m) ++ Bc ++ [] := by
    rw [hs, List.append_nil]
  have hnd : a.ndim = (F.ty ddom ++ F.ty l.left).length + (F.ty l.right ++ padShape m).length
      + Bc.length := by
    simp [NDArray.ndim, hs, Nat.add_assoc]
  have hdd : F.dim ddom + F.dim l.left = (F.ty ddom ++ F.ty l.left).length := by
    simp [TFunctor.dim]
  unfold TFunctor.boxMoveBack NDArray.moveaxis
  rw [hst, layer_left, show F.dim l.box.cod = Bc.length by rw [hBc]; rfl, hdd, pyRange_add, hnd,
    Nat.add_sub_cancel, pyRange_add, moveaxisOrder_moveback]
  have hsh := transpose_swapOrder_shape a hs'
  rw [List.length_nil] at hsh
  refine ⟨?_, ?_⟩
  · rw [hsh, ty_layer_cod, ← hBc]; simp [List.append_assoc]
  · intro i l' rr bc hi hl' hrr hbc
    have := transpose_swapOrder_get a hs' (inRange_append hi hl')
      (inRange_append hrr (inRange_padShape m)) hbc (q := []) trivial
    simp only [List.append_nil, List.length_nil] at this
    rw [← this]
    simp [List.append_assoc]

/-- **The box branch preserves the loop invariant**: one pass of tensor.py:380-390 composes the
    running tensor with `id(F left) ⊗ F(box) ⊗ id(F right)`. -/
theorem stepBox_spec (F : TFunctor R) (ddom : Ty) (l : Layer) (arr : NDArray R) (t : Tensor R)
    (hinv : Inv F ddom l.dom arr) (ht : t.WF) (hd : t.dom = F.ty l.box.dom)
    (hc : t.cod = F.ty l.box.cod) :
    Inv F ddom l.cod (F.stepBox ddom ⟨l.dom, arr⟩ l.box l.left.length t).arr ∧
    accOf F ddom l.cod (F.stepBox ddom ⟨l.dom, arr⟩ l.box l.left.length t).arr
      = thenCore (accOf F ddom l.dom arr) (layerT (F.ty l.left) (F.ty l.right) t) := by
  obtain ⟨m, hs, hw⟩ := hinv
  simp only [TFunctor.stepBox]
  have h1 := boxContract_spec F ddom l arr t m hs ht hd
  have h2 := boxMoveBack_spec F ddom l (F.boxContract ddom ⟨l.dom, arr⟩ l.box l.left.length t)
    t.cod (m + spad t.dom t.cod) hc h1.1 ⟨l.dom, arr⟩ rfl
  have hinv' : Inv F ddom l.cod (F.boxMoveBack ddom ⟨l.dom, arr⟩ l.box l.left.length
      (F.boxContract ddom ⟨l.dom, arr⟩ l.box l.left.length t)) :=
    ⟨m + spad t.dom t.cod, h2.1, moveaxis_wf _ _ _⟩
  refine ⟨hinv', accOf_eq_then_layer ⟨m, hs, hw⟩ hinv' ht hd hc ?_⟩
  intro i l' bc rr hi hl' hbc hrr
  rw [accOf_entry h2.1 (by
      rw [ty_layer_cod, ← hc]
      simp [hi.length_eq, hl'.length_eq, hbc.length_eq, hrr.length_eq]),
    h2.2 hi hl' hrr hbc, h1.2 hi hl' hrr hbc]
  apply sumOver_congr
  intro j hj
  rw [accOf_entry hs (by
    rw [ty_layer_dom, ← hd]
    simp [hi.length_eq, hl'.length_eq, hj.length_eq, hrr.length_eq])]
  simp [List.append_assoc]

/-! ### the swap branch, tensor.py:369-379 -/

theorem take1_drop1 (xs : Ty) :
    pySlice xs none (some 1) ++ pySlice xs (some 1) none = xs := by
  have h1 := pySlice_take xs 1
  have h2 := pySlice_drop xs 1
  simp only [Nat.cast_one] at h1 h2
  rw [h1, h2, List.take_append_drop]

/-- The defining tensor of a swap box has the type the functor assigns to the box. -/
theorem swapT_type (F : TFunctor R) (b : Box)
    (hsw : b.cod = pySlice b.dom (some 1) none ++ pySlice b.dom none (some 1)) :
    (Tensor.swap (R := R) (F.ty (pySlice b.dom none (some 1))) (F.ty (pySlice b.dom (some 1) none))).dom
      = F.ty b.dom ∧
    (Tensor.swap (R := R) (F.ty (pySlice b.dom none (some 1))) (F.ty (pySlice b.dom (some 1) none))).cod
      = F.ty b.cod := by
  refine ⟨?_, ?_⟩
  · rw [swap_dom, ← ty_append, take1_drop1]
  · rw [swap_cod, ← ty_append, ← hsw]

/-- **The swap branch preserves the loop invariant**: moving the axes (tensor.py:370-377)
    composes the running tensor with `id(F left) ⊗ swap(F x, F y) ⊗ id(F right)`. -/
theorem stepSwap_spec (F : TFunctor R) (ddom : Ty) (l : Layer) (arr : NDArray R)
    (hinv : Inv F ddom l.dom arr)
    (hsw : l.box.cod = pySlice l.box.dom (some 1) none ++ pySlice l.box.dom none (some 1)) :
    Inv F ddom l.cod (F.stepSwap ddom ⟨l.dom, arr⟩ l.box l.left.length).arr ∧
    accOf F ddom l.cod (F.stepSwap ddom ⟨l.dom, arr⟩ l.box l.left.length).arr
      = thenCore (accOf F ddom l.dom arr) (layerT (F.ty l.left) (F.ty l.right)
          (Tensor.swap (F.ty (pySlice l.box.dom none (some 1)))
            (F.ty (pySlice l.box.dom (some 1) none)))) := by
  obtain ⟨m, hs, hw⟩ := hinv
  generalize hX : F.ty (pySlice l.box.dom none (some 1)) = X
  generalize hY : F.ty (pySlice l.box.dom (some 1) none) = Y
  have htype := swapT_type F l.box hsw
  rw [hX, hY] at htype
  have hdomXY : F.ty l.box.dom = X ++ Y := by rw [← htype.1]; rfl
  have hcodYX : F.ty l.box.cod = Y ++ X := by rw [← htype.2]; rfl
  have hsa : arr.shape = (F.ty ddom ++ F.ty l.left) ++ X ++ Y ++ (F.ty l.right ++ padShape m) := by
    rw [hs, ty_layer_dom, hdomXY]; simp [List.append_assoc]
  have e1 : F.dim (ddom ++ l.left) = (F.ty ddom ++ F.ty l.left).length := by
    rw [TFunctor.dim, ty_append]
  have hsrc : F.swapSource ddom l.dom l.box l.left.length
      = List.range' (F.ty ddom ++ F.ty l.left).length (X.length + Y.length) := by
    have e2 : F.dim l.box.dom = X.length + Y.length := by
      rw [TFunctor.dim, hdomXY, List.length_append]
    unfold TFunctor.swapSource
    rw [layer_left, dim_append F (ddom ++ l.left) l.box.dom, pyRange_add, e1, e2]
  have htgt : F.swapTargetF ddom l.dom l.box l.left.length
      = swapTargets (F.ty ddom ++ F.ty l.left).length 0 X.length Y.length 0 := by
    unfold TFunctor.swapTargetF
    rw [hsrc, layer_left, e1, TFunctor.dim, TFunctor.dim, hX, hY]
    exact swapMap_eq _ _ _
  have hm := moveaxis_swap arr hsa
  simp only [TFunctor.stepSwap]
  rw [hsrc, htgt]
  have hwf := moveaxis_wf arr (List.range' (F.ty ddom ++ F.ty l.left).length (X.length + Y.length))
    (swapTargets (F.ty ddom ++ F.ty l.left).length 0 X.length Y.length 0)
  generalize arr.moveaxis (List.range' (F.ty ddom ++ F.ty l.left).length (X.length + Y.length))
    (swapTargets (F.ty ddom ++ F.ty l.left).length 0 X.length Y.length 0) = arr' at hm hwf ⊢
  have hcod' : F.ty l.cod = (F.ty l.left ++ (Y ++ X)) ++ F.ty l.right := by
    rw [ty_layer_cod, hcodYX]
  have hs2 : arr'.shape = (F.ty ddom ++ F.ty l.cod) ++ padShape m := by
    rw [hm.1, hcod']; simp [List.append_assoc]
  have hinv' : Inv F ddom l.cod arr' := ⟨m, hs2, hwf⟩
  refine ⟨hinv', accOf_eq_then_layer ⟨m, hs, hw⟩ hinv' (swap_wf X Y) htype.1 htype.2 ?_⟩
  intro i l' bc rr hi hl' hbc hrr
  obtain ⟨y, x, rfl, hy, hx⟩ := InRange.split (s := Y) (t := X) hbc
  rw [accOf_entry hs2 (by
    rw [hcod']
    simp [hi.length_eq, hl'.length_eq, hx.length_eq, hy.length_eq, hrr.length_eq])]
  have hget := hm.2 (inRange_append hi hl') hx hy (inRange_append hrr (inRange_padShape m))
  have e : (i ++ ((l' ++ (y ++ x)) ++ rr)) ++ padIdx m = (i ++ l') ++ y ++ x ++ (rr ++ padIdx m) := by
    simp [List.append_assoc]
  rw [e, hget, swap_dom]
  -- only the term `bd = x ++ y` of the contraction survives
  rw [sumOver_congr (g := fun bd => (accOf F ddom l.dom arr).entry (i ++ ((l' ++ bd) ++ rr))
      * (if bd = x ++ y then 1 else 0)) (fun bd hbd => by rw [swap_entry_block X Y hbd hy hx]),
    sumOver_delta' (inRange_append hx hy), accOf_entry hs (by
      rw [ty_layer_dom, hdomXY]
      simp [hi.length_eq, hl'.length_eq, hx.length_eq, hy.length_eq, hrr.length_eq])]
  simp [List.append_assoc]

/-! ### the loop -/

theorem box_swap (F : TFunctor R) (b : Box) (hk : b.kind = .swap) :
    F.box b = .ok (Tensor.swap (F.ty (pySlice b.dom none (some 1)))
      (F.ty (pySlice b.dom (some 1) none))) := by
  unfold TFunctor.box; rw [hk]

theorem accOf_then_layer (F : TFunctor R) (ddom : Ty) (l : Layer) (arr : NDArray R)
    (t : Tensor R) (hd : t.dom = F.ty l.box.dom) :
    (accOf F ddom l.dom arr).then
        (((Tensor.id (F.ty l.left)).tensor t).tensor (Tensor.id (F.ty l.right)))
      = .ok (thenCore (accOf F ddom l.dom arr) (layerT (F.ty l.left) (F.ty l.right) t)) := by
  show (accOf F ddom l.dom arr).then (layerT (F.ty l.left) (F.ty l.right) t) = _
  apply then_ok
  rw [layerT_dom, hd, ← ty_layer_dom]; rfl

def BoxOKI (F : TFunctor R) (I : Box → Except Err (Tensor R)) (b : Box) : Prop :=
  ∀ t, I b = .ok t → t.WF ∧ t.dom = F.ty b.dom ∧ t.cod = F.ty b.cod

theorem boxOKI_box (F : TFunctor R) (b : Box) : BoxOKI F F.box b ↔ BoxOK F b := Iff.rfl

/-- One iteration of the loop against one step of the fold: both fail with the same error, or
    the new state satisfies the invariant and its tensor is the old one composed with the layer. -/
theorem stepI_spec (F : TFunctor R) (I : Box → Except Err (Tensor R)) (ddom : Ty) (l : Layer)
    (arr : NDArray R) (hinv : Inv F ddom l.dom arr) (hsw : SwapOK l.box)
    (hI : l.box.kind = .swap → I l.box = F.box l.box) (hbox : BoxOKI F I l.box) :
    (∃ e, F.stepI I ddom ⟨l.dom, arr⟩ l.box l.left.length = .error e ∧ F.layerI I l = .error e) ∨
    (∃ arr' t, F.stepI I ddom ⟨l.dom, arr⟩ l.box l.left.length = .ok ⟨l.cod, arr'⟩ ∧
        F.layerI I l = .ok (layerT (F.ty l.left) (F.ty l.right) t) ∧ Inv F ddom l.cod arr' ∧
        (accOf F ddom l.dom arr).then (layerT (F.ty l.left) (F.ty l.right) t)
          = .ok (accOf F ddom l.cod arr')) := by
  unfold TFunctor.stepI TFunctor.layerI
  by_cases hk : l.box.kind = .swap
  · have hspec := stepSwap_spec F ddom l arr hinv (hsw hk)
    rw [if_pos hk, hI hk, box_swap F l.box hk]
    refine Or.inr ⟨_, _, by rw [← nextScan_layer l]; rfl, rfl, hspec.1, ?_⟩
    rw [hspec.2]
    exact accOf_then_layer F ddom l arr _ (swapT_type F l.box (hsw hk)).1
  · rw [if_neg hk]
    cases hb : I l.box with
    | error e => exact Or.inl ⟨e, rfl, rfl⟩
    | ok t =>
      obtain ⟨ht, hd, hc⟩ := hbox t hb
      have hspec := stepBox_spec F ddom l arr t hinv ht hd hc
      refine Or.inr ⟨_, t, by rw [← nextScan_layer l]; rfl, rfl, hspec.1, ?_⟩
      rw [hspec.2]
      exact accOf_then_layer F ddom l arr t hd

/-- The loop of tensor.py:368-390, with `self(box)` given by `I`, against the fold of the
    reference semantics: they fail together (same error), or the loop ends in a state satisfying
    the invariant whose tensor is the layer-by-layer composite. -/
theorem loopI_spec (F : TFunctor R) (I : Box → Except Err (Tensor R)) (ddom : Ty) :
    ∀ (ls : List Layer) (S : Ty) (arr : NDArray R)
    (c : Ty), Chain S ls c → Inv F ddom S arr → (∀ l ∈ ls, SwapOK l.box) →
    (∀ l ∈ ls, l.box.kind = .swap → I l.box = F.box l.box) →
    (∀ l ∈ ls, BoxOKI F I l.box) →
    (∃ e, F.loopI I ddom ⟨S, arr⟩ (ls.map (·.box)) (ls.map (fun l => (l.left.length : Int)))
          = .error e ∧ F.layerFoldI I (accOf F ddom S arr) ls = .error e) ∨
    (∃ st, F.loopI I ddom ⟨S, arr⟩ (ls.map (·.box)) (ls.map (fun l => (l.left.length : Int)))
          = .ok st ∧ st.scan = c ∧ Inv F ddom c st.arr ∧
        F.layerFoldI I (accOf F ddom S arr) ls = .ok (accOf F ddom c st.arr))
  | [], S, arr, c, hch, hinv, _, _, _ => by
    have : S = c := hch
    subst this
    exact Or.inr ⟨⟨S, arr⟩, rfl, rfl, hinv, rfl⟩
  | l :: ls, S, arr, c, hch, hinv, hsw, hI, hbox => by
    obtain ⟨hS, hch'⟩ := hch
    subst hS
    simp only [List.map_cons, TFunctor.loopI, TFunctor.layerFoldI]
    rcases stepI_spec F I ddom l arr hinv (hsw l List.mem_cons_self) (hI l List.mem_cons_self)
      (hbox l List.mem_cons_self) with ⟨e, h1, h2⟩ | ⟨arr', t, h1, h2, hinv', h3⟩
    · rw [h1, h2]
      exact Or.inl ⟨e, rfl, rfl⟩
    · rw [h1, h2]
      simp only [h3]
      exact loopI_spec F I ddom ls l.cod arr' c hch' hinv'
        (fun l' h => hsw l' (List.mem_cons_of_mem _ h))
        (fun l' h => hI l' (List.mem_cons_of_mem _ h))
        (fun l' h => hbox l' (List.mem_cons_of_mem _ h))

theorem mk?_ok {dom cod : List Nat} {a : NDArray R} {t : Tensor R}
    (h : Tensor.mk? dom cod a = .ok t) : t.WF ∧ t.dom = dom ∧ t.cod = cod := by
  unfold Tensor.mk? at h
  split at h
  · rename_i hr
    cases h
    refine ⟨⟨rfl, ?_⟩, rfl, rfl⟩
    unfold NDArray.reshapeOk at hr
    simp only [mk', NDArray.reshape]
    rw [← prod_ashape]
    simpa using hr
  · cases h

theorem inv_init (F : TFunctor R) (ddom : Ty) :
    Inv F ddom ddom (Tensor.id (R := R) (F.ty ddom)).arr :=
  ⟨spad (F.ty ddom) (F.ty ddom), by rw [(id_wf (R := R) (F.ty ddom)).shape, ashape_eq_padR]; rfl,
    (id_wf (R := R) (F.ty ddom)).arr_wf⟩

theorem mk?_of_inv (F : TFunctor R) (ddom c : Ty) (arr : NDArray R) (h : Inv F ddom c arr) :
    Tensor.mk? (F.ty ddom) (F.ty c) arr = .ok (accOf F ddom c arr) := by
  obtain ⟨m, hs, hw⟩ := h
  unfold Tensor.mk?
  have : arr.reshapeOk (ashape (F.ty ddom) (F.ty c)) = true := by
    unfold NDArray.reshapeOk
    rw [hw, hs, prod_append, prod_padShape, Nat.mul_one, prod_ashape]
    simp
  rw [if_pos this]
  rfl

omit [CommSemiring R] [StarRing R] in
theorem chain_of_wf {d : Diagram} (hwf : d.WF) : Chain d.dom d.layers.boxes d.cod := by
  have := hwf.chain
  unfold LArrow.WF at this
  rw [hwf.ldom, hwf.lcod] at this
  exact this

omit [CommSemiring R] [StarRing R] in
theorem box_mem_of_wf {d : Diagram} (hwf : d.WF) {l : Layer} (hl : l ∈ d.layers.boxes) :
    l.box ∈ d.boxes := by
  rw [hwf.boxes]; exact List.mem_map_of_mem hl

/-- The single-pass evaluation with boxes interpreted by `I` equals the layer-by-layer
    composite of the `I(box)`, including the error when some `I(box)` fails. -/
theorem callI_eq_layerwiseI (F : TFunctor R) (I : Box → Except Err (Tensor R)) (d : Diagram)
    (hwf : d.WF) (hsw : ∀ b ∈ d.boxes, SwapOK b)
    (hI : ∀ b ∈ d.boxes, b.kind = .swap → I b = F.box b)
    (hbox : ∀ b ∈ d.boxes, BoxOKI F I b) :
    F.callI I d = F.layerwiseI I d := by
  have mem := fun l hl => box_mem_of_wf hwf (l := l) hl
  have hl := loopI_spec F I d.dom d.layers.boxes d.dom (Tensor.id (R := R) (F.ty d.dom)).arr d.cod
    (chain_of_wf hwf) (inv_init F d.dom) (fun l hl => hsw _ (mem l hl)) (fun l hl => hI _ (mem l hl))
    (fun l hl => hbox _ (mem l hl))
  have hacc : accOf F d.dom d.dom (Tensor.id (R := R) (F.ty d.dom)).arr = Tensor.id (F.ty d.dom) :=
    rfl
  unfold TFunctor.callI TFunctor.layerwiseI
  rw [hwf.boxes, hwf.offsets]
  rw [hacc] at hl
  rcases hl with ⟨e, h1, h2⟩ | ⟨st, h1, _, h3, h4⟩
  · rw [h1, h2]
  · rw [h1, h4]
    simp only
    exact mk?_of_inv F d.dom d.cod st.arr h3

theorem callI_type (F : TFunctor R) (I : Box → Except Err (Tensor R)) (d : Diagram)
    (t : Tensor R) (h : F.callI I d = .ok t) :
    t.WF ∧ t.dom = F.ty d.dom ∧ t.cod = F.ty d.cod := by
  unfold TFunctor.callI at h
  split at h
  · cases h
  · exact mk?_ok h

theorem loopI_box (F : TFunctor R) (ddom : Ty) : ∀ (bs : List Box) (os : List Int) (st : St R),
    F.loopI F.box ddom st bs os = F.loop ddom st bs os
  | [], _, _ => by simp [TFunctor.loopI, TFunctor.loop]
  | _ :: _, [], _ => by simp [TFunctor.loopI, TFunctor.loop]
  | b :: bs, o :: os, st => by
    have hs : F.stepI F.box ddom st b o = F.step ddom st b o := rfl
    simp only [TFunctor.loopI, TFunctor.loop, hs]
    cases F.step ddom st b o with
    | error e => rfl
    | ok st' => exact loopI_box F ddom bs os st'

theorem callI_box (F : TFunctor R) (d : Diagram) : F.callI F.box d = F.call d := by
  unfold TFunctor.callI TFunctor.call
  rw [loopI_box]
  rfl

theorem layerwiseI_ofBox (F : TFunctor R) (I : Box → Except Err (Tensor R)) (b : Box)
    (hb : BoxOKI F I b) : F.layerwiseI I (Diagram.ofBox b) = I b := by
  unfold TFunctor.layerwiseI Diagram.ofBox
  simp only [TFunctor.layerFoldI, TFunctor.layerI]
  cases hbx : I b with
  | error e => rfl
  | ok t =>
    obtain ⟨hw, hd, _⟩ := hb t hbx
    simp only
    rw [ty_nil, id_nil_tensor t hw, tensor_id_nil t hw, ← hd, then_ok rfl, id_then t hw]

theorem layerFoldI_box (F : TFunctor R) : ∀ (ls : List Layer) (acc : Tensor R),
    F.layerFoldI F.box acc ls = F.layerFold acc ls
  | [], _ => rfl
  | l :: ls, acc => by
    have hl : F.layerI F.box l = F.layer l := rfl
    simp only [TFunctor.layerFoldI, TFunctor.layerFold, hl]
    cases F.layer l with
    | error e => rfl
    | ok t =>
      simp only
      cases acc.then t with
      | error e => rfl
      | ok acc' => exact layerFoldI_box F ls acc'

/-- **C09, the equivalence of the two programs**: on a well-typed diagram whose swap boxes are
    swaps and whose boxes are sent to tensors of the right type, the single-pass evaluation of
    `tensor.Functor.__call__` equals the layer-by-layer composite
    `id(F left) ⊗ F(box) ⊗ id(F right)` — including the error when some `F(box)` fails. -/
theorem call_eq_layerwise (F : TFunctor R) (d : Diagram) (hwf : d.WF)
    (hsw : ∀ b ∈ d.boxes, SwapOK b) (hbox : ∀ b ∈ d.boxes, BoxOK F b) :
    F.call d = F.layerwise d := by
  rw [← callI_box, TFunctor.layerwise, ← layerFoldI_box]
  exact callI_eq_layerwiseI F F.box d hwf hsw (fun _ _ _ => rfl)
    (fun b hb => (boxOKI_box F b).2 (hbox b hb))

/-- Generators and daggered generators (tensor.py:358-361). -/
theorem boxOK_gen (F : TFunctor R) (b : Box) (hk : b.kind = .gen) : BoxOK F b := by
  intro t ht
  unfold TFunctor.box at ht
  rw [hk] at ht
  simp only at ht
  split at ht
  · -- daggered: `self(box.dagger()).dagger()`
    cases hg : F.gen b.dag with
    | error e => rw [hg] at ht; cases ht
    | ok t0 =>
      rw [hg] at ht
      cases ht
      obtain ⟨hw, hd, hc⟩ := mk?_ok hg
      have hdag : b.dag.dom = b.cod ∧ b.dag.cod = b.dom := by
        unfold Box.dag; rw [hk]; exact ⟨rfl, rfl⟩
      exact ⟨dagger_wf t0 hw, by rw [dagger_dom, hc, hdag.2], by rw [dagger_cod, hd, hdag.1]⟩
  · exact mk?_ok ht

/-- Swap boxes: the defining tensor is `Tensor.swap`. -/
theorem boxOK_swap (F : TFunctor R) (b : Box) (hk : b.kind = .swap) (hsw : SwapOK b) :
    BoxOK F b := by
  intro t ht
  rw [box_swap F b hk] at ht
  cases ht
  have := swapT_type F b (hsw hk)
  exact ⟨swap_wf _ _, this.1, this.2⟩

/-! ### cups and caps -/

/-- A genuine `Cup(x, y)`: two wires, empty codomain (rigid.py:325-351). -/
def CupOK (b : Box) : Prop :=
  b.kind = .cup → ∃ x y : Ob, b.dom = [x, y] ∧ b.cod = []

/-- A genuine `Cap(x, y)` (rigid.py:354-384). -/
def CapOK (b : Box) : Prop :=
  b.kind = .cap → ∃ x y : Ob, b.cod = [x, y] ∧ b.dom = []

/-- `F(Cup(x, y)) = Tensor.cups(F x, F y)` has the right type whenever it is defined (it is an
    AxiomError when `F x`, `F y` are not adjoint dimension tuples, e.g. a non-palindromic
    multi-wire `Dim`: winding numbers are erased, tensor.py:343-344). -/
theorem boxOK_cup (F : TFunctor R) (b : Box) (hk : b.kind = .cup) (hb : CupOK b) :
    BoxOK F b := by
  obtain ⟨x, y, hd, hc⟩ := hb hk
  intro t ht
  unfold TFunctor.box at ht
  rw [hk] at ht
  simp only at ht
  have h1 : pySlice b.dom none (some 1) = [x] := by rw [hd]; rfl
  have h2 : pySlice b.dom (some 1) none = [y] := by rw [hd]; rfl
  rw [h1, h2] at ht
  obtain ⟨hw, hdom, hcod⟩ := cups_ok ht
  refine ⟨hw, ?_, ?_⟩
  · rw [hdom, hd, ← ty_append]; rfl
  · rw [hcod, hc]; rfl

theorem boxOK_cap (F : TFunctor R) (b : Box) (hk : b.kind = .cap) (hb : CapOK b) :
    BoxOK F b := by
  obtain ⟨x, y, hc, hd⟩ := hb hk
  intro t ht
  unfold TFunctor.box at ht
  rw [hk] at ht
  simp only at ht
  have h1 : pySlice b.cod none (some 1) = [x] := by rw [hc]; rfl
  have h2 : pySlice b.cod (some 1) none = [y] := by rw [hc]; rfl
  rw [h1, h2] at ht
  obtain ⟨hw, hdom, hcod⟩ := caps_ok ht
  refine ⟨hw, ?_, ?_⟩
  · rw [hdom, hd]; rfl
  · rw [hcod, hc, ← ty_append]; rfl

/-- All special boxes are genuine (what discopy's classes `Swap`, `Cup`, `Cap` guarantee). -/
def Genuine (b : Box) : Prop := SwapOK b ∧ CupOK b ∧ CapOK b

/-- Every genuine box is sent to a well-formed tensor of the right type (when `F(box)` is
    defined at all). -/
theorem boxOK_of_genuine (F : TFunctor R) (b : Box) (hb : Genuine b) : BoxOK F b := by
  cases hk : b.kind with
  | gen => exact boxOK_gen F b hk
  | swap => exact boxOK_swap F b hk hb.1
  | cup => exact boxOK_cup F b hk hb.2.1
  | cap => exact boxOK_cap F b hk hb.2.2

/-- The Boolean the driver reports (`fgenuine`) implies the hypothesis of the theorem. -/
theorem genuine_of_genuineB (b : Box) (h : TFunctor.genuineB b = true) : Genuine b := by
  unfold TFunctor.genuineB at h
  refine ⟨fun hk => ?_, fun hk => ?_, fun hk => ?_⟩
  · rw [hk] at h; simpa using h
  · rw [hk] at h
    simp only [Bool.and_eq_true, beq_iff_eq, List.isEmpty_iff] at h
    -- `h.1 : b.dom.length = 2` leaves the two-element list as the only case of the match
    match hd : b.dom, h.1 with
    | [x, y], _ => exact ⟨x, y, rfl, h.2⟩
  · rw [hk] at h
    simp only [Bool.and_eq_true, beq_iff_eq, List.isEmpty_iff] at h
    -- likewise with `h.1 : b.cod.length = 2`
    match hd : b.cod, h.1 with
    | [x, y], _ => exact ⟨x, y, rfl, h.2⟩

/-! ### a box seen as a one-box diagram -/

theorem callI_ofBox (F : TFunctor R) (I : Box → Except Err (Tensor R)) (b : Box) (hsw : SwapOK b)
    (hI : b.kind = .swap → I b = F.box b) (hb : BoxOKI F I b) :
    F.callI I (Diagram.ofBox b) = I b := by
  have hmem : ∀ b' ∈ (Diagram.ofBox b).boxes, b' = b := fun b' h => by
    simpa [Diagram.ofBox] using h
  rw [callI_eq_layerwiseI F I _ (Diagram.ofBox_wf b) (fun b' h => hmem b' h ▸ hsw)
    (fun b' h => hmem b' h ▸ hI) (fun b' h => hmem b' h ▸ hb)]
  exact layerwiseI_ofBox F I b hb

theorem call_ofBox (F : TFunctor R) (b : Box) (hsw : SwapOK b) (hb : BoxOK F b) :
    F.call (Diagram.ofBox b) = F.box b := by
  rw [← callI_box]
  exact callI_ofBox F F.box b hsw (fun _ => rfl) ((boxOKI_box F b).2 hb)

end
end TFunctor
end DV
