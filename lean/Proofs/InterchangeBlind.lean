/-
  Proofs/InterchangeBlind.lean — `interchange` is blind to WHAT sits in `boxes`.

  `Diagram.mapBox φ` replaces every box `b` by `φ b` (in `boxes` and in `layers`).  If `φ` keeps
  the domain and the codomain of every box, then interchange commutes with it:

      (d.mapBox φ).interchange i j left = (d.interchange i j left).map (Diagram.mapBox φ)

  for ALL diagrams (no well-formedness needed), all `(i, j)` and both preferences — in particular
  the OUTCOME CLASS (a diagram / interchanger error / index error) and the offsets of the result do
  not depend on the kind, name, dagger flag or data of any box: a composite diagram used as a box,
  a formal sum, a bubble, a box of another class or one with an unusual name is refused exactly when
  the plain box with the same domain and codomain is refused, with the same error class.
-/
import Proofs.InterchangePath
import Proofs.WF

namespace DV

def Layer.mapBox (φ : Box → Box) (l : Layer) : Layer := ⟨l.left, φ l.box, l.right⟩

def LArrow.mapBox (φ : Box → Box) (a : LArrow) : LArrow :=
  ⟨a.dom, a.cod, a.boxes.map (Layer.mapBox φ)⟩

def Diagram.mapBox (φ : Box → Box) (d : Diagram) : Diagram :=
  ⟨d.dom, d.cod, d.boxes.map φ, d.offsets, d.layers.mapBox φ⟩

/-- `φ` keeps the domain and codomain of every box. -/
def TypePreserving (φ : Box → Box) : Prop := ∀ b, (φ b).dom = b.dom ∧ (φ b).cod = b.cod

/-- `Except.map` on results of the model. -/
def mapOk {α β} (f : α → β) : Except Err α → Except Err β
  | .ok a => .ok (f a)
  | .error e => .error e

@[simp] theorem mapOk_ok {α β} (f : α → β) (a : α) : mapOk f (.ok a : Except Err α) = .ok (f a) := rfl
@[simp] theorem mapOk_error {α β} (f : α → β) (e : Err) :
    mapOk f (.error e : Except Err α) = .error e := rfl

theorem pyGet?_map {α β} (f : α → β) (xs : List α) (i : Int) :
    pyGet? (xs.map f) i = (pyGet? xs i).map f := by
  simp only [pyGet?, List.length_map, List.getElem?_map, apply_ite (Option.map f), Option.map_none]

section
variable {φ : Box → Box} (hφ : TypePreserving φ)
include hφ

theorem Layer.mapBox_dom (l : Layer) : (l.mapBox φ).dom = l.dom := by
  simp [Layer.mapBox, Layer.dom, (hφ l.box).1]

theorem Layer.mapBox_cod (l : Layer) : (l.mapBox φ).cod = l.cod := by
  simp [Layer.mapBox, Layer.cod, (hφ l.box).2]

theorem Layer.mapBox_arrow (l : Layer) : (l.mapBox φ).arrow = l.arrow.mapBox φ := by
  simp [Layer.arrow, LArrow.mapBox, Layer.mapBox_dom hφ, Layer.mapBox_cod hφ]

omit hφ in
theorem LArrow.mapBox_then (a b : LArrow) :
    (a.mapBox φ).then (b.mapBox φ) = mapOk (LArrow.mapBox φ) (a.then b) := by
  unfold LArrow.then
  by_cases h : a.cod = b.dom <;> simp [LArrow.mapBox, h]

theorem LArrow.mapBox_thenLayer (a : LArrow) (l : Layer) :
    (a.mapBox φ).thenLayer (l.mapBox φ) = mapOk (LArrow.mapBox φ) (a.thenLayer l) := by
  unfold LArrow.thenLayer
  rw [Layer.mapBox_arrow hφ, LArrow.mapBox_then]

omit hφ in
theorem LArrow.mapBox_id (t : Ty) : (LArrow.id t).mapBox φ = LArrow.id t := by
  simp [LArrow.id, LArrow.mapBox]

theorem LArrow.mapBox_sliceEmpty (a : LArrow) (s : Option Int) :
    (a.mapBox φ).sliceEmpty s = mapOk (LArrow.mapBox φ) (a.sliceEmpty s) := by
  simp only [LArrow.sliceEmpty, LArrow.mapBox, List.length_map, pyGet?_map,
    apply_ite (mapOk (LArrow.mapBox φ)), mapOk_ok]
  cases pyGet? a.boxes (s.getD 0) with
  | none => rfl
  | some l => simp only [Option.map_some, mapOk_ok, Layer.mapBox_dom hφ]; rfl

theorem getLastD_map_cod (b : Layer) (bs : List Layer) :
    (((b :: bs).map (Layer.mapBox φ)).getLastD (b.mapBox φ)).cod = ((b :: bs).getLastD b).cod := by
  rw [List.getLastD_map, Layer.mapBox_cod hφ]

theorem LArrow.mapBox_slice (a : LArrow) (s t : Option Int) :
    (a.mapBox φ).slice s t = mapOk (LArrow.mapBox φ) (a.slice s t) := by
  unfold LArrow.slice
  have : (a.mapBox φ).boxes = a.boxes.map (Layer.mapBox φ) := rfl
  rw [this, pySlice_map]
  cases h : pySlice a.boxes s t with
  | nil => simpa using LArrow.mapBox_sliceEmpty hφ a s
  | cons b bs =>
    have hl := getLastD_map_cod hφ b bs
    simp only [List.map_cons] at hl ⊢
    rw [hl, Layer.mapBox_dom hφ]
    rfl

/-! ### The adjacent exchange -/

omit hφ in
/-- Relabelling of the four values `interchangeChoice` returns (rewriting.py:57-73). -/
def mapQuad (φ : Box → Box) : Int × Int × Layer × Layer → Int × Int × Layer × Layer
  | (a, b, l0, l1) => (a, b, l0.mapBox φ, l1.mapBox φ)

theorem leftCase_mapBox (off0 off1 : Int) (l0 l1 : Layer) :
    leftCase off0 off1 (l0.mapBox φ) (l1.mapBox φ) = mapQuad φ (leftCase off0 off1 l0 l1) := by
  simp [leftCase, mapQuad, Layer.mapBox, (hφ l0.box).1, (hφ l0.box).2, (hφ l1.box).2]

theorem rightCase_mapBox (off0 off1 : Int) (l0 l1 : Layer) :
    rightCase off0 off1 (l0.mapBox φ) (l1.mapBox φ) = mapQuad φ (rightCase off0 off1 l0 l1) := by
  simp [rightCase, mapQuad, Layer.mapBox, (hφ l0.box).1, (hφ l1.box).1, (hφ l1.box).2]

theorem interchangeChoice_mapBox (left : Bool) (off0 off1 : Int) (l0 l1 : Layer) :
    interchangeChoice left off0 off1 (l0.mapBox φ) (l1.mapBox φ)
      = mapOk (mapQuad φ) (interchangeChoice left off0 off1 l0 l1) := by
  have h0 : (l0.mapBox φ).box.cod = l0.box.cod := (hφ l0.box).2
  have h1 : (l1.mapBox φ).box.dom = l1.box.dom := (hφ l1.box).1
  rw [interchangeChoice, interchangeChoice, h0, h1, leftCase_mapBox hφ, rightCase_mapBox hφ]
  simp only [apply_ite (mapOk (mapQuad φ)), mapOk_ok, mapOk_error]

theorem Diagram.mapBox_splice (d : Diagram) (i : Nat) (off0 off1 : Int) (la lb : Layer) :
    (d.mapBox φ).splice i off0 off1 (la.mapBox φ) (lb.mapBox φ)
      = mapOk (Diagram.mapBox φ) (d.splice i off0 off1 la lb) := by
  unfold Diagram.splice
  have hl : (d.mapBox φ).layers = d.layers.mapBox φ := rfl
  rw [hl, LArrow.mapBox_slice hφ, LArrow.mapBox_slice hφ]
  cases d.layers.slice none (some (i : Int)) with
  | error e => simp
  | ok pre =>
    simp only [mapOk_ok]
    rw [LArrow.mapBox_thenLayer hφ]
    cases pre.thenLayer lb with
    | error e => simp
    | ok a1 =>
      simp only [mapOk_ok]
      rw [LArrow.mapBox_thenLayer hφ]
      cases a1.thenLayer la with
      | error e => simp
      | ok a2 =>
        simp only [mapOk_ok]
        cases d.layers.slice (some ((i + 2 : Nat) : Int)) none with
        | error e => simp
        | ok post =>
          simp only [mapOk_ok]
          rw [LArrow.mapBox_then]
          cases a2.then post with
          | error e => simp
          | ok ls =>
            simp [Diagram.mapBox, Layer.mapBox, pySlice_map]

omit hφ in
theorem getElem?_mapBox_layers (d : Diagram) (i : Nat) :
    (d.mapBox φ).layers.boxes[i]? = (d.layers.boxes[i]?).map (Layer.mapBox φ) := by
  simp [Diagram.mapBox, LArrow.mapBox]

theorem Diagram.mapBox_interchangeAdj (d : Diagram) (i : Nat) (left : Bool) :
    (d.mapBox φ).interchangeAdj i left = mapOk (Diagram.mapBox φ) (d.interchangeAdj i left) := by
  unfold Diagram.interchangeAdj
  have ho : (d.mapBox φ).offsets = d.offsets := rfl
  rw [ho, getElem?_mapBox_layers, getElem?_mapBox_layers]
  cases d.offsets[i]? with
  | none => simp
  | some off0 =>
    cases d.offsets[i+1]? with
    | none => simp
    | some off1 =>
      cases d.layers.boxes[i]? with
      | none => simp
      | some l0 =>
        cases d.layers.boxes[i+1]? with
        | none => simp
        | some l1 =>
          simp only [Option.map_some]
          rw [interchangeChoice_mapBox hφ]
          cases interchangeChoice left off0 off1 l0 l1 with
          | error e => simp
          | ok q =>
            obtain ⟨a, b, la, lb⟩ := q
            simp only [mapOk_ok, mapQuad]
            exact Diagram.mapBox_splice hφ d i a b la lb

theorem mapBox_interchangePath (left : Bool) (ks : List Nat) (d : Diagram) :
    interchangePath left ks (d.mapBox φ) = mapOk (Diagram.mapBox φ) (interchangePath left ks d) := by
  induction ks generalizing d with
  | nil => rfl
  | cons k ks ih =>
    rw [interchangePath, interchangePath, Diagram.mapBox_interchangeAdj hφ]
    cases d.interchangeAdj k left with
    | error e => rfl
    | ok d' => exact ih d'

/-- Interchange commutes with every relabelling of the boxes that keeps their domains and
    codomains: for all diagrams, all `(i, j)`, both preferences. -/
theorem Diagram.mapBox_interchange (d : Diagram) (i j : Int) (left : Bool) :
    (d.mapBox φ).interchange i j left = mapOk (Diagram.mapBox φ) (d.interchange i j left) := by
  have hb : (d.mapBox φ).boxes.length = d.boxes.length := List.length_map _
  rw [Diagram.interchange_eq_path, Diagram.interchange_eq_path, hb]
  split
  · rfl
  · exact mapBox_interchangePath hφ left _ d

end

end DV
