/-
  Proofs/TensorLayer.lean — one layer `id(L) ⊗ t ⊗ id(Rr)`: its entries, and the effect of
  composing with it (only the wires the box eats are contracted).  Used by the loop of
  `Tensor.cups` (Proofs/TensorCups.lean) and by the functor (Proofs/TensorFunctor.lean).
-/
import Proofs.TensorLaws

namespace DV
namespace Tensor
open NDArray

section
variable {R : Type} [CommSemiring R]

/-- The layer tensor of the reference semantics. -/
def layerT (L Rr : List Nat) (t : Tensor R) : Tensor R :=
  ((Tensor.id L).tensor t).tensor (Tensor.id Rr)

theorem layerT_wf (L Rr : List Nat) (t : Tensor R) (ht : t.WF) : (layerT L Rr t).WF :=
  tensor_wf _ _ (tensor_wf _ _ (id_wf L) ht) (id_wf Rr)

@[simp] theorem layerT_dom (L Rr : List Nat) (t : Tensor R) :
    (layerT L Rr t).dom = (L ++ t.dom) ++ Rr := rfl
@[simp] theorem layerT_cod (L Rr : List Nat) (t : Tensor R) :
    (layerT L Rr t).cod = (L ++ t.cod) ++ Rr := rfl

theorem layerT_entry (L Rr : List Nat) (t : Tensor R) (ht : t.WF) {l' bd rr' l bc rr : List Nat}
    (hl' : InRange L l') (hbd : InRange t.dom bd) (hrr' : InRange Rr rr')
    (hl : InRange L l) (hbc : InRange t.cod bc) (hrr : InRange Rr rr) :
    (layerT L Rr t).entry (((l' ++ bd) ++ rr') ++ ((l ++ bc) ++ rr))
      = (if l' = l then 1 else 0) * t.entry (bd ++ bc) * (if rr' = rr then 1 else 0) := by
  unfold layerT
  rw [tensor_entry _ _ (tensor_wf _ _ (id_wf L) ht) (id_wf Rr)
      (a := l' ++ bd) (b := l ++ bc) (c := rr') (d := rr)
      (inRange_append hl' hbd) (inRange_append hl hbc) hrr' hrr,
    tensor_entry _ _ (id_wf L) ht hl' hl hbd hbc, id_entry L hl' hl, id_entry Rr hrr' hrr]

/-- Composing with a layer contracts only the wires the box eats. -/
theorem then_layer_entry (acc t : Tensor R) (L Rr : List Nat) (hacc : acc.WF) (ht : t.WF)
    (hc : acc.cod = (L ++ t.dom) ++ Rr) {i l bc rr : List Nat}
    (hi : InRange acc.dom i) (hl : InRange L l) (hbc : InRange t.cod bc) (hrr : InRange Rr rr) :
    (thenCore acc (layerT L Rr t)).entry (i ++ ((l ++ bc) ++ rr))
      = sumOver t.dom (fun bd => acc.entry (i ++ ((l ++ bd) ++ rr)) * t.entry (bd ++ bc)) := by
  rw [then_entry acc _ hacc (layerT_wf L Rr t ht) hc hi
    (inRange_append (inRange_append hl hbc) hrr), hc, sumOver_append, sumOver_append]
  -- Σ_{l'} Σ_{bd} Σ_{rr'} acc(i, l' bd rr') δ(l', l) t(bd, bc) δ(rr', rr)
  rw [sumOver_congr (g := fun l' => (if l = l' then 1 else 0) *
      sumOver t.dom (fun bd => acc.entry (i ++ ((l' ++ bd) ++ rr)) * t.entry (bd ++ bc)))
    (fun l' hl' => ?_)]
  · rw [sumOver_delta hl]
  · rw [← sumOver_mul_left]
    apply sumOver_congr
    intro bd hbd
    rw [sumOver_congr (g := fun rr' => (acc.entry (i ++ ((l' ++ bd) ++ rr'))
        * ((if l' = l then 1 else 0) * t.entry (bd ++ bc))) * (if rr' = rr then 1 else 0))
      (fun rr' hrr' => ?_)]
    · rw [sumOver_delta' hrr, ite_comm' l' l]; ring
    · rw [layerT_entry L Rr t ht hl' hbd hrr' hl hbc hrr]; ring

end
end Tensor
end DV
