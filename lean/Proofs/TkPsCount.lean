/-
  Proofs/TkPsCount.lean — C13: `to_tk` never loses (or duplicates) a post-selection.

  For EVERY circuit, inside or outside the fragment of `violation`: if the export succeeds, its
  `post_selection` has exactly one entry per post-selected qubit (`Bra` bit) of the circuit, its
  keys are distinct and they are bits of the exported circuit.  The work is in
  `tk.Circuit.rename_units` (tk.py:73-84, `PS.rename`): a simultaneous renaming whose targets are
  either free or renamed away themselves (the shift of `prepare_bits`, the transposition of a bit
  swap) keeps the number of entries — because the code deletes ALL the old keys BEFORE it writes
  the new ones (with the two statements exchanged the chain 1 -> 2, 2 -> 3 deletes what it has
  just written; seeded change C13-m2).
-/
import Proofs.TkPrepBits

namespace DV.Tk
open DV

/-! ### keys of a post-selection dictionary -/

def PS.keys (ps : PS) : List Nat := ps.map (·.1)

theorem PS.has_iff_mem (ps : PS) (k : Nat) : ps.has k = true ↔ k ∈ ps.keys := by
  simp only [PS.has, PS.keys, List.any_eq_true, List.mem_map, beq_iff_eq]

theorem PS.not_has_iff (ps : PS) (k : Nat) : ps.has k = false ↔ k ∉ ps.keys := by
  rw [← PS.has_iff_mem]; cases ps.has k <;> simp

theorem PS.has_erase (ps : PS) (o k : Nat) : (ps.erase o).has k = (!decide (k = o) && ps.has k) := by
  rw [PS.has_eq_isSome, PS.get_erase, PS.has_eq_isSome]
  by_cases h : k = o <;> simp [h]

theorem PS.erase_of_not_has {ps : PS} {k : Nat} (h : ps.has k = false) : ps.erase k = ps := by
  unfold PS.erase
  apply List.filter_eq_self.mpr
  intro e he
  have hk : k ∉ ps.keys := (PS.not_has_iff ps k).mp h
  have : e.1 ≠ k := fun hh => hk (hh ▸ List.mem_map_of_mem he)
  simpa using this

theorem PS.keys_erase_sublist (ps : PS) (k : Nat) : (ps.erase k).keys.Sublist ps.keys := by
  unfold PS.erase PS.keys
  exact List.Sublist.map _ List.filter_sublist

theorem PS.nodup_erase {ps : PS} (k : Nat) (h : ps.keys.Nodup) : (ps.erase k).keys.Nodup :=
  List.Nodup.sublist (PS.keys_erase_sublist ps k) h

theorem PS.length_erase_of_has {ps : PS} {k : Nat} (hn : ps.keys.Nodup) (h : ps.has k = true) :
    (ps.erase k).length + 1 = ps.length := by
  induction ps with
  | nil => simp [PS.has] at h
  | cons e t ih =>
    simp only [PS.keys, List.map_cons, List.nodup_cons] at hn
    by_cases he : e.1 = k
    · have hk : PS.has t k = false := (PS.not_has_iff t k).mpr (he ▸ hn.1)
      have h1 : PS.erase (e :: t) k = PS.erase t k := by
        simp [PS.erase, he]
      rw [h1, PS.erase_of_not_has hk]; rfl
    · have hb : (e.1 == k) = false := by simpa using he
      have h1 : PS.erase (e :: t) k = e :: PS.erase t k := by
        simp [PS.erase, hb]
      have ht : PS.has t k = true := by
        rw [PS.has_cons] at h; simpa [he] using h
      rw [h1, List.length_cons, List.length_cons, ih hn.2 ht]

theorem PS.set_of_not_has {ps : PS} {k : Nat} (v : Nat) (h : ps.has k = false) :
    ps.set k v = ps ++ [(k, v)] := by
  simp [PS.set, h]

theorem PS.keys_set_of_has {ps : PS} {k : Nat} (v : Nat) (h : ps.has k = true) :
    (ps.set k v).keys = ps.keys := by
  simp only [PS.set, h, if_true, PS.keys, List.map_map]
  apply List.map_congr_left
  intro e _
  show (if (e.1 == k) = true then (k, v) else e).1 = e.1
  by_cases he : e.1 = k
  · simp [he]
  · have hb : (e.1 == k) = false := by simpa using he
    simp [hb]

theorem PS.length_set_of_has {ps : PS} {k : Nat} (v : Nat) (h : ps.has k = true) :
    (ps.set k v).length = ps.length := by
  simp [PS.set, h]

theorem PS.nodup_set {ps : PS} (k v : Nat) (h : ps.keys.Nodup) : (ps.set k v).keys.Nodup := by
  cases hk : ps.has k with
  | true => rw [PS.keys_set_of_has v hk]; exact h
  | false =>
    rw [PS.set_of_not_has v hk]
    have hn : k ∉ ps.keys := (PS.not_has_iff ps k).mp hk
    simp only [PS.keys, List.map_append, List.map_cons, List.map_nil]
    unfold List.Nodup
    rw [List.pairwise_append]
    refine ⟨h, by simp, ?_⟩
    intro a ha b hb
    simp only [List.mem_singleton] at hb
    subst hb
    intro hab
    exact hn (hab ▸ ha)

/-! ### the two loops of `rename_units` -/

theorem PS.nodup_foldl_erase (olds : List (Nat × Nat)) (p : PS) (h : p.keys.Nodup) :
    (olds.foldl (fun p r => p.erase r.1) p).keys.Nodup := by
  induction olds generalizing p with
  | nil => exact h
  | cons r t ih => exact ih _ (PS.nodup_erase r.1 h)

theorem PS.has_foldl_erase (olds : List (Nat × Nat)) (p : PS) (k : Nat) :
    (olds.foldl (fun p r => p.erase r.1) p).has k = true ↔ p.has k = true ∧ k ∉ olds.map (·.1) := by
  rw [PS.has_eq_isSome, PS.get_foldl_erase, PS.has_eq_isSome]
  by_cases h : k ∈ olds.map (·.1) <;> simp [h]

theorem PS.length_foldl_erase (olds : List (Nat × Nat)) (p : PS) (hn : p.keys.Nodup)
    (ho : (olds.map (·.1)).Nodup) (hh : ∀ r ∈ olds, p.has r.1 = true) :
    (olds.foldl (fun p r => p.erase r.1) p).length + olds.length = p.length := by
  induction olds generalizing p with
  | nil => rfl
  | cons r t ih =>
    simp only [List.map_cons, List.nodup_cons] at ho
    have h1 := PS.length_erase_of_has hn (hh r (List.mem_cons_self ..))
    have h2 := ih (p.erase r.1) (PS.nodup_erase r.1 hn) ho.2 (by
      intro r' hr'
      rw [PS.has_erase, hh r' (List.mem_cons_of_mem _ hr')]
      have : r'.1 ≠ r.1 := fun e => ho.1 (e ▸ List.mem_map_of_mem hr')
      simp [this])
    simp only [List.foldl_cons, List.length_cons]
    omega

theorem PS.nodup_foldl_set (news : List (Nat × Nat)) (p : PS) (h : p.keys.Nodup) :
    (news.foldl (fun p e => p.set e.1 e.2) p).keys.Nodup := by
  induction news generalizing p with
  | nil => exact h
  | cons e t ih => exact ih _ (PS.nodup_set e.1 e.2 h)

theorem PS.has_foldl_set (news : List (Nat × Nat)) (p : PS) (k : Nat)
    (h : (news.foldl (fun p e => p.set e.1 e.2) p).has k = true) :
    k ∈ news.map (·.1) ∨ p.has k = true := by
  induction news generalizing p with
  | nil => exact .inr h
  | cons e t ih =>
    rcases ih _ h with h1 | h1
    · exact .inl (List.mem_cons_of_mem _ h1)
    · rw [PS.has_set] at h1
      by_cases hk : k = e.1
      · exact .inl (by simp [hk])
      · exact .inr (by simpa [hk] using h1)

theorem PS.length_foldl_set (news : List (Nat × Nat)) (p : PS)
    (hn : (news.map (·.1)).Nodup) (hh : ∀ e ∈ news, p.has e.1 = false) :
    (news.foldl (fun p e => p.set e.1 e.2) p).length = p.length + news.length := by
  induction news generalizing p with
  | nil => rfl
  | cons e t ih =>
    simp only [List.map_cons, List.nodup_cons] at hn
    have h1 : (p.set e.1 e.2).length = p.length + 1 := by
      rw [PS.set_of_not_has _ (hh e (List.mem_cons_self ..))]; simp
    have h2 := ih (p.set e.1 e.2) hn.2 (by
      intro e' he'
      rw [PS.has_set, hh e' (List.mem_cons_of_mem _ he')]
      have : e'.1 ≠ e.1 := fun x => hn.1 (x ▸ List.mem_map_of_mem he')
      simp [this])
    simp only [List.foldl_cons, List.length_cons]
    omega

/-! ### `rename_units` on the post-selection -/

theorem PS.nodup_rename (ps : PS) (ren : List (Nat × Nat)) (h : ps.keys.Nodup) :
    (ps.rename ren).keys.Nodup := by
  unfold PS.rename
  exact PS.nodup_foldl_set _ _ (PS.nodup_foldl_erase _ _ h)

/-- A key of the renamed dictionary is a new name or an old key. -/
theorem PS.has_rename_sub (ps : PS) (ren : List (Nat × Nat)) (k : Nat)
    (h : (ps.rename ren).has k = true) : k ∈ ren.map (·.2) ∨ ps.has k = true := by
  unfold PS.rename at h
  rcases PS.has_foldl_set _ _ k h with h1 | h1
  · left
    simp only [List.map_map, List.mem_map, Function.comp] at h1
    obtain ⟨r, hr, rfl⟩ := h1
    exact List.mem_map_of_mem ((List.mem_filter.mp hr).1)
  · exact .inr ((PS.has_foldl_erase _ _ k).mp h1).1

/-- The number of post-selections survives a renaming with distinct sources and distinct targets
    each of whose targets is free or is itself renamed away. -/
theorem PS.length_rename {ps : PS} {ren : List (Nat × Nat)} (hn : ps.keys.Nodup)
    (h1 : (ren.map (·.1)).Nodup) (h2 : (ren.map (·.2)).Nodup)
    (hc : ∀ r ∈ ren, ps.has r.2 = true → r.2 ∈ ren.map (·.1)) :
    (ps.rename ren).length = ps.length := by
  unfold PS.rename
  have hsub : (ren.filter (fun r => ps.has r.1)).Sublist ren := List.filter_sublist
  have hs1 : ((ren.filter (fun r => ps.has r.1)).map (·.1)).Nodup := List.Nodup.sublist (hsub.map _) h1
  have hs2 : ((ren.filter (fun r => ps.has r.1)).map (·.2)).Nodup := List.Nodup.sublist (hsub.map _) h2
  have he := PS.length_foldl_erase (ren.filter (fun r => ps.has r.1)) ps hn hs1 (by
    intro r hr; exact (List.mem_filter.mp hr).2)
  have hs := PS.length_foldl_set
    ((ren.filter (fun r => ps.has r.1)).map (fun r => (r.2, (ps.get r.1).getD 0)))
    ((ren.filter (fun r => ps.has r.1)).foldl (fun p r => p.erase r.1) ps)
    (by rw [List.map_map]; exact hs2)
    (by
      intro e he'
      obtain ⟨r, hr, rfl⟩ := List.mem_map.mp he'
      cases hx : PS.has (List.foldl (fun p r => p.erase r.1) ps (ren.filter (fun r => ps.has r.1))) r.2 with
      | false => rfl
      | true =>
        exfalso
        obtain ⟨hp, hnot⟩ := (PS.has_foldl_erase _ _ _).mp hx
        obtain ⟨r', hr', hr'e⟩ := List.mem_map.mp (hc r ((List.mem_filter.mp hr).1) hp)
        apply hnot
        refine List.mem_map.mpr ⟨r', List.mem_filter.mpr ⟨hr', ?_⟩, hr'e⟩
        simp only [hr'e]; exact hp)
  rw [hs, List.length_map]
  omega

/-- `rename_units({old: new, new: old})` with `old == new`. -/
theorem PS.length_rename_same {ps : PS} (a : Nat) (hn : ps.keys.Nodup) :
    (ps.rename [(a, a), (a, a)]).length = ps.length := by
  cases h : ps.has a with
  | false => rw [PS.rename_of_not_has]; intro r hr; simp at hr; rcases hr with rfl | rfl <;> exact h
  | true =>
    have h0 : (ps.erase a).has a = false := by rw [PS.has_erase]; simp
    simp only [PS.rename, List.filter_cons, h, if_true, List.filter_nil, List.map_cons, List.map_nil,
      List.foldl_cons, List.foldl_nil]
    rw [PS.erase_of_not_has h0]
    have h1 : ((ps.erase a).set a ((ps.get a).getD 0)).has a = true := by rw [PS.has_set]; simp
    rw [PS.length_set_of_has _ h1, PS.set_of_not_has _ h0, List.length_append]
    have := PS.length_erase_of_has hn h
    simp only [List.length_cons, List.length_nil]
    omega

/-! ### the invariant along the loop of `to_tk` -/

/-- What holds of the post-selection after every layer, inside or outside the fragment: distinct
    keys, all of them (and all of `bits`) bits of the circuit so far. -/
structure PsInv (st : St) : Prop where
  nodup : st.ps.keys.Nodup
  lt : ∀ k, st.ps.has k = true → k < st.nb
  bits : ∀ r ∈ st.bits, r < st.nb

/-- Post-selected qubits of a box / of a list of layers. -/
def braBitsBox : TBox → Nat
  | .bra bs => bs.length
  | _ => 0

def braBits : Layers → Nat
  | [] => 0
  | (b, _) :: rest => braBitsBox b + braBits rest

theorem braBits_append (a b : Layers) : braBits (a ++ b) = braBits a + braBits b := by
  induction a with
  | nil => simp [braBits]
  | cons x t ih => obtain ⟨bx, o⟩ := x; simp [braBits, ih]; omega

theorem shiftPairs_fst_nodup (start n nb : Nat) : ((shiftPairs start n nb).map (·.1)).Nodup := by
  have : (shiftPairs start n nb).map (·.1) = List.range' start (nb - start) := by
    simp [shiftPairs, List.map_map, Function.comp_def]
  rw [this]
  exact List.nodup_range' (s := start) (n := nb - start) (step := 1)

theorem shiftPairs_snd_nodup (start n nb : Nat) : ((shiftPairs start n nb).map (·.2)).Nodup := by
  have : (shiftPairs start n nb).map (·.2) = (List.range' start (nb - start)).map (· + n) := by
    simp [shiftPairs, List.map_map, Function.comp_def]
  rw [this]
  unfold List.Nodup
  rw [List.pairwise_map]
  refine List.Pairwise.imp ?_ (List.nodup_range' (s := start) (n := nb - start) (step := 1))
  intro a b hab
  show a + n ≠ b + n
  omega

theorem prepareBits_psInv {st st' : St} {n lb : Nat} (h : prepareBits st n lb = .ok st') (inv : PsInv st) :
    PsInv st' ∧ st'.ps.length = st.ps.length := by
  obtain ⟨start, pp', hstart, _, rfl⟩ := prepareBits_ok h
  have hle := startOf_le inv.bits hstart
  refine ⟨⟨PS.nodup_rename _ _ inv.nodup, ?_, ?_⟩, ?_⟩
  · intro k hk
    show k < st.nb + n
    rcases PS.has_rename_sub _ _ k hk with h1 | h1
    · obtain ⟨r, hr, rfl⟩ := List.mem_map.mp h1
      have := mem_shiftPairs.mp hr
      omega
    · have := inv.lt k h1; omega
  · exact insertRegs_lt inv.bits hle
  · apply PS.length_rename inv.nodup (shiftPairs_fst_nodup ..) (shiftPairs_snd_nodup ..)
    intro r hr hh
    have hm := mem_shiftPairs.mp hr
    have := inv.lt _ hh
    exact List.mem_map.mpr ⟨(r.2, r.2 + n), mem_shiftPairs.mpr ⟨by simp only; omega, this, rfl⟩, rfl⟩

theorem overrideLoop_ps {st st' : St} {lq lb : Nat} (js : List Nat) (h : overrideLoop st lq lb js = .ok st') :
    st'.ps = st.ps ∧ st'.nb = st.nb ∧ st'.bits = st.bits := by
  induction js generalizing st with
  | nil => cases h; exact ⟨rfl, rfl, rfl⟩
  | cons j t ih =>
    unfold overrideLoop at h
    split at h
    · have := ih h
      exact this
    · cases h

theorem PsInv.measure_step {st : St} (inv : PsInv st) (pp' : PP) (cmds' : List Cmd) (k : Nat) :
    PsInv { st with nb := st.nb + 1, pp := pp', cmds := cmds',
                    bits := st.bits.take k ++ [st.nb] ++ st.bits.drop k } := by
  refine ⟨inv.nodup, fun k hk => Nat.lt_succ_of_lt (inv.lt k hk), ?_⟩
  intro r hr
  simp only [List.mem_append, List.mem_singleton] at hr
  show r < st.nb + 1
  rcases hr with (hr | hr) | hr
  · have := inv.bits r (List.mem_of_mem_take hr); omega
  · omega
  · have := inv.bits r (List.mem_of_mem_drop hr); omega

theorem PsInv.bra_step {st : St} (inv : PsInv st) (cmds' : List Cmd) (v : Nat) :
    PsInv { st with nb := st.nb + 1, cmds := cmds', ps := st.ps.set st.nb v } ∧
      (st.ps.set st.nb v).length = st.ps.length + 1 := by
  have hfree : st.ps.has st.nb = false := by
    cases hx : st.ps.has st.nb with
    | false => rfl
    | true => exact absurd (inv.lt _ hx) (Nat.lt_irrefl _)
  refine ⟨⟨PS.nodup_set _ _ inv.nodup, ?_, fun r hr => Nat.lt_succ_of_lt (inv.bits r hr)⟩, ?_⟩
  · intro k hk
    show k < st.nb + 1
    have hk' : (st.ps.set st.nb v).has k = true := hk
    rw [PS.has_set] at hk'
    by_cases hkk : k = st.nb
    · omega
    · have := inv.lt k (by simpa [hkk] using hk'); omega
  · rw [PS.set_of_not_has _ hfree, List.length_append]; rfl

theorem measureLoop_psInv {st st' : St} {lq lb : Nat} (js : List Nat) (h : measureLoop st lq lb js = .ok st')
    (inv : PsInv st) : PsInv st' ∧ st'.ps = st.ps := by
  induction js generalizing st with
  | nil => cases h; exact ⟨inv, rfl⟩
  | cons j t ih =>
    unfold measureLoop at h
    split at h
    · cases h
    · rename_i st1 h1
      obtain ⟨q, pp', _, _, rfl⟩ := measureOne_ok h1
      have := ih h (inv.measure_step _ _ _)
      exact this

theorem braLoop_psInv {st st' : St} {lq : Nat} (js : List (Nat × Nat)) (h : braLoop st lq js = .ok st')
    (inv : PsInv st) : PsInv st' ∧ st'.ps.length = st.ps.length + js.length ∧ st'.bits = st.bits := by
  induction js generalizing st with
  | nil => cases h; exact ⟨inv, rfl, rfl⟩
  | cons jv t ih =>
    unfold braLoop at h
    split at h
    · cases h
    · rename_i st1 h1
      obtain ⟨q, _, rfl⟩ := braOne_ok h1
      obtain ⟨inv1, len1⟩ := inv.bra_step (st.cmds ++ [⟨"Measure", none, [q], [st.nb]⟩]) jv.2
      obtain ⟨i2, l2, b2⟩ := ih h inv1
      refine ⟨i2, ?_, b2⟩
      rw [l2]
      show (st.ps.set st.nb jv.2).length + t.length = st.ps.length + (t.length + 1)
      rw [len1]
      omega

theorem swapBits_psInv {st st' : St} {lb : Nat} (h : swapBits st lb = .ok st') (inv : PsInv st) :
    PsInv st' ∧ st'.ps.length = st.ps.length := by
  unfold swapBits at h
  split at h
  · split at h
    · rename_i a b ha hb
      cases h
      have hla : a < st.nb := inv.bits a (List.mem_of_getElem? ha)
      have hlb : b < st.nb := inv.bits b (List.mem_of_getElem? hb)
      refine ⟨⟨PS.nodup_rename _ _ inv.nodup, ?_, inv.bits⟩, ?_⟩
      · intro k hk
        show k < st.nb
        rcases PS.has_rename_sub _ _ k hk with h1 | h1
        · simp only [List.map_cons, List.map_nil, List.mem_cons, List.not_mem_nil, or_false] at h1
          rcases h1 with rfl | rfl <;> assumption
        · exact inv.lt k h1
      · show (st.ps.rename [(a, b), (b, a)]).length = st.ps.length
        by_cases hab : a = b
        · subst hab; exact PS.length_rename_same a inv.nodup
        · apply PS.length_rename inv.nodup
          · simp [hab]
          · simp; exact fun e => hab e.symm
          · intro r hr _
            simp only [List.mem_cons, List.not_mem_nil, or_false] at hr
            rcases hr with rfl | rfl <;> simp
    · cases h
  · split at h
    · cases h
    · cases h; exact ⟨⟨inv.nodup, inv.lt, inv.bits⟩, rfl⟩

theorem addGate_ps {st st' : St} {box : TBox} {lq : Nat} (h : addGate st box lq = .ok st') :
    st'.ps = st.ps ∧ st'.nb = st.nb ∧ st'.bits = st.bits := by
  unfold addGate at h
  split at h
  · cases h
  · split at h
    · cases h
    · cases h; exact ⟨rfl, rfl, rfl⟩

theorem classical_ps {st st' : St} {box : PBox} {lb : Nat} (h : classical st box lb = .ok st') :
    st'.ps = st.ps ∧ st'.nb = st.nb ∧ st'.bits = st.bits := by
  unfold classical at h
  split at h
  · cases h
  · cases h; exact ⟨rfl, rfl, rfl⟩

/-- A layer that leaves post-selection, bit count and `bits` alone.  The count is written `+ 0`
    so that it is, by unfolding, the `+ braBitsBox box` of `step_psInv` for a box that is no `Bra`. -/
theorem PsInv.of_eq {st st' : St} (inv : PsInv st) (h : st'.ps = st.ps ∧ st'.nb = st.nb ∧ st'.bits = st.bits) :
    PsInv st' ∧ st'.ps.length = st.ps.length + 0 := by
  obtain ⟨h1, h2, h3⟩ := h
  refine ⟨⟨h1 ▸ inv.nodup, ?_, ?_⟩, by rw [h1]; rfl⟩
  · intro k hk; rw [h2]; exact inv.lt k (h1 ▸ hk)
  · intro r hr; rw [h2]; exact inv.bits r (h3 ▸ hr)

/-- One iteration of the loop: the invariant is kept and a `Bra` adds one entry per bit. -/
theorem step_psInv {st st' : St} {lq lb : Nat} {box : TBox} (h : step st lq lb box = .ok st')
    (inv : PsInv st) : PsInv st' ∧ st'.ps.length = st.ps.length + braBitsBox box := by
  cases box with
  | ket bs =>
    simp only [step, prepareQubits] at h
    split at h
    · cases h
    · cases h; exact inv.of_eq ⟨rfl, rfl, rfl⟩
  | bits bs d =>
    cases d with
    | false =>
      simp only [step] at h
      split at h
      · cases h
      · exact prepareBits_psInv h inv
    | true =>
      simp only [step] at h
      exact inv.of_eq (classical_ps h)
  | measure n de ov =>
    obtain ⟨st1, h1, rfl⟩ := measureQubits_ok h
    have i1 : PsInv st1 ∧ st1.ps.length = st.ps.length + 0 := by
      cases ov with
      | true => exact inv.of_eq (overrideLoop_ps _ h1)
      | false =>
        obtain ⟨i1, e1⟩ := measureLoop_psInv _ h1 inv
        exact ⟨i1, by rw [e1]; rfl⟩
    cases de with
    | false => exact i1
    | true => exact ⟨⟨i1.1.nodup, i1.1.lt, i1.1.bits⟩, i1.2⟩
  | bra bs =>
    obtain ⟨st1, h1, rfl⟩ := braQubits_ok h
    obtain ⟨i1, l1, _⟩ := braLoop_psInv _ h1 inv
    exact ⟨⟨i1.nodup, i1.lt, i1.bits⟩, by show st1.ps.length = _; rw [l1]; simp [braBitsBox]⟩
  | discard t =>
    simp only [step] at h
    cases h
    refine ⟨⟨inv.nodup, inv.lt, ?_⟩, rfl⟩
    intro r hr
    exact inv.bits r (mem_removeAt (by rw [← removeRegs_eq]; exact hr))
  | swap l r =>
    cases l <;> cases r <;> simp only [step] at h
    · unfold swapQubits at h
      split at h
      · cases h; exact inv.of_eq ⟨rfl, rfl, rfl⟩
      · cases h
    · cases h; exact inv.of_eq ⟨rfl, rfl, rfl⟩
    · cases h; exact inv.of_eq ⟨rfl, rfl, rfl⟩
    · exact swapBits_psInv h inv
  | scalar k m =>
    simp only [step] at h
    cases h; exact inv.of_eq ⟨rfl, rfl, rfl⟩
  | cgate name i o =>
    simp only [step] at h
    exact inv.of_eq (classical_ps h)
  | rot cls num =>
    simp only [step] at h
    exact inv.of_eq (addGate_ps h)
  | gate name n =>
    simp only [step] at h
    exact inv.of_eq (addGate_ps h)
  | other d c =>
    simp only [step] at h
    cases h

theorem run_psInv (layers : Layers) : ∀ {st st' : St} {cur : List W},
    run st cur layers = .ok st' → PsInv st → PsInv st' ∧ st'.ps.length = st.ps.length + braBits layers := by
  induction layers with
  | nil => intro st st' cur h inv; cases h; exact ⟨inv, rfl⟩
  | cons l rest ih =>
    intro st st' cur h inv
    obtain ⟨b, off⟩ := l
    unfold run at h
    split at h
    · cases h
    · rename_i st1 h1
      obtain ⟨i1, l1⟩ := step_psInv h1 inv
      obtain ⟨i2, l2⟩ := ih h i1
      refine ⟨i2, ?_⟩
      rw [l2, l1]; simp only [braBits]; omega

/-! ### `init_and_discard` and `remove_ket1` add no post-selection -/

theorem braBits_initLayers (t : List W) (i : Nat) : braBits (initLayers t i) = 0 := by
  induction t generalizing i with
  | nil => rfl
  | cons w t ih => cases w <;> simp [initLayers, braBits, braBitsBox, ih]

theorem braBits_discardLayers (t : List W) (i : Nat) : braBits (discardLayers t i) = 0 := by
  induction t generalizing i with
  | nil => rfl
  | cons w t ih => cases w <;> simp [discardLayers, braBits, braBitsBox, ih]

theorem braBits_ketXs (bs : List Nat) (off : Nat) : braBits (ketXs bs off) = 0 := by
  induction bs generalizing off with
  | nil => rfl
  | cons x t ih =>
    simp only [ketXs, braBits_append, ih]
    split <;> simp [braBits, braBitsBox]

theorem braBits_removeKet1 (ls : Layers) : braBits (removeKet1 ls) = braBits ls := by
  induction ls with
  | nil => rfl
  | cons l rest ih =>
    obtain ⟨b, off⟩ := l
    cases b <;> simp [removeKet1, braBits, braBitsBox, braBits_append, braBits_ketXs, ih]

theorem braBits_prep (c : Circ) : braBits (prep c) = braBits c.layers := by
  unfold prep initAndDiscard
  rw [braBits_removeKet1, braBits_append, braBits_append, braBits_initLayers]
  split <;> simp [braBits, braBits_discardLayers]

/-- Every successful export has exactly one post-selected bit per post-selected qubit of the
    circuit, under distinct keys that are bits of the exported circuit. -/
theorem toTk_ps_count {c : Circ} {st : St} (h : toTk c = .ok st) :
    st.ps.length = braBits c.layers ∧ (st.ps.map (·.1)).Nodup ∧ ∀ e ∈ st.ps, e.1 < st.nb := by
  have inv0 : PsInv ({} : St) := ⟨by simp [PS.keys], by intro k hk; simp [PS.has] at hk, by intro r hr; cases hr⟩
  obtain ⟨inv, hl⟩ := run_psInv (prep c) h inv0
  refine ⟨?_, inv.nodup, ?_⟩
  · rw [hl, braBits_prep]; simp
  · intro e he
    exact inv.lt e.1 ((PS.has_iff_mem _ _).mpr (List.mem_map_of_mem he))

end DV.Tk
