/-
  Proofs/Foliate.lean — every diagram yielded by `foliate` is reached from the input by
  interchanges only (hence well-typed, same type, same boxes, same denotation), and every slice
  is well-typed.
-/
import Proofs.Interchange
import Model.Foliate

namespace DV

/-- Reachability by (general) interchanges. -/
inductive IReach : Diagram → Diagram → Prop
  | refl (d : Diagram) : IReach d d
  | step {a b c : Diagram} : IReach a b → (∃ i j left, b.interchange i j left = .ok c) → IReach a c

theorem IReach.trans {a b c : Diagram} (h1 : IReach a b) (h2 : IReach b c) : IReach a c := by
  induction h2 with
  | refl => exact h1
  | step _ hs ih => exact .step ih hs

theorem IReach.wf {d d' : Diagram} (hd : d.WF) (h : IReach d d') :
    d'.WF ∧ d'.dom = d.dom ∧ d'.cod = d.cod ∧ d'.boxes.Perm d.boxes := by
  induction h with
  | refl => exact ⟨hd, rfl, rfl, List.Perm.refl _⟩
  | step _ hs ih =>
    obtain ⟨w, a, b, p⟩ := ih
    obtain ⟨i, j, left, hij⟩ := hs
    obtain ⟨w', a', b'⟩ := Diagram.interchange_wf w hij
    exact ⟨w', a'.trans a, b'.trans b, (Diagram.interchange_perm w hij).trans p⟩

theorem IReach.sound {O M : Type} {C : SMC O M} (F : MFunctor C) {d d' : Diagram} (hd : d.WF)
    (h : IReach d d') : F.eval d' = F.eval d := by
  induction h with
  | refl => rfl
  | step hr hs ih =>
    obtain ⟨i, j, left, hij⟩ := hs
    exact (Diagram.interchange_sound F (hr.wf hd).1 hij).trans ih

theorem tryInterchange_reach {d r : Diagram} {i j : Nat} (h : tryInterchange d i j = .ok (some r)) :
    IReach d r := by
  unfold tryInterchange at h
  split at h
  · rename_i r' hr
    simp only [Except.ok.injEq, Option.some.injEq] at h
    subst h
    exact .step (.refl d) ⟨i, j, false, hr⟩
  · cases h
  · cases h

theorem moveInSlice_reach {fuel first last k : Nat} {d r : Diagram}
    (h : moveInSlice fuel first last k d = .ok (some r)) : IReach d r := by
  induction fuel generalizing last k d with
  | zero => simp [moveInSlice] at h
  | succ fuel ih =>
    -- the three `match`es of `moveInSlice` in turn; in each the first two branches (an error, no
    -- result) cannot end in `ok (some r)`
    simp only [moveInSlice] at h
    split at h
    · cases h
    · cases h
    · -- the box is brought to `last + 1` (or is there already): `result`
      rename_i result hres
      have h0 : IReach d result := by
        split at hres
        · simp only [Except.ok.injEq, Option.some.injEq] at hres; subst hres; exact .refl d
        · exact tryInterchange_reach hres
      split at h
      · cases h
      · cases h
      · -- it is right of the slice's last box: done
        simp only [Except.ok.injEq, Option.some.injEq] at h; subst h; exact h0
      · -- otherwise it moves one up, `result'`, and the walk goes on unless the slice is exhausted
        split at h
        · cases h
        · cases h
        · rename_i result' hres'
          have h1 : IReach d result' := h0.trans (tryInterchange_reach hres')
          split at h
          · simp only [Except.ok.injEq, Option.some.injEq] at h; subst h; exact h1
          · exact h1.trans (ih h)

theorem sliceLoop_reach {first n last k : Nat} {d0 d d' : Diagram} {acc steps : List Diagram}
    {last' : Nat} (hd : IReach d0 d) (hacc : ∀ s ∈ acc, IReach d0 s)
    (h : sliceLoop first n last k d acc = .ok (d', last', steps)) :
    IReach d0 d' ∧ ∀ s ∈ steps, IReach d0 s := by
  induction n generalizing last k d acc with
  | zero =>
    simp only [sliceLoop, Except.ok.injEq, Prod.mk.injEq] at h
    obtain ⟨rfl, _, rfl⟩ := h
    exact ⟨hd, hacc⟩
  | succ n ih =>
    simp only [sliceLoop] at h
    split at h
    · cases h
    · exact ih hd hacc h
    · rename_i r hr
      have hr' : IReach d0 r := hd.trans (moveInSlice_reach hr)
      exact ih hr' (List.forall_mem_append.mpr ⟨hacc, List.forall_mem_singleton.mpr hr'⟩) h

theorem foliateLoop_reach {fuel start : Nat} {d0 d : Diagram} {steps slices out outSlices : List Diagram}
    (hd0 : d0.WF) (hd : IReach d0 d) (hsteps : ∀ s ∈ steps, IReach d0 s)
    (hslices : ∀ s ∈ slices, s.WF)
    (h : foliateLoop fuel start d steps slices = .ok (out, outSlices)) :
    (∀ s ∈ out, IReach d0 s) ∧ (∀ s ∈ outSlices, s.WF) := by
  induction fuel generalizing start d steps slices with
  | zero =>
    simp only [foliateLoop, Except.ok.injEq, Prod.mk.injEq] at h
    obtain ⟨rfl, rfl⟩ := h
    exact ⟨hsteps, hslices⟩
  | succ fuel ih =>
    simp only [foliateLoop] at h
    split at h
    · -- boxes are left: one slice is grown (`sliceLoop`), cut out (`d'.slice`), and the loop goes on
      split at h
      · cases h
      · rename_i d' last new hloop
        obtain ⟨hd', hnew⟩ := sliceLoop_reach (d0 := d0) hd (by simp) hloop
        split at h
        · cases h
        · rename_i sl hsl
          have hslw : sl.WF := Diagram.slice_wf _ _ (hd'.wf hd0).1 hsl
          exact ih hd' (List.forall_mem_append.mpr ⟨hsteps, hnew⟩)
            (List.forall_mem_append.mpr ⟨hslices, List.forall_mem_singleton.mpr hslw⟩) h
    · -- no box is left: what was collected is handed back
      simp only [Except.ok.injEq, Prod.mk.injEq] at h
      obtain ⟨rfl, rfl⟩ := h
      exact ⟨hsteps, hslices⟩

/-- Every diagram yielded by `foliate` is reached from the input by interchanges, and every slice
    is well-typed. -/
theorem Diagram.foliate_reach {d : Diagram} {steps slices : List Diagram} (hd : d.WF)
    (h : d.foliate = .ok (steps, slices)) :
    (∀ s ∈ steps, IReach d s) ∧ (∀ s ∈ slices, s.WF) :=
  foliateLoop_reach hd (.refl d) (by simp) (by simp) h

end DV
