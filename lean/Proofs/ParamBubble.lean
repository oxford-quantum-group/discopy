/-
  Proofs/ParamBubble.lean — the chain rule implemented by tensor.Bubble.grad (tensor.py:713-735),
  about the bubbles of Model/Param.lean (part 2b), for ANY derivation on ANY commutative ring.

   * `chain_rule`           D (p(x)) = p'(x) · D x  for a polynomial `p` with integer coefficients,
                            `p'` given by the coefficient list `polyDeriv`;
   * `spiderSandwich_eq`    Spider(1, 2, a) >> A @ B >> Spider(2, 1, b)  is the entrywise product
                            of `A, B : a → b`;
   * `OpHom.xboxGrad_spec`  the terms built by Bubble.grad sum to `D` of the array of the bubble,
                            entry by entry: `(p' ∘ f) · D f` with `D f` the evaluation of
                            `inside.grad(var)` (`OpHom.grad_rule`);
   * `OpHom.xgrad_rule`     hence tensor.Diagram.grad on diagrams with plain boxes and (single-wire,
                            polynomial, un-nested) bubbles evaluates to `D` of the evaluation.
  The last two are read through an operation-preserving map `φ`: `φ = id` for data in a ring,
  `φ = norm` for the executable polynomials.
-/
import Proofs.Param

set_option linter.unusedSectionVars false

namespace DV.Param

/-! ### structure only (no ring needed) -/

section Structural
variable {R : Type}

/-- Inputs of `grad`: plain boxes and bubbles (terms of a gradient are not differentiated). -/
def XBox.isInput : XBox R → Prop
  | .plain _ => True
  | .bubble _ _ _ _ => True
  | .chain _ _ _ _ _ => False

/-- The free-symbol test of Bubble.grad is redundant: `inside.grad` is already the empty sum when
    the inside does not depend on the variable. -/
theorem xboxGrad_bubble (checksFS : Bool) (depP : PBox R → Bool) (D : R → R) (dom cod : List Nat)
    (func : List Int) (inside : List (PLayer R)) :
    xboxGrad checksFS depP D (.bubble dom cod func inside)
      = (gradLayers depP (boxGrad checksFS depP D) inside).map
          (fun t => .chain dom cod (polyDeriv func) inside t) := by
  show (if inside.any (fun l => depP l.box) then _ else []) = _
  split
  · rfl
  · rename_i hany
    rw [grad_of_constant depP _ inside fun l hl => by
      cases hx : depP l.box with
      | false => rfl
      | true => exact absurd (List.any_eq_true.mpr ⟨l, hl, hx⟩) hany]
    rfl

theorem xboxGrad_dims (checksFS : Bool) (depP : PBox R → Bool) (D : R → R) (b : XBox R) :
    ∀ b' ∈ xboxGrad checksFS depP D b, b'.dom = b.dom ∧ b'.cod = b.cod := by
  intro b' hb'
  cases b with
  | plain b =>
    obtain ⟨p, hp, rfl⟩ := List.mem_map.mp hb'
    exact boxGrad_dims checksFS depP D b p hp
  | chain _ _ _ _ _ => exact absurd hb' List.not_mem_nil
  | bubble dom cod func inside =>
    rw [xboxGrad_bubble] at hb'
    obtain ⟨t, _, rfl⟩ := List.mem_map.mp hb'
    exact ⟨rfl, rfl⟩

def reBoxX (l : XLayer R) (b' : XBox R) : XLayer R :=
  { left := l.left, box := b', right := l.right }

theorem xgradLayers_eq_gradL (dep : XBox R → Bool) (G : XBox R → List (XBox R))
    (ls : List (XLayer R)) :
    xgradLayers dep G ls = gradL (fun l => dep l.box) (fun l => (G l.box).map (reBoxX l)) ls := by
  induction ls with
  | nil => rfl
  | cons l tail ih =>
    simp only [xgradLayers, gradL, ih, List.map_map, Function.comp_def, reBoxX]

end Structural

section XEval
variable {R : Type} [Zero R] [One R] [Add R] [Mul R] [HasConj R]

theorem XLayer.mat_eq_whisk (f : Int → R) (l : XLayer R) :
    l.mat f = whisk (prod l.box.dom) (prod l.box.cod) (prod l.right) (l.box.arr f) := rfl

theorem xevalLayers_eq_evalL (f : Int → R) (ls : List (XLayer R)) :
    xevalLayers f ls = evalL XLayer.outDim (XLayer.mat f) ls := by
  induction ls with
  | nil => rfl
  | cons l ls ih => simp only [xevalLayers, evalL, ih]

theorem xevalSum_eq_sumL (f : Int → R) (ts : List (List (XLayer R))) :
    xevalSum f ts = sumL XLayer.outDim (XLayer.mat f) ts := by
  show (fun i j => (ts.map (fun t => xevalLayers f t i j)).sum) = _
  simp only [xevalLayers_eq_evalL]
  rfl

end XEval

theorem Deriv.intCast {R : Type} [CommRing R] (d : Deriv R) (c : Int) : d.D (c : R) = 0 := by
  induction c using Int.induction_on with
  | zero => simpa using d.zero
  | succ i ih => rw [Int.cast_add, d.add, ih, Int.cast_one, d.one, add_zero]
  | pred i ih => rw [Int.cast_sub, d.sub, ih, Int.cast_one, d.one, sub_zero]

theorem Deriv.intHom {R : Type} [CommRing R] (d : Deriv R) (ι : ℤ →+* R) (c : Int) :
    d.D (ι c) = 0 := by
  rw [eq_intCast ι c]; exact d.intCast c

/-! ### chain rule for a polynomial function -/

section Chain
variable {R : Type} [CommRing R] (d : Deriv R) (ι : ℤ →+* R)

/-- `polyDerivAux k [c0, c1, …]` has the coefficients `(k + j) · c_j`: its value times `D x` is
    `k · p(x) · D x + x · D (p(x))`. -/
theorem polyDerivAux_spec (k : Nat) (cs : List Int) (x : R) :
    polyApply ι (polyDerivAux k cs) x * d.D x
      = (k : R) * polyApply ι cs x * d.D x + x * d.D (polyApply ι cs x) := by
  induction cs generalizing k with
  | nil => simp only [polyApply, polyDerivAux, d.zero, zero_mul, mul_zero, add_zero]
  | cons c q ih =>
    have := ih (k + 1)
    rw [Nat.cast_succ] at this
    simp only [polyApply, polyDerivAux]
    rw [d.add, d.intHom ι c, d.mul, map_mul, map_natCast]
    linear_combination x * this

/-- **Chain rule**: `D (p ∘ f) = (p' ∘ f) · D f`, at one entry. -/
theorem chain_rule (cs : List Int) (x : R) :
    d.D (polyApply ι cs x) = polyApply ι (polyDeriv cs) x * d.D x := by
  cases cs with
  | nil => exact d.zero.trans (zero_mul _).symm
  | cons c q =>
    have := polyDerivAux_spec d ι 1 q x
    rw [Nat.cast_one, one_mul] at this
    simp only [polyApply, polyDeriv]
    rw [d.add, d.intHom ι c, d.mul, this]
    ring

end Chain

/-! ### the two spiders compute the entrywise product -/

section Sandwich
variable {R : Type} [CommRing R]

theorem sum_range_mul_ite (n c0 : Nat) (f : Nat → R) :
    ((List.range n).map (fun c => f c * (if c = c0 then 1 else 0))).sum
      = if c0 < n then f c0 else 0 := by
  induction n with
  | zero => exact (if_neg (Nat.not_lt_zero c0)).symm
  | succ n ih =>
    rw [List.range_succ, List.map_append, List.sum_append, ih, List.map_singleton,
      List.sum_singleton]
    rcases Nat.lt_trichotomy c0 n with h | h | h
    · rw [if_pos h, if_neg (Nat.ne_of_gt h), mul_zero, add_zero, if_pos (Nat.lt_succ_of_lt h)]
    · subst h
      rw [if_neg (Nat.lt_irrefl _), if_pos rfl, mul_one, zero_add, if_pos (Nat.lt_succ_self _)]
    · rw [if_neg (Nat.lt_asymm h), if_neg (Nat.ne_of_lt h), mul_zero, add_zero,
        if_neg (Nat.not_lt.mpr h)]

theorem sum_range_ite_mul (n c0 : Nat) (f : Nat → R) :
    ((List.range n).map (fun c => (if c = c0 then 1 else 0) * f c)).sum
      = if c0 < n then f c0 else 0 := by
  rw [← sum_range_mul_ite n c0 f]
  exact sum_map_congr _ _ _ (fun c => mul_comm _ _)

theorem diag_lt_iff (i n : Nat) : i * n + i < n * n ↔ i < n :=
  ⟨fun h => Nat.lt_of_not_le fun hge =>
      Nat.not_lt.mpr (Nat.le_trans (Nat.mul_le_mul_right n hge) (Nat.le_add_right _ _)) h,
   fun h => Nat.lt_of_lt_of_le (Nat.add_lt_add_left h _)
      (by rw [← Nat.succ_mul]; exact Nat.mul_le_mul_right n h)⟩

/-- `Spider(1, 2, a) >> A @ B >> Spider(2, 1, b)` is the entrywise product of `A` and `B`. -/
theorem spiderSandwich_eq (a b : Nat) (A B : Mat R) (i j : Nat) :
    spiderSandwich a b A B i j = if i < a ∧ j < b then A i j * B i j else 0 := by
  unfold spiderSandwich
  have inner : ∀ k, matMul (b * b) (kronM a b A B) (spiderMerge b) k j
      = if j * b + j < b * b then kronM a b A B k (j * b + j) else 0 := by
    intro k
    unfold matMul spiderMerge
    exact sum_range_mul_ite (b * b) (j * b + j) (fun c => kronM a b A B k c)
  unfold matMul spiderSplit
  rw [sum_range_ite_mul (a * a) (i * a + i)
    (fun k => ((List.range (b * b)).map (fun c => kronM a b A B k c * spiderMerge b c j)).sum)]
  have inner' := inner (i * a + i)
  unfold matMul at inner'
  rw [inner']
  simp only [diag_lt_iff]
  by_cases hi : i < a
  · by_cases hj : j < b
    · simp only [hi, hj, if_true, and_self]
      unfold kronM
      rw [mul_add_div i a i hi, mul_add_mod i a i hi, mul_add_div j b j hj, mul_add_mod j b j hj]
    · simp [hi, hj]
  · simp [hi]

end Sandwich

namespace OpHom
variable {R S : Type} [Zero R] [One R] [Add R] [Mul R] [HasConj R] [CommRing S] [HasConj S]
  {φ : R → S} (h : OpHom φ)
include h

/-- The two spiders compute the entrywise product, also where the scalars are not a ring. -/
theorem map_spiderSandwich (a b : Nat) (A B : Mat R) (i j : Nat) :
    φ (spiderSandwich a b A B i j) = if i < a ∧ j < b then φ (A i j) * φ (B i j) else 0 := by
  have e1 : (fun i j => φ (spiderSplit (R := R) a i j)) = spiderSplit a :=
    funext fun x => funext fun y => by
      unfold spiderSplit
      split
      · exact h.one
      · exact h.zero
  have e2 : (fun i j => φ (spiderMerge (R := R) b i j)) = spiderMerge b :=
    funext fun x => funext fun y => by
      unfold spiderMerge
      split
      · exact h.one
      · exact h.zero
  have e3 : (fun i j => φ (kronM a b A B i j))
      = kronM a b (fun i j => φ (A i j)) (fun i j => φ (B i j)) :=
    funext fun x => funext fun y => h.mul _ _
  rw [← spiderSandwich_eq a b (fun i j => φ (A i j)) (fun i j => φ (B i j))]
  unfold spiderSandwich
  rw [h.map_matMul, e1, funext fun x => funext fun y => h.map_matMul (b * b) _ _ x y, e3, e2]

variable (ιR : Int → R) (ιS : Int → S) (hι : ∀ c, φ (ιR c) = ιS c)
include hι

theorem map_polyApply (cs : List Int) (x : R) :
    φ (polyApply ιR cs x) = polyApply ιS cs (φ x) := by
  induction cs with
  | nil => exact h.zero
  | cons c q ih => simp only [polyApply, h.add, h.mul, hι, ih]

theorem map_bubbleArr (a b : Nat) (func : List Int) (inside : List (PLayer R)) (i j : Nat) :
    φ (bubbleArr ιR a b func inside i j)
      = if i < a ∧ j < b then polyApply ιS func (φ (evalLayers inside i j)) else 0 := by
  unfold bubbleArr
  split
  · exact h.map_polyApply ιR ιS hι _ _
  · exact h.zero

end OpHom

/-! ### what Bubble.grad builds -/

namespace OpHom
variable {R S : Type} [Zero R] [One R] [Add R] [Mul R] [HasConj R] [CommRing S] [HasConj S]
  {φ : R → S} (h : OpHom φ) (ιR : Int → R) (ιS : ℤ →+* S) (hι : ∀ c, φ (ιR c) = ιS c)
  (d : Deriv S) (D : R → R) (hD : ∀ x, φ (D x) = d.D (φ x)) (hD0 : D 0 = 0)
  (hconj : ∀ x, D (HasConj.conj x) = HasConj.conj (D x))
  (checksFS : Bool) (depP : PBox R → Bool)
  (hdepP : ∀ b, depP b = false → ∀ i j, d.D (φ (b.arr i j)) = 0)
include h hι hD hD0 hconj hdepP

/-- **Bubble.grad** (and tensor.Box.grad), read through `φ`: the terms of `box.grad(var)` sum,
    entry by entry, to the derivative of the array of the box; for a bubble this is
    `(p' ∘ f) · D f`, each term `Spider(1,2) >> inside.bubble(p') @ t >> Spider(2,1)` contributing
    `(p' ∘ f) ·` the evaluation of the term `t` of `inside.grad(var)`. -/
theorem xboxGrad_spec (b : XBox R) (hb : b.isInput) (i j : Nat) :
    ((xboxGrad checksFS depP D b).map (fun b' => φ (b'.arr ιR i j))).sum
      = d.D (φ (b.arr ιR i j)) := by
  have hbox := h.boxGrad_spec d D hD hD0 hconj checksFS depP hdepP
  cases b with
  | plain b =>
    rw [xboxGrad, List.map_map]
    exact hbox b i j
  | chain _ _ _ _ _ => exact hb.elim
  | bubble dom cod func inside =>
    rw [xboxGrad_bubble, List.map_map]
    show ((gradLayers depP (boxGrad checksFS depP D) inside).map (fun t =>
        φ (spiderSandwich (prod dom) (prod cod)
            (bubbleArr ιR (prod dom) (prod cod) (polyDeriv func) inside)
            (evalLayers t) i j))).sum
      = d.D (φ (bubbleArr ιR (prod dom) (prod cod) func inside i j))
    simp only [h.map_spiderSandwich, h.map_bubbleArr ιR (⇑ιS) hι]
    split
    · rw [sum_map_mul_left, chain_rule d ιS,
        ← h.grad_rule d depP _ (boxGrad_dims checksFS depP D) hbox hdepP inside i j]
      unfold evalSum
      rw [h.map_sum, List.map_map]
      rfl
    · rw [sum_map_zero, d.zero]

-- `checksFS` occurs in the proof only: the bubble case reads the (empty) gradient off `xboxGrad_spec`
include checksFS in
theorem xdep_spec (b : XBox R) (hb : b.isInput) (hdep : XBox.dep depP b = false) (i j : Nat) :
    d.D (φ (b.arr ιR i j)) = 0 := by
  cases b with
  | plain b => exact hdepP b hdep i j
  | chain _ _ _ _ _ => exact hb.elim
  | bubble dom cod func inside =>
    -- Bubble.grad returns the empty sum
    rw [← h.xboxGrad_spec ιR ιS hι d D hD hD0 hconj checksFS depP hdepP _ hb i j]
    show ((if inside.any (fun l => depP l.box) = true then _ else ([] : List (XBox R))).map _).sum = 0
    rw [show inside.any (fun l => depP l.box) = false from hdep]
    rfl

/-- **tensor.Diagram.grad on diagrams with bubbles**, read through `φ`, evaluates to the
    derivative of the evaluation. -/
theorem xgrad_rule (ls : List (XLayer R)) (hin : ∀ l ∈ ls, l.box.isInput) (i k : Nat) :
    φ (xevalSum ιR (xgradLayers (XBox.dep depP) (xboxGrad checksFS depP D) ls) i k)
      = d.D (φ (xevalLayers ιR ls i k)) := by
  rw [xevalSum_eq_sumL, xevalLayers_eq_evalL, xgradLayers_eq_gradL, h.map_sumL, h.map_evalL]
  apply gradL_rule d
  · intro l _ l' hl'
    obtain ⟨b', hb', rfl⟩ := List.mem_map.mp hl'
    exact congrArg (fun c => prod l.left * prod c * prod l.right)
      (xboxGrad_dims checksFS depP D l.box b' hb').2
  · intro l hl i j
    rw [List.map_map, XLayer.mat_eq_whisk, ← h.whisk_sum_deriv d _ _ _ _ _ _
      (h.xboxGrad_spec ιR ιS hι d D hD hD0 hconj checksFS depP hdepP l.box (hin l hl))]
    refine congrArg List.sum (List.map_congr_left fun b' hb' => ?_)
    obtain ⟨h1, h2⟩ := xboxGrad_dims checksFS depP D l.box b' hb'
    show φ (whisk (prod b'.dom) (prod b'.cod) (prod l.right) (b'.arr ιR) i j) = _
    rw [h1, h2]
  · intro l hl hd
    exact h.whisk_deriv_zero d _ _ _ _
      (h.xdep_spec ιR ιS hι d D hD hD0 hconj checksFS depP hdepP l.box (hin l hl) hd)

end OpHom

end DV.Param
