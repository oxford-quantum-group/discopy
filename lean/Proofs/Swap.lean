/-
  Proofs/Swap.lean — C10: `Diagram.swap` and `Diagram.permutation` realise exactly the requested
  wire permutation (wire following is `Model/Wires.lean`).

  Contents
  * algebra of `traceWire` (append, offsets shifted by `@`, the staircase `range' s n`)
  * `Diagram.SwapNet`: the invariant "adjacent-swap network"; `Diagram.Routes d s t f`: `d` is a
    well-typed swap network `s → t` carrying wire `p` to `f p`, closed under `id`, `>>`, `@`
  * `Diagram.mk?_of_layers`: the scanning constructor accepts every explicit chain of layers
  * `swapOne_routes`, `Diagram.swap_routes`, `Diagram.swap_spec`, `Diagram.swap_wirePerm`
    (monoidal.py:486-514)
  * `Diagram.wire_types`: in a well-typed swap network `cod[follow p] = dom[p]`
  * `permLayer_routes`, `perm_step`, `permLoop_spec` (the loop invariant), `Diagram.permutation_spec`,
    `Diagram.permutation_wirePerm`, `Diagram.permutation_refuses`   (monoidal.py:516-548)
  * `Diagram.permute_spec`                                          (monoidal.py:550-564)
  Everything is proved for all types and all lengths; nothing is left as an unproved `Prop`.
-/
import Model.Wires
import Proofs.WFOps

namespace DV

/-! ### Following wires: algebra of `stepPos` / `traceWire` -/

@[simp] theorem traceWire_nil (p : Nat) : traceWire [] p = p := rfl

@[simp] theorem traceWire_cons (o : Nat) (os : List Nat) (p : Nat) :
    traceWire (o :: os) p = traceWire os (stepPos o p) := rfl

theorem traceWire_append (xs ys : List Nat) (p : Nat) :
    traceWire (xs ++ ys) p = traceWire ys (traceWire xs p) := by
  simp [traceWire, List.foldl_append]

theorem stepPos_cases (o p : Nat) :
    (p = o ∧ stepPos o p = o + 1) ∨ (p = o + 1 ∧ stepPos o p = o) ∨
      (p ≠ o ∧ p ≠ o + 1 ∧ stepPos o p = p) := by
  unfold stepPos
  by_cases h1 : p = o
  · exact .inl ⟨h1, if_pos h1⟩
  · by_cases h2 : p = o + 1
    · exact .inr (.inl ⟨h2, by rw [if_neg h1, if_pos h2]⟩)
    · exact .inr (.inr ⟨h1, h2, by rw [if_neg h1, if_neg h2]⟩)

theorem stepPos_lt {o n p : Nat} (ho : o + 2 ≤ n) (hp : p < n) : stepPos o p < n := by
  rcases stepPos_cases o p with ⟨_, h⟩ | ⟨_, h⟩ | ⟨_, _, h⟩ <;> omega

theorem stepPos_ge {o n p : Nat} (ho : o + 2 ≤ n) (hp : n ≤ p) : stepPos o p = p := by
  rcases stepPos_cases o p with ⟨_, h⟩ | ⟨_, h⟩ | ⟨_, _, h⟩ <;> omega

theorem stepPos_shift (o k p : Nat) :
    stepPos (o + k) p = if p < k then p else stepPos o (p - k) + k := by
  by_cases hp : p < k
  · rw [if_pos hp]
    rcases stepPos_cases (o + k) p with ⟨_, h⟩ | ⟨_, h⟩ | ⟨_, _, h⟩ <;> omega
  · rw [if_neg hp]
    rcases stepPos_cases o (p - k) with ⟨_, h⟩ | ⟨_, h⟩ | ⟨_, _, h⟩ <;>
      rcases stepPos_cases (o + k) p with ⟨_, h'⟩ | ⟨_, h'⟩ | ⟨_, _, h'⟩ <;> omega

/-- Swaps at offsets shifted by `k` leave the first `k` wires alone and act on the others as the
    unshifted swaps do. -/
theorem traceWire_shift (offs : List Nat) (k p : Nat) :
    traceWire (offs.map (· + k)) p = if p < k then p else traceWire offs (p - k) + k := by
  induction offs generalizing p with
  | nil => simp; omega
  | cons o os ih =>
    simp only [List.map_cons, traceWire_cons, ih, stepPos_shift]
    by_cases h : p < k
    · simp [h]
    · simp only [h, if_false]
      have : ¬ (stepPos o (p - k) + k < k) := by omega
      simp [this]

/-- Swaps inside the first `n` wires keep a wire inside / outside the first `n` wires. -/
theorem traceWire_lt {offs : List Nat} {n p : Nat} (h : ∀ o ∈ offs, o + 2 ≤ n) (hp : p < n) :
    traceWire offs p < n := by
  induction offs generalizing p with
  | nil => simpa
  | cons o os ih =>
    simp only [traceWire_cons]
    exact ih (fun o' ho' => h o' (by simp [ho'])) (stepPos_lt (h o (by simp)) hp)

theorem traceWire_ge {offs : List Nat} {n p : Nat} (h : ∀ o ∈ offs, o + 2 ≤ n) (hp : n ≤ p) :
    traceWire offs p = p := by
  induction offs generalizing p with
  | nil => simp
  | cons o os ih =>
    simp only [traceWire_cons]
    rw [stepPos_ge (h o (by simp)) hp]
    exact ih (fun o' ho' => h o' (by simp [ho'])) hp

/-- The staircase `Swap @ offset s, s+1, …, s+n-1` carries wire `s` to `s + n` and moves the `n`
    wires it crosses one step to the left (monoidal.py:507-512). -/
theorem traceWire_range' (s n p : Nat) :
    traceWire (List.range' s n) p =
      if p = s then s + n else if s < p ∧ p ≤ s + n then p - 1 else p := by
  induction n generalizing s p with
  | zero => simp; grind
  | succ n ih =>
    simp only [List.range'_succ, traceWire_cons, ih]
    -- one more swap at `s` in front of the staircase from `s + 1`: the three cases of `stepPos`
    -- against the three of the staircase
    unfold stepPos
    grind

/-- Wire following through `a @ b` when `a`'s swaps live on the first `w` wires. -/
theorem traceWire_tensor {xs ys : List Nat} {w : Nat} (h : ∀ o ∈ xs, o + 2 ≤ w) (p : Nat) :
    traceWire (xs ++ ys.map (· + w)) p =
      if p < w then traceWire xs p else traceWire ys (p - w) + w := by
  rw [traceWire_append, traceWire_shift]
  by_cases hp : p < w
  · have := traceWire_lt h hp
    simp [hp, this]
  · have := traceWire_ge h (Nat.le_of_not_lt hp)
    simp [hp, this]

/-- `swaps`, `len`, `range` are what `wirePerm` asks for; `width` is what lets the next network's
    offsets be read against this one's domain (`Routes.then`). -/
structure Diagram.SwapNet (d : Diagram) : Prop where
  swaps : d.allSwaps = true
  len : d.boxes.length = d.offsets.length
  range : ∀ o ∈ d.offsets, 0 ≤ o ∧ o + 2 ≤ (d.dom.length : Int)
  width : d.cod.length = d.dom.length

theorem Diagram.SwapNet.network {d : Diagram} (h : d.SwapNet) : d.swapNetwork = true := by
  have hr : offsetsInRange d.dom.length d.offsets = true := by
    simp only [offsetsInRange, List.all_eq_true, Bool.and_eq_true, decide_eq_true_eq]
    exact h.range
  simp [Diagram.swapNetwork, h.swaps, h.len, hr]

theorem wirePerm_eq_some {d : Diagram} {w : List Nat} (h : wirePerm d = some w) :
    d.swapNetwork = true ∧ w = (List.range d.dom.length).map (traceWire d.natOffsets) := by
  unfold wirePerm at h
  split at h
  · exact ⟨‹_›, (Option.some.inj h).symm⟩
  · cases h

theorem Diagram.SwapNet.wirePerm_eq {d : Diagram} (h : d.SwapNet) :
    wirePerm d = some ((List.range d.dom.length).map (traceWire d.natOffsets)) := by
  simp [wirePerm, h.network]

theorem Diagram.SwapNet.nat_range {d : Diagram} (h : d.SwapNet) :
    ∀ o ∈ d.natOffsets, o + 2 ≤ d.dom.length := by
  intro o ho
  simp only [Diagram.natOffsets, List.mem_map] at ho
  obtain ⟨z, hz, rfl⟩ := ho
  have := h.range z hz
  omega

theorem Diagram.SwapNet.all_append {a b : Diagram} (sa : a.SwapNet) (sb : b.SwapNet) :
    (a.boxes ++ b.boxes).all Box.isSwap = true := by
  rw [List.all_append, ← Diagram.allSwaps, ← Diagram.allSwaps, sa.swaps, sb.swaps]
  rfl

theorem Diagram.id_swapNet (t : Ty) : (Diagram.id t).SwapNet :=
  ⟨by simp [Diagram.id, Diagram.allSwaps], rfl, by simp [Diagram.id], rfl⟩

@[simp] theorem Diagram.id_natOffsets (t : Ty) : (Diagram.id t).natOffsets = [] := rfl

structure Diagram.Routes (d : Diagram) (s t : Ty) (f : Nat → Nat) : Prop where
  wf : d.WF
  dom : d.dom = s
  cod : d.cod = t
  net : d.SwapNet
  trace : ∀ p, traceWire d.natOffsets p = f p

namespace Diagram.Routes

variable {a b d : Diagram} {s t u s' t' : Ty} {f g : Nat → Nat}

theorem congr (h : d.Routes s t f) (hf : ∀ p, f p = g p) : d.Routes s t g :=
  ⟨h.wf, h.dom, h.cod, h.net, fun p => (h.trace p).trans (hf p)⟩

theorem cast (h : d.Routes s t f) (hs : s = s') (ht : t = t') : d.Routes s' t' f := by
  subst hs ht; exact h

theorem length_eq (h : d.Routes s t f) : t.length = s.length := by
  rw [← h.dom, ← h.cod]; exact h.net.width

theorem lt (h : d.Routes s t f) {p : Nat} (hp : p < s.length) : f p < s.length := by
  rw [← h.trace, ← h.dom] at *; exact traceWire_lt h.net.nat_range hp

theorem ge (h : d.Routes s t f) {p : Nat} (hp : s.length ≤ p) : f p = p := by
  rw [← h.trace]; rw [← h.dom] at hp; exact traceWire_ge h.net.nat_range hp

theorem id (t : Ty) : (Diagram.id t).Routes t t (fun p => p) :=
  ⟨Diagram.id_wf t, rfl, rfl, Diagram.id_swapNet t, fun _ => rfl⟩

theorem «then» (ha : a.Routes s t f) (hb : b.Routes t' u g) (htt : t = t') :
    ∃ d, a.then b = .ok d ∧ d.Routes s u (fun p => g (f p)) := by
  obtain ⟨aw, rfl, rfl, sa, fa⟩ := ha
  obtain ⟨bw, hbd, rfl, sb, fb⟩ := hb
  have hcd : a.cod = b.dom := htt.trans hbd.symm
  obtain ⟨d, h⟩ := (Diagram.then_ok_iff aw bw).mpr hcd
  obtain ⟨dw, dd, dc⟩ := Diagram.then_props aw bw h
  obtain ⟨ls, _, rfl⟩ := Diagram.then_ok h
  have hw : b.dom.length = a.dom.length := by rw [← hcd, sa.width]
  refine ⟨_, h, dw, dd, dc, ⟨?_, ?_, ?_, ?_⟩, fun p => ?_⟩
  · exact sa.all_append sb
  · simp [sa.len, sb.len]
  · intro o ho
    rcases List.mem_append.mp ho with ho | ho
    · exact sa.range o ho
    · exact hw ▸ sb.range o ho
  · exact sb.width.trans hw
  · show traceWire ((a.offsets ++ b.offsets).map Int.toNat) p = _
    rw [List.map_append, traceWire_append]
    exact (congrArg _ (fa p)).trans (fb _)

theorem tensor (ha : a.Routes s t f) (hb : b.Routes s' t' g) :
    ∃ d, a.tensor b = .ok d ∧ d.Routes (s ++ s') (t ++ t')
      (fun p => if p < s.length then f p else g (p - s.length) + s.length) := by
  obtain ⟨aw, rfl, rfl, sa, fa⟩ := ha
  obtain ⟨bw, rfl, rfl, sb, fb⟩ := hb
  have h := Diagram.tensor_spec aw bw
  have hnat : (a.offsets ++ b.offsets.map (· + (a.cod.length : Int))).map Int.toNat
      = a.natOffsets ++ b.natOffsets.map (· + a.dom.length) := by
    simp only [Diagram.natOffsets, List.map_append, List.map_map]
    congr 1
    apply List.map_congr_left
    intro o ho
    rw [sa.width]
    exact Int.toNat_add_nat (sb.range o ho).1 _
  refine ⟨_, h, (Diagram.tensor_props aw bw h).1, rfl, rfl, ⟨?_, ?_, ?_, ?_⟩, fun p => ?_⟩
  · exact sa.all_append sb
  · simp [sa.len, sb.len]
  · intro o ho
    simp only [List.mem_append, List.mem_map] at ho
    simp only [List.length_append]
    rcases ho with ho | ⟨z, hz, rfl⟩
    · have := sa.range o ho; omega
    · have := sb.range z hz
      have := sa.width
      omega
  · simp [sa.width, sb.width]
  · show traceWire ((a.offsets ++ b.offsets.map (· + (a.cod.length : Int))).map Int.toNat) p = _
    rw [hnat, traceWire_tensor sa.nat_range p]
    simp only [fa, fb]

theorem id_tensor (A : Ty) (hb : b.Routes s t g) :
    ∃ d, (Diagram.id A).tensor b = .ok d ∧ d.Routes (A ++ s) (A ++ t)
      (fun p => if p < A.length then p else g (p - A.length) + A.length) :=
  (Routes.id A).tensor hb

theorem tensor_id (ha : a.Routes s t f) (C : Ty) :
    ∃ d, a.tensor (Diagram.id C) = .ok d ∧ d.Routes (s ++ C) (t ++ C) f := by
  obtain ⟨d, h, r⟩ := ha.tensor (Routes.id C)
  refine ⟨d, h, r.congr fun p => ?_⟩
  by_cases hp : p < s.length
  · exact if_pos hp
  · rw [if_neg hp, ha.ge (Nat.le_of_not_lt hp)]; omega

end Diagram.Routes

/-! ### The scanning constructor succeeds on every explicit chain of layers -/

theorem scanLayers_ok {ls : LArrow} {layers : List Layer} {c : Ty} (h : Chain ls.cod layers c) :
    scanLayers ls (layers.map (·.box)) (layers.map (fun l => (l.left.length : Int)))
      = .ok ⟨ls.dom, c, ls.boxes ++ layers⟩ := by
  induction layers generalizing ls with
  | nil =>
    simp only [Chain] at h
    cases ls; simp_all [scanLayers]
  | cons x xs ih =>
    obtain ⟨h1, h2⟩ := h
    have hl : pySlice ls.cod none (some (x.left.length : Int)) = x.left := by
      rw [pySlice_take, h1]; simp [Layer.dom]
    have hr : pySlice ls.cod (some ((x.left.length : Int) + (x.box.dom.length : Int))) none
        = x.right := by
      have : ((x.left.length : Int) + (x.box.dom.length : Int))
          = ((x.left.length + x.box.dom.length : Nat) : Int) := by omega
      rw [this, pySlice_drop, h1]
      simp only [Layer.dom, List.append_assoc]
      rw [← List.append_assoc, List.drop_left' (by simp)]
    have hx : (⟨x.left, x.box, x.right⟩ : Layer) = x := rfl
    have hthen : ls.thenLayer x = .ok ⟨ls.dom, x.cod, ls.boxes ++ [x]⟩ := by
      simp [LArrow.thenLayer, LArrow.then, Layer.arrow, h1]
    simp only [List.map_cons, scanLayers, hl, hr, hx, hthen, ne_eq, not_true_eq_false, if_false]
    have := ih (ls := ⟨ls.dom, x.cod, ls.boxes ++ [x]⟩) h2
    simpa using this

theorem Diagram.mk?_of_layers {dom cod : Ty} {layers : List Layer} (h : Chain dom layers cod) :
    Diagram.mk? dom cod (layers.map (·.box)) (layers.map (fun l => (l.left.length : Int)))
      = .ok ⟨dom, cod, layers.map (·.box), layers.map (fun l => (l.left.length : Int)),
          ⟨dom, cod, layers⟩⟩ := by
  have := scanLayers_ok (ls := LArrow.id dom) (layers := layers) (c := cod) h
  simp only [LArrow.id, List.nil_append] at this
  simp [Diagram.mk?, this, LArrow.then, LArrow.id]

/-! ### `swap` of one wire past a type: the staircase of monoidal.py:507-512 -/

/-- The layers of `swap(Ty(l), right)` standing to the right of `pre`. -/
def swapLayers (l : Ob) : Ty → Ty → List Layer
  | _, [] => []
  | pre, r :: rs => ⟨pre, Box.swap l r, rs⟩ :: swapLayers l (pre ++ [r]) rs

theorem swapLayers_chain (l : Ob) (pre right : Ty) :
    Chain (pre ++ [l] ++ right) (swapLayers l pre right) (pre ++ right ++ [l]) := by
  induction right generalizing pre with
  | nil => simp [swapLayers, Chain]
  | cons r rs ih =>
    refine ⟨by simp [Layer.dom, Box.swap], ?_⟩
    have := ih (pre ++ [r])
    simpa [Layer.cod, Box.swap] using this

theorem swapLayers_boxes (l : Ob) (pre right : Ty) :
    (swapLayers l pre right).map (·.box) = right.map (fun r => Box.swap l r) := by
  induction right generalizing pre with
  | nil => rfl
  | cons r rs ih => simp [swapLayers, ih]

theorem swapLayers_offsets (l : Ob) (pre right : Ty) :
    (swapLayers l pre right).map (fun x => (x.left.length : Int))
      = (List.range' pre.length right.length).map (fun (n : Nat) => (n : Int)) := by
  induction right generalizing pre with
  | nil => rfl
  | cons r rs ih => simp [swapLayers, ih, List.range'_succ]

theorem Box.isSwap_swap (l r : Ob) : (Box.swap l r).isSwap = true := by
  simp [Box.isSwap, Box.swap]

/-- `swap(Ty(l), right)`: never refused; the wire `0` goes to position `len(right)`, the wires of
    `right` move one step to the left. -/
theorem swapOne_routes (l : Ob) (right : Ty) :
    ∃ d, swapOne l right = .ok d ∧
      d.Routes ([l] ++ right) (right ++ [l]) (blockExch 1 right.length) := by
  have hm := Diagram.mk?_of_layers (swapLayers_chain l [] right)
  rw [swapLayers_boxes, swapLayers_offsets, List.length_nil, ← List.range_eq_range'] at hm
  refine ⟨_, hm, (Diagram.mk?_ok hm).1, rfl, rfl, ⟨?_, ?_, ?_, ?_⟩, fun p => ?_⟩
  · simp [Diagram.allSwaps, Box.isSwap_swap]
  · simp
  · intro o ho
    simp only [List.mem_map, List.mem_range] at ho
    obtain ⟨k, hk, rfl⟩ := ho
    simp only [List.nil_append, List.length_append, List.length_cons, List.length_nil]
    omega
  · simp
  · have hn : ((List.range right.length).map (fun (n : Nat) => (n : Int))).map Int.toNat
        = List.range' 0 right.length := by
      rw [List.map_map, List.range_eq_range']
      exact (List.map_congr_left fun n _ => Int.toNat_natCast n).trans (List.map_id _)
    show traceWire (((List.range right.length).map (fun (n : Nat) => (n : Int))).map Int.toNat) p = _
    rw [hn, traceWire_range']
    -- the staircase from offset 0, case by case, is the exchange of one wire with `right`
    unfold blockExch
    grind

/-! ### `Diagram.swap`: the block exchange, by induction on `left` (monoidal.py:505-514) -/

theorem blockExch_zero (b p : Nat) : blockExch 0 b p = p := by
  unfold blockExch; grind

/-- Exchanging `n + 1` wires with `m`: exchange the last `n` of them with the `m` (to the right of
    the first wire), then carry the first wire across the `m`. -/
theorem blockExch_succ (n m p : Nat) :
    blockExch 1 m (if p < 1 then p else blockExch n m (p - 1) + 1) = blockExch (n + 1) m p := by
  -- `p = 0`; `0 < p ≤ n`; `n < p ≤ n + m`; `n + m < p`: linear arithmetic in each case
  unfold blockExch; grind

theorem Diagram.swap_routes (left right : Ty) :
    ∃ d, Diagram.swap left right = .ok d ∧
      d.Routes (left ++ right) (right ++ left) (blockExch left.length right.length) := by
  induction left with
  | nil =>
    exact ⟨_, rfl, ((Routes.id right).cast rfl (List.append_nil _).symm).congr
      fun p => (blockExch_zero _ p).symm⟩
  | cons l ls ih =>
    cases ls with
    | nil => exact swapOne_routes l right
    | cons l2 ls =>
      obtain ⟨rest, hrest, rr⟩ := ih
      obtain ⟨s1, hs1, r1⟩ := swapOne_routes l right
      obtain ⟨top, htop, rt⟩ := rr.id_tensor [l]
      obtain ⟨bot, hbot, rb⟩ := r1.tensor_id (l2 :: ls)
      obtain ⟨d, hd, rd⟩ := rt.then rb (by simp)
      refine ⟨d, ?_, (rd.cast rfl (by simp)).congr (blockExch_succ _ _)⟩
      simp only [Diagram.swap, hrest, htop, hs1, hbot, hd]

theorem Diagram.swap_spec (left right : Ty) :
    ∃ d, Diagram.swap left right = .ok d ∧ d.WF ∧ d.dom = left ++ right ∧ d.cod = right ++ left ∧
      d.SwapNet ∧ ∀ p, traceWire d.natOffsets p = blockExch left.length right.length p := by
  obtain ⟨d, hd, r⟩ := Diagram.swap_routes left right
  exact ⟨d, hd, r.wf, r.dom, r.cod, r.net, r.trace⟩

theorem blockExch_list (a b : Nat) :
    (List.range (a + b)).map (blockExch a b) = List.range' b a ++ List.range b := by
  apply List.ext_getElem
  · simp
  · intro q h1 h2
    simp only [List.length_map, List.length_range] at h1
    simp only [List.getElem_map, List.getElem_range, List.getElem_append, List.length_range',
      List.getElem_range']
    unfold blockExch
    grind

/-- `Diagram.swap` in terms of the public observation `wirePerm`: the wires of `left` arrive, in
    order, at positions `len(right) …`, those of `right` at positions `0 …`. -/
theorem Diagram.swap_wirePerm (left right : Ty) :
    ∃ d, Diagram.swap left right = .ok d ∧ d.WF ∧ d.dom = left ++ right ∧ d.cod = right ++ left ∧
      d.allSwaps = true ∧
      wirePerm d = some (List.range' right.length left.length ++ List.range right.length) := by
  obtain ⟨d, hd, w, dd, dc, s, f⟩ := Diagram.swap_spec left right
  refine ⟨d, hd, w, dd, dc, s.swaps, ?_⟩
  rw [s.wirePerm_eq, dd, List.length_append, ← blockExch_list]
  congr 1
  apply List.map_congr_left
  intro p _; exact f p

/-! ### Wires carry their types: in any well-typed swap network `cod[follow p] = dom[p]` -/

/-- Moving the wire at position `j` to position `i ≤ j`: the wires in between move one step to the
    right, the others stay.  It is the exchange of the block `[i, j)` with the single wire `j`,
    shifted by `i` (one round of the loop of `permutation`, see `permLayer_routes`). -/
def insertPos (i j p : Nat) : Nat := if p < i then p else blockExch (j - i) 1 (p - i) + i

theorem blockExch_getElem? {α} (X Y C : List α) (p : Nat) :
    (Y ++ X ++ C)[blockExch X.length Y.length p]? = (X ++ Y ++ C)[p]? := by
  unfold blockExch
  by_cases h1 : p < X.length
  · rw [if_pos h1, List.append_assoc, List.append_assoc,
      List.getElem?_append_right (Nat.le_add_right _ _), Nat.add_sub_cancel_left,
      List.getElem?_append_left h1, List.getElem?_append_left h1]
  · rw [if_neg h1]
    by_cases h2 : p < X.length + Y.length
    · rw [if_pos h2, List.append_assoc, List.append_assoc,
        List.getElem?_append_left (by omega), List.getElem?_append_right (by omega),
        List.getElem?_append_left (by omega)]
    · rw [if_neg h2, List.getElem?_append_right (by rw [List.length_append]; omega),
        List.getElem?_append_right (by rw [List.length_append]; omega),
        List.length_append, List.length_append, Nat.add_comm]

theorem move_getElem? {α} (A M C : List α) (x : α) (p : Nat) :
    (A ++ [x] ++ M ++ C)[insertPos A.length (A.length + M.length) p]? = (A ++ M ++ [x] ++ C)[p]? := by
  unfold insertPos
  have e1 : A ++ [x] ++ M ++ C = A ++ ([x] ++ M ++ C) := by simp only [List.append_assoc]
  have e2 : A ++ M ++ [x] ++ C = A ++ (M ++ [x] ++ C) := by simp only [List.append_assoc]
  rw [e1, e2]
  by_cases h : p < A.length
  · rw [if_pos h, List.getElem?_append_left h, List.getElem?_append_left h]
  · rw [if_neg h, Nat.add_sub_cancel_left, List.getElem?_append_right (Nat.le_add_left _ _),
      Nat.add_sub_cancel, List.getElem?_append_right (Nat.le_of_not_lt h)]
    exact blockExch_getElem? M [x] C (p - A.length)

theorem stepPos_eq_insertPos (o p : Nat) : stepPos o p = insertPos o (o + 1) p := by
  unfold stepPos insertPos blockExch; grind

theorem swap_getElem? {α} (L R : List α) (a b : α) (p : Nat) :
    (L ++ [b, a] ++ R)[stepPos L.length p]? = (L ++ [a, b] ++ R)[p]? := by
  have : (L ++ [b] ++ [a] ++ R)[insertPos L.length (L.length + 1) p]? = (L ++ [a] ++ [b] ++ R)[p]? :=
    move_getElem? L [a] R b p
  rwa [← stepPos_eq_insertPos, List.append_assoc L [b] [a], List.append_assoc L [a] [b]] at this

theorem Box.isSwap_dom_cod {b : Box} (h : b.isSwap = true) :
    ∃ l r, b.dom = [l, r] ∧ b.cod = [r, l] := by
  unfold Box.isSwap at h
  split at h
  · rename_i l r hd
    have : b = Box.swap l r := by simpa using h
    exact ⟨l, r, hd, by rw [this]; rfl⟩
  · cases h

theorem chain_follow {s c : Ty} {layers : List Layer} (h : Chain s layers c)
    (hs : ∀ x ∈ layers, x.box.isSwap = true) (p : Nat) :
    c[traceWire (layers.map (·.left.length)) p]? = s[p]? := by
  induction layers generalizing s p with
  | nil => simp only [Chain] at h; simp [h]
  | cons x xs ih =>
    obtain ⟨h1, h2⟩ := h
    obtain ⟨l, r, hd, hc⟩ := Box.isSwap_dom_cod (hs x (by simp))
    simp only [List.map_cons, traceWire_cons]
    rw [ih h2 (fun y hy => hs y (by simp [hy])), h1]
    simp only [Layer.cod, Layer.dom, hd, hc]
    exact swap_getElem? x.left x.right l r p

/-- The wire that enters a well-typed swap network at position `p` leaves it with the same
    type at position `traceWire … p`. -/
theorem Diagram.wire_types {d : Diagram} (hw : d.WF) (hs : d.allSwaps = true) (p : Nat) :
    d.cod[traceWire d.natOffsets p]? = d.dom[p]? := by
  have hn : d.natOffsets = d.layers.boxes.map (·.left.length) := by
    simp [Diagram.natOffsets, hw.offsets, Function.comp_def]
  have hb : ∀ x ∈ d.layers.boxes, x.box.isSwap = true := by
    intro x hx
    have := hs
    simp only [Diagram.allSwaps, hw.boxes, List.all_map, List.all_eq_true] at this
    exact this x hx
  have hc : Chain d.dom d.layers.boxes d.cod := by
    have := hw.chain
    rwa [LArrow.WF, hw.ldom, hw.lcod] at this
  rw [hn]; exact chain_follow hc hb p

/-! ### One round of the permutation loop -/

theorem move_perm {α} (A M C : List α) (x : α) :
    (A ++ [x] ++ M ++ C).Perm (A ++ M ++ [x] ++ C) := by
  simp only [List.append_assoc]
  exact (List.perm_append_comm_assoc [x] M C).append_left A

theorem split_at {α} (xs : List α) (i j : Nat) (hij : i ≤ j) (hj : j < xs.length) :
    xs = xs.take i ++ (xs.drop i).take (j - i) ++ [xs[j]] ++ xs.drop (j+1) := by
  have h2 : (xs.drop i).drop (j - i) = xs.drop j := by
    rw [List.drop_drop]; congr 1; omega
  have h3 : xs.drop j = xs[j] :: xs.drop (j+1) := List.drop_eq_getElem_cons hj
  have h4 : xs.drop i = (xs.drop i).take (j - i) ++ ([xs[j]] ++ xs.drop (j+1)) := by
    conv => lhs; rw [← List.take_append_drop (j - i) (xs.drop i), h2, h3]
    simp
  conv => lhs; rw [← List.take_append_drop i xs, h4]
  simp

theorem isPermList_iff (π : List Int) : isPermList π = true ↔
    (∀ x ∈ π, 0 ≤ x ∧ x < (π.length : Int)) ∧ (∀ k, k < π.length → (k : Int) ∈ π) := by
  simp [isPermList, List.all_eq_true, List.mem_range]

/-- The validity test only looks at the length and at which entries occur. -/
theorem isPermList_of_perm {π ρ : List Int} (h : π.Perm ρ) (hπ : isPermList π = true) :
    isPermList ρ = true := by
  rw [isPermList_iff] at hπ ⊢
  rw [← h.length_eq]
  exact ⟨fun x hx => hπ.1 x (h.mem_iff.mpr hx), fun k hk => h.mem_iff.mp (hπ.2 k hk)⟩

theorem indexOf?_some {π : List Int} {i : Int} (h : i ∈ π) :
    ∃ j, indexOf? π i = some j ∧ ∃ hj : j < π.length, π[j] = i ∧ ∀ k, (hk : k < j) → π[k] ≠ i := by
  have hex : ∃ x ∈ π, (x == i) = true := ⟨i, h, by simp⟩
  have hlt := List.findIdx_lt_length_of_exists hex
  refine ⟨π.findIdx (· == i), by simp [indexOf?, hlt], hlt, ?_, ?_⟩
  · have := List.findIdx_getElem (w := hlt)
    simpa using this
  · intro k hk
    have := List.not_of_lt_findIdx hk
    simpa using this

theorem pySlice_mid {α} (xs : List α) (i j : Nat) (hij : i ≤ j) (hj : j ≤ xs.length) :
    pySlice xs (some (i : Int)) (some (j : Int)) = (xs.drop i).take (j - i) := by
  simp only [pySlice, pyLo, pyHi, pyIdx_nat]
  rw [Nat.min_eq_left (show i ≤ xs.length by omega), Nat.min_eq_left hj]

/-- The list update `perm'` of one round (monoidal.py:547), `perm[j] = i` being moved to position
    `i`: a rearrangement of `perm` with one more position in place, which reads at
    `insertPos i j q` what `perm` reads at `q`. -/
theorem perm_step {perm perm' : List Int} {i j : Nat} (hij : i ≤ j) (hj : j < perm.length)
    (hpj : perm[j] = (i : Int)) (hfix : ∀ k, k < i → perm[k]? = some (k : Int))
    (h' : perm' = pySlice perm none (some (i : Int)) ++ [(i : Int)]
      ++ pySlice perm (some (i : Int)) (some (j : Int))
      ++ pySlice perm (some ((j + 1 : Nat) : Int)) none) :
    perm'.Perm perm ∧ (∀ k, k < i + 1 → perm'[k]? = some (k : Int)) ∧
    ∀ q, perm'[insertPos i j q]? = perm[q]? := by
  rw [pySlice_take, pySlice_mid perm i j hij (by omega), pySlice_drop] at h'
  subst h'
  have hs := split_at perm i j hij hj
  rw [hpj] at hs
  have hi : i ≤ perm.length := Nat.le_trans hij (Nat.le_of_lt hj)
  have hA : (perm.take i).length = i := List.length_take_of_le hi
  have hM : (perm.take i).length + ((perm.drop i).take (j - i)).length = j := by
    rw [hA, List.length_take_of_le, Nat.add_sub_cancel' hij]
    rw [List.length_drop]
    exact Nat.sub_le_sub_right (Nat.le_of_lt hj) i
  refine ⟨?_, fun k hk => ?_, fun q => ?_⟩
  · conv => rhs; rw [hs]
    exact move_perm _ _ _ _
  · rw [List.append_assoc, List.append_assoc]
    by_cases hki : k < i
    · rw [List.getElem?_append_left (hA.symm ▸ hki), List.getElem?_take_of_lt hki]
      exact hfix k hki
    · obtain rfl : k = i := Nat.le_antisymm (Nat.le_of_lt_succ hk) (Nat.le_of_not_lt hki)
      rw [List.getElem?_append_right (Nat.le_of_eq hA), hA, Nat.sub_self]
      rfl
  · have := move_getElem? (perm.take i) ((perm.drop i).take (j - i)) (perm.drop (j + 1)) (i : Int) q
    rwa [hM, hA, ← hs] at this

/-- The layer built by one round of the loop (monoidal.py:544-546): the wire at `j` is carried
    to position `i` across the block `cod[i:j]`. -/
theorem permLayer_routes (c : Ty) (i j : Nat) (hij : i ≤ j) (hj : j < c.length) :
    ∃ s x layer t,
      Diagram.swap (pySlice c (some (i : Int)) (some (j : Int)))
        (pySlice c (some (j : Int)) (some ((j + 1 : Nat) : Int))) = .ok s ∧
      (Diagram.id (pySlice c none (some (i : Int)))).tensor s = .ok x ∧
      x.tensor (Diagram.id (pySlice c (some ((j + 1 : Nat) : Int)) none)) = .ok layer ∧
      layer.Routes c t (insertPos i j) := by
  have hX : (c.drop j).take (j + 1 - j) = [c[j]] := by
    rw [Nat.add_sub_cancel_left, List.drop_eq_getElem_cons hj]
    rfl
  rw [pySlice_mid c i j hij (by omega), pySlice_mid c j (j + 1) (by omega) (by omega), hX,
    pySlice_take, pySlice_drop]
  have hMl : ((c.drop i).take (j - i)).length = j - i :=
    List.length_take_of_le (by rw [List.length_drop]; omega)
  have hAl : (c.take i).length = i := List.length_take_of_le (by omega)
  obtain ⟨s, hs, rs⟩ := Diagram.swap_routes ((c.drop i).take (j - i)) [c[j]]
  obtain ⟨x, hx, rx⟩ := rs.id_tensor (c.take i)
  obtain ⟨layer, hl, rl⟩ := rx.tensor_id (c.drop (j + 1))
  refine ⟨s, x, layer, _, hs, hx, hl, (rl.cast ?_ rfl).congr fun p => ?_⟩
  · rw [← List.append_assoc]
    exact (split_at c i j hij hj).symm
  -- `Routes.id_tensor` builds `fun p => if p < i then p else blockExch (j - i) 1 (p - i) + i`,
  -- which is `insertPos i j` by definition
  · rw [hAl, hMl]
    rfl

/-- Invariant of the `for` loop of `permutation` (monoidal.py:542-547, inside 516-548).  Entering
    round `i` with the current list `perm` (`perm[k] = k` for the `i` positions already placed) and
    the diagram `d` built so far, the loop
    runs to completion and the finished diagram sends the wire that `d` leaves at position `q`
    to position `perm[q]`. -/
theorem permLoop_spec (n i : Nat) (perm : List Int) (d : Diagram) {s t : Ty} {f : Nat → Nat}
    (hd : d.Routes s t f) (hlen : perm.length = i + n) (hc : t.length = perm.length)
    (hperm : isPermList perm = true) (hfix : ∀ k, k < i → perm[k]? = some (k : Int)) :
    ∃ d' t' f', permLoop n i perm d = .ok d' ∧ d'.Routes s t' f' ∧
      ∀ p, p < perm.length → perm[f p]? = some (f' p : Int) := by
  induction n generalizing i perm d t f with
  | zero =>
    refine ⟨d, t, f, rfl, hd, fun p hp => hfix _ ?_⟩
    have := hd.lt (p := p) (by rw [← hd.length_eq, hc]; exact hp)
    rw [← hd.length_eq, hc] at this
    omega
  | succ n ih =>
    have hi : i < perm.length := by omega
    have hmem : (i : Int) ∈ perm := ((isPermList_iff perm).mp hperm).2 i hi
    obtain ⟨j, hidx, hj, hpj, hmin⟩ := indexOf?_some hmem
    have hij : i ≤ j := by
      apply Nat.le_of_not_lt
      intro hlt
      have h1 := hfix j hlt
      rw [List.getElem?_eq_getElem hj, hpj] at h1
      simp at h1; omega
    obtain ⟨sw, x, layer, t1, hs, hx, hl, rl⟩ := permLayer_routes t i j hij (by omega)
    obtain ⟨d1, hd1, r1⟩ := hd.then rl rfl
    obtain ⟨pp, pfix, pget⟩ := perm_step hij hj hpj hfix rfl
    have plen := pp.length_eq
    obtain ⟨d', t', f', hd', r', h'⟩ := ih (i + 1) _ d1 r1 (by rw [plen]; omega)
      (by rw [plen, rl.length_eq, hc]) (isPermList_of_perm pp.symm hperm) pfix
    refine ⟨d', t', f', ?_, r', fun p hp => ?_⟩
    · simp only [permLoop, hidx, hd.cod, hs, hx, hl, hd1]
      exact hd'
    · have := h' p (by rw [plen]; exact hp)
      rwa [pget] at this

/-! ### `Diagram.permutation` -/

/-- For a permutation of the right length the call succeeds, is well-typed with the requested
    domain, is an adjacent-swap network, and sends the wire at input position `q` to `perm[q]`. -/
theorem Diagram.permutation_spec (perm : List Int) (dom : Ty) (hperm : isPermList perm = true)
    (hlen : dom.length = perm.length) :
    ∃ d, Diagram.permutation perm dom = .ok d ∧ d.WF ∧ d.dom = dom ∧ d.SwapNet ∧
      ∀ q, q < perm.length → perm[q]? = some (traceWire d.natOffsets q : Int) := by
  obtain ⟨d, t, f, hd, r, h⟩ := permLoop_spec dom.length 0 perm (Diagram.id dom)
    (Routes.id dom) (by omega) hlen hperm (by intro k hk; omega)
  refine ⟨d, ?_, r.wf, r.dom, r.net, fun q hq => ?_⟩
  · rw [hlen] at hd
    simp [Diagram.permutation, hperm, hlen, hd]
  · rw [r.trace]; exact h q hq

theorem Diagram.permutation_wirePerm (perm : List Int) (dom : Ty) (hperm : isPermList perm = true)
    (hlen : dom.length = perm.length) :
    ∃ d, Diagram.permutation perm dom = .ok d ∧ d.WF ∧ d.dom = dom ∧ d.allSwaps = true ∧
      wirePerm d = some (perm.map Int.toNat) ∧
      ∀ q, (hq : q < perm.length) → d.cod[(perm[q]).toNat]? = dom[q]? := by
  obtain ⟨d, hd, w, dd, s, f⟩ := Diagram.permutation_spec perm dom hperm hlen
  have hf : ∀ q, (hq : q < perm.length) → (perm[q]).toNat = traceWire d.natOffsets q := by
    intro q hq
    have := f q hq
    rw [List.getElem?_eq_getElem hq] at this
    simp only [Option.some.injEq] at this
    rw [this]; simp
  refine ⟨d, hd, w, dd, s.swaps, ?_, ?_⟩
  · rw [s.wirePerm_eq, dd, hlen]
    congr 1
    apply List.ext_getElem
    · simp
    · intro q h1 h2
      simp only [List.length_map, List.length_range] at h1
      simp [hf q h1]
  · intro q hq
    rw [hf q hq, Diagram.wire_types w s.swaps, dd]

/-- Refusal: exactly the non-permutations and the length mismatches get `ValueError`. -/
theorem Diagram.permutation_refuses (perm : List Int) (dom : Ty) :
    Diagram.permutation perm dom = .error .value ↔
      (isPermList perm = false ∨ dom.length ≠ perm.length) := by
  constructor
  · intro h
    by_cases hp : isPermList perm = true
    · by_cases hl : dom.length = perm.length
      · obtain ⟨d, hd, _⟩ := Diagram.permutation_spec perm dom hp hl
        rw [hd] at h; cases h
      · exact Or.inr hl
    · exact Or.inl (by simpa using hp)
  · rintro (h | h)
    · simp [Diagram.permutation, h]
    · simp [Diagram.permutation, h]

/-! ### `Diagram.permute`, monoidal.py:550-564 -/

/-- On a well-typed diagram whose codomain equals its domain, `d.permute(*perm)` appends the
    permutation network: the wire leaving `d` at output position `q` ends at `perm[q]`. -/
theorem Diagram.permute_spec (d : Diagram) (perm : List Int) (hd : d.WF) (hdc : d.cod = d.dom)
    (hperm : isPermList perm = true) (hlen : d.dom.length = perm.length) :
    ∃ s d', Diagram.permutation perm d.dom = .ok s ∧ d.permute perm = .ok d' ∧ d'.WF ∧
      d'.dom = d.dom ∧ d'.boxes = d.boxes ++ s.boxes ∧ d'.offsets = d.offsets ++ s.offsets ∧
      wirePerm s = some (perm.map Int.toNat) ∧
      ∀ q, (hq : q < perm.length) → d'.cod[(perm[q]).toNat]? = d.cod[q]? := by
  obtain ⟨s, hs, sw, sd, _, swp, sc⟩ := Diagram.permutation_wirePerm perm d.dom hperm hlen
  obtain ⟨d', hd'⟩ := (Diagram.then_ok_iff hd sw).mpr (by rw [hdc, sd])
  obtain ⟨w', dd', dc'⟩ := Diagram.then_props hd sw hd'
  obtain ⟨ls, _, rfl⟩ := Diagram.then_ok hd'
  refine ⟨s, _, hs, by simp [Diagram.permute, hs, hd'], w', rfl, rfl, rfl, swp, ?_⟩
  intro q hq
  rw [hdc]; exact sc q hq

end DV
