/-
  Proofs/UnsnakeLoop.lean — C07: around the loops of `snake_removal`, beside its totality
  (`snakeLoop_spec`, Proofs/UnsnakeSound.lean): what `moveObstructions` preserves on a well-typed
  diagram whatever the obstruction lists are; for any fuel, how the loop ends (`snakeLoop_result`:
  snake-free, or after exactly `fuel` rounds `find_snake; unsnake`, `SnakeRounds`); each round of a
  well-typed diagram with well-shaped cups and caps removes two boxes; the final `normalize`
  never raises.
-/
import Proofs.UnsnakeSound
import Proofs.NormalizeCycle

namespace DV

/-- The obstruction-moving loop only permutes the boxes, yields one diagram per obstruction and
    moves the target by `dt` each time. -/
theorem moveObstructions_spec {bump : Nat → Nat → Nat} {dt : Int} (obs : List Nat) :
    ∀ {d d1 : Diagram} {t t1 : Int} {ro ro1 : List Nat} {acc acc1 : List Diagram}, d.WF →
    moveObstructions bump dt obs d t ro acc = .ok (d1, t1, ro1, acc1) →
    d1.WF ∧ d1.dom = d.dom ∧ d1.cod = d.cod ∧ d1.boxes.Perm d.boxes ∧
      d1.boxes.length = d.boxes.length ∧ t1 = t + dt * obs.length ∧ ro1.length = ro.length ∧
      ∃ new, acc1 = acc ++ new ∧ new.length = obs.length := by
  induction obs with
  | nil =>
    intro d d1 t t1 ro ro1 acc acc1 hd h
    simp only [moveObstructions, Except.ok.injEq, Prod.mk.injEq] at h
    obtain ⟨rfl, rfl, rfl, rfl⟩ := h
    exact ⟨hd, rfl, rfl, List.Perm.refl _, rfl, by simp, rfl, [], by simp, rfl⟩
  | cons box rest ih =>
    intro d d1 t t1 ro ro1 acc acc1 hd h
    simp only [moveObstructions] at h
    split at h
    · cases h
    · rename_i d' hd'
      obtain ⟨w, a, b⟩ := Diagram.interchange_wf hd hd'
      have hp := Diagram.interchange_perm hd hd'
      obtain ⟨w1, a1, b1, p1, l1, ht, hr, new, hacc, hnew⟩ := ih w h
      refine ⟨w1, a1.trans a, b1.trans b, p1.trans hp, l1.trans hp.length_eq, ?_, ?_, d' :: new,
        by rw [hacc]; simp, by simp [hnew]⟩
      · rw [ht]; simp only [List.length_cons]; push_cast
        rw [Int.mul_add]; omega
      · rw [hr]; simp

/-- `n` full rounds `find_snake; unsnake` lead from `d` to `d1`. -/
inductive SnakeRounds : Nat → Diagram → Diagram → Prop
  | zero (d) : SnakeRounds 0 d d
  | succ {n d y steps d1} : d.findSnake = some y → d.unsnake y = .ok steps →
      SnakeRounds n (lastOr d steps) d1 → SnakeRounds (n+1) d d1

/-- The trace only grows, its last element is the returned diagram, and the loop stops either
    because no snake is left or because all `fuel` rounds were used. -/
theorem snakeLoop_result (fuel : Nat) (d d1 : Diagram) (acc acc1 : List Diagram)
    (h : snakeLoop fuel d acc = .ok (d1, acc1)) :
    ∃ steps, acc1 = acc ++ steps ∧ lastOr d steps = d1 ∧
      (d1.findSnake = none ∨ SnakeRounds fuel d d1) := by
  induction fuel generalizing d acc with
  | zero =>
    simp only [snakeLoop, Except.ok.injEq, Prod.mk.injEq] at h
    obtain ⟨rfl, rfl⟩ := h
    exact ⟨[], by simp, rfl, Or.inr (SnakeRounds.zero _)⟩
  | succ fuel ih =>
    simp only [snakeLoop] at h
    split at h
    · rename_i hf
      simp only [Except.ok.injEq, Prod.mk.injEq] at h
      obtain ⟨rfl, rfl⟩ := h
      exact ⟨[], by simp, rfl, Or.inl hf⟩
    · rename_i y hf
      split at h
      · cases h
      · rename_i steps hu
        obtain ⟨steps2, e1, e2, e3⟩ := ih _ _ h
        refine ⟨steps ++ steps2, by rw [e1]; simp, by rw [lastOr_append, e2], ?_⟩
        rcases e3 with e3 | e3
        · exact Or.inl e3
        · exact Or.inr (SnakeRounds.succ hf hu e3)

/-- Each round removes two boxes, so `len + 1` rounds are never used up. -/
theorem SnakeRounds.length {n : Nat} {d d1 : Diagram} (hd : d.WF) (hv : d.boxesValid)
    (h : SnakeRounds n d d1) : d1.boxes.length + 2 * n = d.boxes.length := by
  induction h with
  | zero d => simp
  | succ hf hu _ ih =>
    obtain ⟨steps', hu', hch, hlen⟩ := unsnake_ok hd hv hf
    rw [hu] at hu'
    cases hu'
    obtain ⟨w, v⟩ := StepChain.last_ok hd hv hch
    have := ih w v
    omega

/-! ### The final `normalize` never raises either -/

theorem normalizePass_total {left : Bool} (n : Nat) : ∀ {i : Nat} {d : Diagram} {acc : List Diagram},
    d.WF → ∃ r, normalizePass left n i d acc = .ok r := by
  induction n with
  | zero => intro i d acc _; exact ⟨_, rfl⟩
  | succ n ih =>
    intro i d acc hd
    simp only [normalizePass]
    split
    · rename_i hr
      obtain ⟨d', hd'⟩ := Diagram.redex_interchange hd hr
      have hd'' : d.interchange (i : Int) ((i : Int) + 1) left = .ok d' := hd'
      simp only [hd'']
      exact ih (Diagram.interchange_wf hd hd').1
    · exact ih hd

theorem normalizeTrace_total {left : Bool} (fuel : Nat) : ∀ {d : Diagram} {acc : List Diagram},
    d.WF → ∃ r, normalizeTrace left fuel d acc = .ok r := by
  induction fuel with
  | zero => intro d acc _; exact ⟨_, rfl⟩
  | succ fuel ih =>
    intro d acc hd
    simp only [normalizeTrace]
    obtain ⟨⟨d', steps⟩, hp⟩ := normalizePass_total (left := left) (d.boxes.length - 1) (i := 0)
      (acc := []) hd
    simp only [hp]
    split
    · exact ⟨_, rfl⟩
    · exact ih (normalizePass_wf hd (by simp) hp).1.1

end DV
