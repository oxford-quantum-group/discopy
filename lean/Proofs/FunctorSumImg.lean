/-
  Proofs/FunctorSumImg.lean — C04 for box maps with formal sums among their images
  (`FunctorS.applyS`, Model/FunctorSumImg.lean): typing, `F(Id) = Id`, and the image of a composite /
  tensor is the composite / tensor of the images with the library's own `>>`, `@` on sums — i.e. the
  sum over all choices of one term per box, the earlier box varying slowest.
-/
import Proofs.DSLaws

namespace DV

/-- `F` is well-typed on box `b`: its image (a diagram or a sum) is well-typed, from the image of
    the domain to the image of the codomain. -/
def FunctorS.okOn (F : FunctorS) (b : Box) : Prop :=
  ∀ x, F.box b = .ok x → x.WF ∧ F.base.ty b.dom = .ok x.dom ∧ F.base.ty b.cod = .ok x.cod

/-- `L` is the image of the layer `l`: `Id(F left) @ F(box) @ Id(F right)`. -/
def FunctorS.Img (F : FunctorS) (l : Layer) (L : DS) : Prop :=
  ∃ lt rt x, F.base.ty l.left = .ok lt ∧ F.base.ty l.right = .ok rt ∧ F.box l.box = .ok x ∧ x.WF ∧
    F.base.ty l.box.dom = .ok x.dom ∧ F.base.ty l.box.cod = .ok x.cod ∧ L = DS.layerD lt x rt

inductive FunctorS.Imgs (F : FunctorS) : List Layer → List DS → Prop
  | nil : FunctorS.Imgs F [] []
  | cons {l ls L Ls} : F.Img l L → FunctorS.Imgs F ls Ls → FunctorS.Imgs F (l :: ls) (L :: Ls)

def DS.foldT (res : DS) (Ls : List DS) : DS := Ls.foldl DS.thenD res

theorem FunctorS.Img.props {F : FunctorS} {l : Layer} {L : DS} (h : F.Img l L) :
    L.WF ∧ F.base.ty l.dom = .ok L.dom ∧ F.base.ty l.cod = .ok L.cod := by
  obtain ⟨lt, rt, x, h1, h2, _, xw, xd, xc, rfl⟩ := h
  refine ⟨DS.layerD_wf xw, ?_, ?_⟩
  · simpa [Layer.dom] using F.base.ty_append (F.base.ty_append h1 xd) h2
  · simpa [Layer.cod] using F.base.ty_append (F.base.ty_append h1 xc) h2

/-- One step of the loop on a layer read off the scan, inverted.  `result.cod = L.dom` comes from the
    typing of the scan (`hty`), not from the success of `>>`: a sum with no terms composes with
    anything, cat.py:712-718. -/
theorem FunctorS.stepBox_layer (F : FunctorS) {l : Layer} {scan' : Ty} {result res : DS}
    (hr : result.WF) (hb : F.okOn l.box) (hty : F.base.ty l.dom = .ok result.cod)
    (h : F.stepBox l.dom result l.box l.left.length = .ok (scan', res)) :
    scan' = l.cod ∧ ∃ L, F.Img l L ∧ result.cod = L.dom ∧ res = result.thenD L := by
  unfold FunctorS.stepBox at h
  rw [Layer.slice_left, Layer.slice_right] at h
  split at h
  · rename_i lt rt x hl hrr hx
    obtain ⟨xw, xd, xc⟩ := hb x hx
    have hi : F.Img l (DS.layerD lt x rt) := ⟨lt, rt, x, hl, hrr, hx, xw, xd, xc, rfl⟩
    obtain ⟨Lw, Ld, _⟩ := hi.props
    have hcomp : result.cod = (DS.layerD lt x rt).dom := by rw [hty] at Ld; exact Except.ok.inj Ld
    rw [DS.whisker_spec xw] at h
    simp only at h
    rw [DS.then_spec hr Lw hcomp] at h
    simp only [Except.ok.injEq, Prod.mk.injEq] at h
    exact ⟨h.1.symm, _, hi, hcomp, h.2.symm⟩
  all_goals cases h

theorem FunctorS.stepBox_of_img (F : FunctorS) {l : Layer} {L result : DS} (hr : result.WF)
    (hty : F.base.ty l.dom = .ok result.cod) (hi : F.Img l L) :
    F.stepBox l.dom result l.box l.left.length = .ok (l.cod, result.thenD L) := by
  obtain ⟨Lw, Ld, _⟩ := hi.props
  have hcomp : result.cod = L.dom := by rw [hty] at Ld; exact Except.ok.inj Ld
  obtain ⟨lt, rt, x, hl, hrr, hx, xw, _, _, rfl⟩ := hi
  unfold FunctorS.stepBox
  rw [Layer.slice_left, Layer.slice_right]
  simp only [FunctorS.ty, hl, hrr, hx]
  rw [DS.whisker_spec xw]
  simp only
  rw [DS.then_spec hr Lw hcomp]
  rfl

/-- Forward: a successful loop is the fold of the layer images. -/
theorem FunctorS.loop_fold (F : FunctorS) {scan c : Ty} {res r : DS} {ls : List Layer}
    (hch : Chain scan ls c) (hres : res.WF) (hty : F.base.ty scan = .ok res.cod)
    (hok : ∀ l ∈ ls, F.okOn l.box)
    (h : F.loop scan res (ls.map (·.box)) (ls.map (fun l => (l.left.length : Int))) = .ok r) :
    ∃ Ls, F.Imgs ls Ls ∧ r = DS.foldT res Ls := by
  induction ls generalizing scan res with
  | nil => simp only [List.map_nil, FunctorS.loop, Except.ok.injEq] at h; exact ⟨[], .nil, h.symm⟩
  | cons l ls ih =>
    obtain ⟨rfl, hc⟩ := hch
    simp only [List.map_cons, FunctorS.loop] at h
    split at h
    · cases h
    · rename_i scan' res' hstep
      obtain ⟨rfl, L, hi, hcomp, rfl⟩ :=
        F.stepBox_layer hres (hok l (List.mem_cons_self ..)) hty hstep
      obtain ⟨Lw, _, Lc⟩ := hi.props
      obtain ⟨Ls, his, hr⟩ := ih hc (DS.thenD_wf hres Lw hcomp) (by simpa using Lc)
        (fun l' hl' => hok l' (List.mem_cons_of_mem _ hl')) h
      exact ⟨L :: Ls, .cons hi his, hr⟩

/-- Backward: given the layer images and a running result of the right type, the loop succeeds
    with their fold. -/
theorem FunctorS.loop_of_fold (F : FunctorS) {scan c : Ty} {res : DS} {ls : List Layer}
    {Ls : List DS} (hch : Chain scan ls c) (hres : res.WF) (hty : F.base.ty scan = .ok res.cod)
    (hi : F.Imgs ls Ls) :
    F.loop scan res (ls.map (·.box)) (ls.map (fun l => (l.left.length : Int))) =
      .ok (DS.foldT res Ls) := by
  induction hi generalizing scan res with
  | nil => rfl
  | @cons l ls L Ls himg _ ih =>
    obtain ⟨rfl, hc⟩ := hch
    obtain ⟨Lw, Ld, Lc⟩ := himg.props
    have hcomp : res.cod = L.dom := by rw [hty] at Ld; exact Except.ok.inj Ld
    simp only [List.map_cons, FunctorS.loop, F.stepBox_of_img hres hty himg]
    exact ih hc (DS.thenD_wf hres Lw hcomp) (by simpa using Lc)

theorem FunctorS.Imgs.foldT_props {F : FunctorS} {scan c : Ty} {ls : List Layer} {Ls : List DS}
    {res : DS} (hch : Chain scan ls c) (hres : res.WF) (hty : F.base.ty scan = .ok res.cod)
    (h : F.Imgs ls Ls) :
    (DS.foldT res Ls).WF ∧ (DS.foldT res Ls).dom = res.dom ∧ F.base.ty c = .ok (DS.foldT res Ls).cod := by
  induction h generalizing scan res with
  | nil => cases hch; exact ⟨hres, rfl, hty⟩
  | @cons l ls L Ls himg _ ih =>
    obtain ⟨rfl, hc⟩ := hch
    obtain ⟨Lw, Ld, Lc⟩ := himg.props
    have hcomp : res.cod = L.dom := by rw [hty] at Ld; exact Except.ok.inj Ld
    obtain ⟨w, hd, hcd⟩ := ih (res := res.thenD L) hc (DS.thenD_wf hres Lw hcomp) (by simpa using Lc)
    exact ⟨w, hd.trans (DS.thenD_dom res L), hcd⟩

/-- The image of a well-typed diagram, when it exists, is the fold of the images of its layers … -/
theorem FunctorS.applyS_fold (F : FunctorS) {d : Diagram} {r : DS} (hd : d.WF)
    (hb : ∀ b ∈ d.boxes, F.okOn b) (h : F.applyS d = .ok r) :
    ∃ t Ls, F.base.ty d.dom = .ok t ∧ F.Imgs d.layers.boxes Ls ∧ r = DS.foldT (DS.idD t) Ls := by
  unfold FunctorS.applyS at h
  split at h
  · cases h
  · rename_i t ht
    rw [hd.boxes, hd.offsets] at h
    obtain ⟨Ls, hi, hr⟩ := F.loop_fold hd.chain' (DS.idD_wf t) ht
      (fun l hl => hb l.box (by rw [hd.boxes]; exact List.mem_map_of_mem hl)) h
    exact ⟨t, Ls, ht, hi, hr⟩

/-- … and conversely. -/
theorem FunctorS.applyS_of_imgs (F : FunctorS) {d : Diagram} {t : Ty} {Ls : List DS} (hd : d.WF)
    (ht : F.base.ty d.dom = .ok t) (hi : F.Imgs d.layers.boxes Ls) :
    F.applyS d = .ok (DS.foldT (DS.idD t) Ls) := by
  unfold FunctorS.applyS
  simp only [FunctorS.ty, ht]
  rw [hd.boxes, hd.offsets]
  exact F.loop_of_fold hd.chain' (DS.idD_wf t) ht hi

/-- The image of a well-typed diagram under a functor that is well-typed on its boxes is well-typed
    (every term of it, when it is a sum), from the image of the domain to the image of the codomain. -/
theorem FunctorS.applyS_props (F : FunctorS) {d : Diagram} {r : DS} (hd : d.WF)
    (hb : ∀ b ∈ d.boxes, F.okOn b) (h : F.applyS d = .ok r) :
    r.WF ∧ F.base.ty d.dom = .ok r.dom ∧ F.base.ty d.cod = .ok r.cod := by
  obtain ⟨t, Ls, ht, hi, rfl⟩ := F.applyS_fold hd hb h
  obtain ⟨w, hdom, hcod⟩ := hi.foldT_props hd.chain' (DS.idD_wf t) ht
  exact ⟨w, by rw [hdom]; exact ht, hcod⟩

/-- `F(Id(t)) = Id(F(t))`. -/
theorem FunctorS.applyS_id (F : FunctorS) {t t' : Ty} (h : F.base.ty t = .ok t') :
    F.applyS (Diagram.id t) = .ok (.diag (Diagram.id t')) := by
  simp [FunctorS.applyS, FunctorS.ty, Diagram.id, h, FunctorS.loop]

theorem DS.foldT_thenD (a b : DS) (Ms : List DS) :
    DS.foldT (a.thenD b) Ms = a.thenD (DS.foldT b Ms) := by
  induction Ms generalizing b with
  | nil => rfl
  | cons M Ms ih =>
    show DS.foldT ((a.thenD b).thenD M) Ms = a.thenD (DS.foldT (b.thenD M) Ms)
    rw [DS.thenD_assoc, ih]

theorem DS.foldT_app (res : DS) (As Bs : List DS) :
    DS.foldT res (As ++ Bs) = DS.foldT (DS.foldT res As) Bs := by simp [DS.foldT, List.foldl_append]

/-- Continue a fold from a well-typed running result = compose with the fold from the identity. -/
theorem DS.foldT_from {res : DS} (hres : res.WF) (Ms : List DS) :
    DS.foldT res Ms = res.thenD (DS.foldT (DS.idD res.cod) Ms) := by
  rw [← DS.foldT_thenD, DS.thenD_id hres rfl]

theorem DS.foldT_tensorD_id (res : DS) (Ls : List DS) (t : Ty) :
    DS.foldT (res.tensorD (DS.idD t)) (Ls.map (·.tensorD (DS.idD t))) =
      (DS.foldT res Ls).tensorD (DS.idD t) := by
  induction Ls generalizing res with
  | nil => rfl
  | cons L Ls ih =>
    show DS.foldT ((res.tensorD (DS.idD t)).thenD (L.tensorD (DS.idD t))) _ =
      (DS.foldT (res.thenD L) Ls).tensorD (DS.idD t)
    rw [← DS.thenD_tensorD_id, ih]

theorem DS.foldT_id_tensorD (t : Ty) (res : DS) (Ls : List DS) :
    DS.foldT ((DS.idD t).tensorD res) (Ls.map (DS.idD t).tensorD) =
      (DS.idD t).tensorD (DS.foldT res Ls) := by
  induction Ls generalizing res with
  | nil => rfl
  | cons L Ls ih =>
    show DS.foldT (((DS.idD t).tensorD res).thenD ((DS.idD t).tensorD L)) _ =
      (DS.idD t).tensorD (DS.foldT (res.thenD L) Ls)
    rw [← DS.id_tensorD_thenD, ih]

theorem FunctorS.Img.whiskR {F : FunctorS} {l : Layer} {L : DS} (h : F.Img l L) {t tt : Ty}
    (ht : F.base.ty t = .ok tt) : F.Img (whiskR t l) (L.tensorD (DS.idD tt)) := by
  obtain ⟨lt, rt, x, h1, h2, hx, xw, xd, xc, rfl⟩ := h
  exact ⟨lt, rt ++ tt, x, h1, F.base.ty_append h2 ht, hx, xw, xd, xc, DS.layerD_whiskR lt rt tt x⟩

theorem FunctorS.Img.whiskL {F : FunctorS} {l : Layer} {L : DS} (h : F.Img l L) {u tu : Ty}
    (hu : F.base.ty u = .ok tu) : F.Img (whiskL u l) ((DS.idD tu).tensorD L) := by
  obtain ⟨lt, rt, x, h1, h2, hx, xw, xd, xc, rfl⟩ := h
  exact ⟨tu ++ lt, rt, x, F.base.ty_append hu h1, h2, hx, xw, xd, xc, DS.layerD_whiskL tu lt rt x⟩

theorem FunctorS.Imgs.map {F : FunctorS} {f : Layer → Layer} {g : DS → DS}
    (hfg : ∀ {l L}, F.Img l L → F.Img (f l) (g L)) {ls : List Layer} {Ls : List DS}
    (h : F.Imgs ls Ls) : F.Imgs (ls.map f) (Ls.map g) := by
  induction h with
  | nil => exact .nil
  | cons himg _ ih => exact .cons (hfg himg) ih

theorem FunctorS.Imgs.append {F : FunctorS} {as bs : List Layer} {As Bs : List DS}
    (ha : F.Imgs as As) (hb : F.Imgs bs Bs) : F.Imgs (as ++ bs) (As ++ Bs) := by
  induction ha with
  | nil => exact hb
  | cons himg _ ih => exact .cons himg ih

/-! ### `F(a >> b) = F(a) >> F(b)`, `F(a @ b) = F(a) @ F(b)` -/

/-- C04 with sums among the box images: `F(a >> b) = F(a) >> F(b)` in closed form. -/
theorem FunctorS.applyS_thenD (F : FunctorS) {a b : Diagram} {fa fb : DS} (ha : a.WF) (hb : b.WF)
    (hcod : a.cod = b.dom) (hoka : ∀ bx ∈ a.boxes, F.okOn bx) (hokb : ∀ bx ∈ b.boxes, F.okOn bx)
    (hfa : F.applyS a = .ok fa) (hfb : F.applyS b = .ok fb) :
    F.applyS (a.thenD b) = .ok (fa.thenD fb) := by
  obtain ⟨faw, _, facod⟩ := F.applyS_props ha hoka hfa
  obtain ⟨ta, As, hta, hA, rfl⟩ := F.applyS_fold ha hoka hfa
  obtain ⟨tb, Bs, htb, hB, rfl⟩ := F.applyS_fold hb hokb hfb
  cases (hcod ▸ facod).symm.trans htb
  rw [F.applyS_of_imgs (Diagram.thenD_wf ha hb hcod) hta (hA.append hB), DS.foldT_app,
    DS.foldT_from faw]

/-- `F(a >> b) = F(a) >> F(b)`: the library's `>>` on the two images succeeds and is the image of
    the composite; when a sum is involved its terms are all the pairs (term of `F(a)`, term of
    `F(b)`), the terms of `F(a)` varying slowest (`DS.thenD`). -/
theorem FunctorS.applyS_then (F : FunctorS) {a b ab : Diagram} {fa fb : DS} (ha : a.WF) (hb : b.WF)
    (hoka : ∀ bx ∈ a.boxes, F.okOn bx) (hokb : ∀ bx ∈ b.boxes, F.okOn bx)
    (hab : a.then b = .ok ab) (hfa : F.applyS a = .ok fa) (hfb : F.applyS b = .ok fb) :
    fa.then fb = .ok (fa.thenD fb) ∧ F.applyS ab = .ok (fa.thenD fb) := by
  obtain ⟨hc, rfl⟩ := Diagram.then_ok' hab
  have hcod : a.cod = b.dom := by rw [← ha.lcod, ← hb.ldom]; exact hc
  obtain ⟨faw, _, facod⟩ := F.applyS_props ha hoka hfa
  obtain ⟨fbw, fbdom, _⟩ := F.applyS_props hb hokb hfb
  have : fa.cod = fb.dom := by
    rw [hcod, fbdom] at facod; exact (Except.ok.inj facod).symm
  exact ⟨DS.then_spec faw fbw this, F.applyS_thenD ha hb hcod hoka hokb hfa hfb⟩

/-- C04 with sums among the box images: `F(a @ b) = F(a) @ F(b)` in closed form: the layers of
    `a @ b` are those of `a` whiskered by `b.dom`, then those of `b` whiskered by `a.cod`, and
    whiskering commutes with taking images and with folding. -/
theorem FunctorS.applyS_tensorD (F : FunctorS) {a b : Diagram} {fa fb : DS} (ha : a.WF) (hb : b.WF)
    (hoka : ∀ bx ∈ a.boxes, F.okOn bx) (hokb : ∀ bx ∈ b.boxes, F.okOn bx)
    (hfa : F.applyS a = .ok fa) (hfb : F.applyS b = .ok fb) :
    F.applyS (a.tensorD b) = .ok (fa.tensorD fb) := by
  obtain ⟨faw, _, facod⟩ := F.applyS_props ha hoka hfa
  obtain ⟨fbw, fbdom, _⟩ := F.applyS_props hb hokb hfb
  obtain ⟨ta, As, hta, hA, rfl⟩ := F.applyS_fold ha hoka hfa
  obtain ⟨tb, Bs, htb, hB, rfl⟩ := F.applyS_fold hb hokb hfb
  have hA' := hA.map (fun h => h.whiskR htb)
  have hB' := hB.map (fun h => h.whiskL facod)
  rw [F.applyS_of_imgs (Diagram.tensorD_wf ha hb) (F.base.ty_append hta htb) (hA'.append hB')]
  congr 1
  have hbd : (DS.foldT (DS.idD tb) Bs).dom = tb := by
    rw [htb] at fbdom; exact (Except.ok.inj fbdom).symm
  generalize hfa' : DS.foldT (DS.idD ta) As = fa at faw facod hB' ⊢
  generalize hfb' : DS.foldT (DS.idD tb) Bs = fb at fbw hbd ⊢
  have hX := DS.tensorD_wf faw (DS.idD_wf tb)
  have hXc : (fa.tensorD (DS.idD tb)).cod = fa.cod ++ tb := by simp
  rw [DS.foldT_app, ← DS.tensorD_id_id, DS.foldT_tensorD_id, hfa', DS.foldT_from hX, hXc,
    ← DS.tensorD_id_id, DS.foldT_id_tensorD, hfb']
  have := DS.exchange faw fbw
  rwa [hbd] at this

theorem FunctorS.applyS_tensor (F : FunctorS) {a b ab : Diagram} {fa fb : DS} (ha : a.WF) (hb : b.WF)
    (hoka : ∀ bx ∈ a.boxes, F.okOn bx) (hokb : ∀ bx ∈ b.boxes, F.okOn bx)
    (hab : a.tensor b = .ok ab) (hfa : F.applyS a = .ok fa) (hfb : F.applyS b = .ok fb) :
    fa.tensor fb = .ok (fa.tensorD fb) ∧ F.applyS ab = .ok (fa.tensorD fb) := by
  obtain ⟨faw, _, _⟩ := F.applyS_props ha hoka hfa
  obtain ⟨fbw, _, _⟩ := F.applyS_props hb hokb hfb
  rw [Diagram.tensor_eq_tensorD ha hb] at hab
  cases hab
  exact ⟨DS.tensor_spec faw fbw, F.applyS_tensorD ha hb hoka hokb hfa hfb⟩

theorem Layer.split (l : Layer) :
    l.dom = pySlice l.dom none (some (l.left.length : Int)) ++ l.box.dom ++
      pySlice l.dom (some ((l.left.length : Int) + l.box.dom.length)) none := by
  rw [Layer.slice_left, Layer.slice_right]; rfl

/-- The same for a layer shifted by `u` wires (what `F(a @ b)` reads for a box of `b`). -/
theorem layer_split_shift (l : Layer) (u : Ty) :
    u ++ l.dom = pySlice (u ++ l.dom) none (some ((l.left.length : Int) + u.length)) ++ l.box.dom ++
      pySlice (u ++ l.dom) (some ((l.left.length : Int) + u.length + l.box.dom.length)) none := by
  have h := Layer.split (whiskL u l)
  have e : (whiskL u l).dom = u ++ l.dom := by simp [whiskL, Layer.dom]
  have e' : (((whiskL u l).left.length : Nat) : Int) = (l.left.length : Int) + u.length := by
    simp [whiskL, Int.add_comm]
  rw [e, e'] at h
  exact h

/-! ### Plain images: the model with sums among the images extends the model of plain functors -/

theorem Functor.toS_ty (F : Functor) (t : Ty) : F.toS.base.ty t = F.ty t := by
  induction t with
  | nil => rfl
  | cons o os ih =>
    have e : F.toS.base.ob1 o = F.ob1 o := rfl
    simp only [Functor.ty, e, ih]

theorem Functor.toS_arLookup (F : Functor) (b : Box) : F.toS.arLookup b = DS.ofDiag (F.arLookup b) := by
  unfold FunctorS.arLookup Functor.arLookup Functor.toS
  rw [List.find?_map]
  rw [show ((fun p : Box × DS => p.1 == b) ∘ fun p : Box × Diagram => (p.1, DS.diag p.2)) =
    fun p => p.1 == b from rfl]
  cases List.find? (fun p => p.1 == b) F.ar <;> rfl

theorem Functor.toS_box (F : Functor) (b : Box) : F.toS.box b = DS.ofDiag (F.box b) := by
  unfold FunctorS.box Functor.box
  cases hk : b.kind with
  | gen =>
    simp only
    by_cases hd : b.dagger
    · simp only [hd, if_true, Functor.toS_arLookup]
      cases F.arLookup b.dag <;> simp [DS.ofDiag, DS.dagger]
    · simp only [hd, Functor.toS_arLookup]
      simp
  | swap =>
    simp only [FunctorS.special, Functor.box, hk, Functor.toS_ty]
  | cup =>
    simp only [FunctorS.special, Functor.box, hk, Functor.toS_ty]
  | cap =>
    simp only [FunctorS.special, Functor.box, hk, Functor.toS_ty]

theorem DS.whisker_diag (l r : Ty) (x : Diagram) :
    DS.whisker l (.diag x) r = DS.ofDiag (match (Diagram.id l).tensor x with
      | .error e => .error e
      | .ok lx => lx.tensor (Diagram.id r)) := by
  unfold DS.whisker
  simp only [DS.tensor]
  cases (Diagram.id l).tensor x with
  | error e => rfl
  | ok lx => simp only [DS.ofDiag]

def liftStep (r : Except Err (Ty × Diagram)) : Except Err (Ty × DS) :=
  match r with
  | .error e => .error e
  | .ok (s, d) => .ok (s, .diag d)

theorem Functor.toS_stepBox (F : Functor) (scan : Ty) (result : Diagram) (b : Box) (off : Int) :
    F.toS.stepBox scan (.diag result) b off = liftStep (F.stepBox scan result b off) := by
  unfold FunctorS.stepBox Functor.stepBox
  simp only [FunctorS.ty, Functor.toS_ty, Functor.toS_box]
  cases F.ty (pySlice scan none (some off)) <;>
  cases F.ty (pySlice scan (some (off + b.dom.length)) none) <;>
  cases F.box b <;> simp only [DS.ofDiag, liftStep]
  rename_i l r x
  rw [DS.whisker_diag]
  cases (Diagram.id l).tensor x with
  | error e => rfl
  | ok lx =>
    dsimp only
    cases lx.tensor (Diagram.id r) with
    | error e => rfl
    | ok layer =>
      simp only [DS.ofDiag, DS.then]
      cases result.then layer <;> rfl

theorem Functor.toS_loop (F : Functor) (scan : Ty) (result : Diagram) (bs : List Box) (os : List Int) :
    F.toS.loop scan (.diag result) bs os = DS.ofDiag (F.loop scan result bs os) := by
  induction bs generalizing scan result os with
  | nil => cases os <;> simp [FunctorS.loop, Functor.loop, DS.ofDiag]
  | cons b bs ih =>
    cases os with
    | nil => simp [FunctorS.loop, Functor.loop, DS.ofDiag]
    | cons o os =>
      simp only [FunctorS.loop, Functor.loop, Functor.toS_stepBox]
      cases F.stepBox scan result b o with
      | error e => simp [liftStep, DS.ofDiag]
      | ok p => obtain ⟨s, d⟩ := p; simp only [liftStep]; exact ih s d os

/-- The model with sums among the images restricted to plain images IS the model of plain functors. -/
theorem Functor.toS_applyS (F : Functor) (d : Diagram) : F.toS.applyS d = DS.ofDiag (F.apply d) := by
  unfold FunctorS.applyS Functor.apply
  simp only [FunctorS.ty, Functor.toS_ty]
  cases F.ty d.dom with
  | error e => simp [DS.ofDiag]
  | ok t => exact F.toS_loop d.dom (Diagram.id t) d.boxes d.offsets

/-! ### Dagger -/

/-- The image of a daggered generator is the dagger of the image of the generator (`Sum.dagger`
    for a sum: the daggers of the terms, in the same order). -/
theorem FunctorS.box_dagger (F : FunctorS) (b : Box) (hk : b.kind = .gen) (hd : b.dagger = false)
    {x : DS} (hx : F.box b = .ok x) : F.box b.dag = x.dagger := by
  have hdag : b.dag.dagger = true := by simp [Box.dag, hk, hd]
  have hkd : b.dag.kind = .gen := by simp [Box.dag, hk]
  simp only [FunctorS.box, hk, hd] at hx
  simp only [FunctorS.box, hkd, hdag, if_true, Box.dag_dag]
  simp only [Bool.false_eq_true, if_false] at hx
  rw [hx]

/-! FALSE for the code (finding F4c04a): with two boxes sent to two-term sums, `F(d†)` and `F(d)†`
    list the same four terms in different orders, and `Sum.__eq__` compares ordered lists. -/
namespace SumImgDagger
def x : Ob := ⟨"x", 0⟩
def y : Ob := ⟨"y", 0⟩
def z : Ob := ⟨"z", 0⟩
def f : Box := { name := "f", dom := [x], cod := [y] }
def g : Box := { name := "g", dom := [y], cod := [z] }
def a : Box := { name := "a", dom := [x], cod := [y] }
def b : Box := { name := "b", dom := [x], cod := [y] }
def c : Box := { name := "c", dom := [y], cod := [z] }
def e : Box := { name := "e", dom := [y], cod := [z] }
def F : FunctorS :=
  { ob := [("x", [x]), ("y", [y]), ("z", [z])],
    ar := [(f, .sum ⟨[Diagram.ofBox a, Diagram.ofBox b], [x], [y]⟩),
           (g, .sum ⟨[Diagram.ofBox c, Diagram.ofBox e], [y], [z]⟩)] }
def d : Diagram := (Diagram.ofBox f).thenD (Diagram.ofBox g)

/-- `F(d†)`: `c†a† + c†b† + e†a† + e†b†`. -/
def lhs : Except Err DS := F.applyS d.dagger
/-- `F(d)†`: `c†a† + e†a† + c†b† + e†b†`. -/
def rhs : Except Err DS := match F.applyS d with
  | .ok r => r.dagger
  | .error err => .error err

def termsOf : Except Err DS → List Diagram
  | .ok (.sum s) => s.terms
  | _ => []

def dd (p q : Box) : Diagram := (Diagram.ofBox p).dagger.thenD (Diagram.ofBox q).dagger

theorem lhs_terms : termsOf lhs = [dd c a, dd c b, dd e a, dd e b] := by decide +kernel
theorem rhs_terms : termsOf rhs = [dd c a, dd e a, dd c b, dd e b] := by decide +kernel
end SumImgDagger

/-! ### The image of a one-box diagram -/

theorem Diagram.tensorD_id_nil_left {a : Diagram} (ha : a.WF) : (Diagram.id []).tensorD a = a := by
  have h := Diagram.tensor_id_nil_left ha
  rw [Diagram.tensor_eq_tensorD (Diagram.id_wf []) ha] at h
  exact Except.ok.inj h

theorem Diagram.tensorD_id_nil_right {a : Diagram} (ha : a.WF) : a.tensorD (Diagram.id []) = a := by
  have h := Diagram.tensor_id_nil_right ha
  rw [Diagram.tensor_eq_tensorD ha (Diagram.id_wf [])] at h
  exact Except.ok.inj h

theorem Diagram.layer_nil {a : Diagram} (ha : a.WF) :
    ((Diagram.id []).tensorD a).tensorD (Diagram.id []) = a := by
  rw [Diagram.tensorD_id_nil_left ha, Diagram.tensorD_id_nil_right ha]

theorem Sum.layer_nil {a : Sum} (ha : a.WF) :
    ((Sum.single (Diagram.id [])).tensorD a).tensorD (Sum.single (Diagram.id [])) = a := by
  cases a with | mk ts d c =>
  simp only [Sum.tensorD, Sum.single, Diagram.id, List.flatMap_cons, List.flatMap_nil,
    List.append_nil, List.nil_append, Sum.mk.injEq, and_true]
  have key : ∀ t ∈ ts, ((Diagram.id []).tensorD t).tensorD (Diagram.id []) = t :=
    fun t ht => Diagram.layer_nil (ha t ht).1
  clear ha
  induction ts with
  | nil => rfl
  | cons t ts ih =>
    simp only [List.map_cons, List.flatMap_cons, List.map_nil, List.singleton_append]
    have := key t (by simp)
    simp only [Diagram.id] at this
    rw [this]
    congr 1
    exact ih (fun u hu => key u (by simp [hu]))

theorem DS.layerD_nil {x : DS} (hx : x.WF) : DS.layerD [] x [] = x := by
  cases x with
  | diag d => simp only [DS.layerD, DS.idD, DS.tensorD]; rw [Diagram.layer_nil hx]
  | sum s => simp only [DS.layerD, DS.idD, DS.tensorD]; rw [Sum.layer_nil hx]

/-- The image of a one-box diagram is the image of the box: what the box map says. -/
theorem FunctorS.applyS_ofBox (F : FunctorS) {b : Box} {x : DS} (hb : F.okOn b)
    (hx : F.box b = .ok x) : F.applyS (Diagram.ofBox b) = .ok x := by
  obtain ⟨xw, xd, xc⟩ := hb x hx
  have hi : F.Imgs (Diagram.ofBox b).layers.boxes [DS.layerD [] x []] :=
    .cons ⟨[], [], x, rfl, rfl, hx, xw, xd, xc, rfl⟩ .nil
  rw [F.applyS_of_imgs (Diagram.ofBox_wf b) xd hi, DS.layerD_nil xw]
  exact congrArg _ (DS.id_thenD xw rfl)

end DV
