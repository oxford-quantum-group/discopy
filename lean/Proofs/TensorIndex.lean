/-
  Proofs/TensorIndex.lean — multi-index toolkit for Model/Tensor.lean:
  `idxs` enumerates exactly the in-range multi-indices, in row-major order
  (`(idxs s)[flatIdx s i] = i`), block decomposition of indices and flat positions
  (`idxs_append`, `flatIdx_append`), reading back a tabulated array (`ofFn_get`),
  Fubini and Kronecker-delta lemmas for `sumOver`.
-/
import Model.Tensor
import Mathlib.Algebra.BigOperators.Ring.List
import Mathlib.Tactic.Ring
import Mathlib.Tactic.Linarith

namespace DV
open NDArray

/-- `i` is a multi-index of shape `s`. -/
def InRange : List Nat → List Nat → Prop
  | [], [] => True
  | n :: s, i :: is => i < n ∧ InRange s is
  | _, _ => False

@[simp] theorem inRange_nil_nil : InRange [] [] := trivial
@[simp] theorem inRange_cons_cons {n i : Nat} {s is : List Nat} :
    InRange (n :: s) (i :: is) ↔ i < n ∧ InRange s is := Iff.rfl
@[simp] theorem inRange_nil_cons {i : Nat} {is : List Nat} : ¬ InRange [] (i :: is) := id
@[simp] theorem inRange_cons_nil {n : Nat} {s : List Nat} : ¬ InRange (n :: s) [] := id

theorem InRange.length_eq : ∀ {s i : List Nat}, InRange s i → i.length = s.length
  | [], [], _ => rfl
  | _ :: _, _ :: _, h => by simp [InRange.length_eq h.2]
  | [], _ :: _, h => h.elim
  | _ :: _, [], h => h.elim

theorem inRange_nil_iff {i : List Nat} : InRange [] i ↔ i = [] := by
  cases i <;> simp

theorem mem_idxs : ∀ {s i : List Nat}, i ∈ idxs s ↔ InRange s i
  | [], i => by simp [idxs, inRange_nil_iff]
  | n :: s, [] => by simp [idxs]
  | n :: s, i :: is => by
    simp only [idxs, List.mem_flatMap, List.mem_range, List.mem_map, inRange_cons_cons]
    constructor
    · rintro ⟨a, ha, b, hb, h⟩
      cases h
      exact ⟨ha, mem_idxs.1 hb⟩
    · rintro ⟨h1, h2⟩
      exact ⟨i, h1, is, mem_idxs.2 h2, rfl⟩

theorem idxs_length : ∀ s : List Nat, (idxs s).length = prod s
  | [] => rfl
  | n :: s => by
    simp only [idxs, prod, List.length_flatMap, List.length_map, idxs_length s]
    simp

@[simp] theorem flatIdx_nil (i : List Nat) : flatIdx [] i = 0 := rfl

theorem flatMap_range_blocks (P : Nat) : ∀ n : Nat,
    (List.range n).flatMap (fun i => (List.range P).map (fun r => i * P + r)) = List.range (n * P)
  | 0 => by simp
  | n + 1 => by
    rw [List.range_succ, List.flatMap_append, flatMap_range_blocks P n]
    have : (n + 1) * P = n * P + P := by ring
    rw [this, List.range_add]
    simp

theorem map_flatIdx_idxs : ∀ s : List Nat, (idxs s).map (flatIdx s) = List.range (prod s)
  | [] => by simp [idxs, flatIdx, prod]
  | n :: s => by
    simp only [idxs, List.map_flatMap, List.map_map, prod]
    rw [← flatMap_range_blocks (prod s) n]
    congr 1
    funext i
    rw [← map_flatIdx_idxs s, List.map_map]
    rfl

theorem flatIdx_getElem_idxs {s : List Nat} {k : Nat} (hk : k < (idxs s).length) :
    flatIdx s (idxs s)[k] = k := by
  have h := congrArg (·[k]?) (map_flatIdx_idxs s)
  rw [idxs_length] at hk
  simpa [hk, idxs_length] using h

/-- `idxs` is the row-major enumeration: the multi-index at flat position `flatIdx s i` is `i`. -/
theorem getElem?_idxs_flatIdx {s i : List Nat} (h : InRange s i) :
    (idxs s)[flatIdx s i]? = some i := by
  obtain ⟨k, hk, rfl⟩ := List.getElem_of_mem (mem_idxs.2 h)
  rw [flatIdx_getElem_idxs hk, List.getElem?_eq_getElem hk]

theorem flatIdx_lt {s i : List Nat} (h : InRange s i) : flatIdx s i < prod s := by
  obtain ⟨k, hk, rfl⟩ := List.getElem_of_mem (mem_idxs.2 h)
  rw [flatIdx_getElem_idxs hk, ← idxs_length]
  exact hk

theorem flatIdx_inj {s i j : List Nat} (hi : InRange s i) (hj : InRange s j)
    (h : flatIdx s i = flatIdx s j) : i = j := by
  have a := getElem?_idxs_flatIdx hi
  rw [h, getElem?_idxs_flatIdx hj] at a
  exact (Option.some.inj a).symm

/-- Reading back a tabulated array. -/
theorem ofFn_get {R} [Zero R] (s : List Nat) (f : List Nat → R) {i : List Nat}
    (h : InRange s i) : (ofFn s f).get i = f i := by
  simp only [NDArray.get, ofFn, Array.getD_eq_getD_getElem?, List.getElem?_toArray,
    List.getElem?_map, getElem?_idxs_flatIdx h]
  rfl

theorem ofFn_wf {R} (s : List Nat) (f : List Nat → R) : (ofFn s f).WF := by
  simp [NDArray.WF, ofFn, idxs_length]

/-- Two tabulations agree as soon as the functions agree on in-range indices. -/
theorem ofFn_congr {R} {s : List Nat} {f g : List Nat → R}
    (h : ∀ i, InRange s i → f i = g i) : ofFn s f = ofFn s g := by
  simp only [ofFn]
  congr 2
  exact List.map_congr_left (fun i hi => h i (mem_idxs.1 hi))

/-! ### blocks -/

theorem prod_append : ∀ s t : List Nat, prod (s ++ t) = prod s * prod t
  | [], t => by simp [prod]
  | n :: s, t => by simp [prod, prod_append s t, Nat.mul_assoc]

theorem idxs_append : ∀ s t : List Nat,
    idxs (s ++ t) = (idxs s).flatMap (fun i => (idxs t).map (fun j => i ++ j))
  | [], t => by simp [idxs]
  | n :: s, t => by
    simp only [List.cons_append, idxs, idxs_append s t, List.flatMap_assoc, List.map_flatMap,
      List.flatMap_map, List.map_map]
    rfl

theorem flatIdx_append : ∀ {s i : List Nat} (t j : List Nat), i.length = s.length →
    flatIdx (s ++ t) (i ++ j) = flatIdx s i * prod t + flatIdx t j
  | [], [], t, j, _ => by
    rw [List.nil_append, List.nil_append, flatIdx_nil, Nat.zero_mul, Nat.zero_add]
  | n :: s, i :: is, t, j, h => by
    simp only [List.cons_append, flatIdx, flatIdx_append t j (Nat.succ.inj h), prod_append]
    rw [Nat.add_mul, Nat.mul_assoc, Nat.add_assoc]
  | [], _ :: _, _, _, h => by simp at h
  | _ :: _, [], _, _, h => by simp at h

theorem inRange_append : ∀ {s i t j : List Nat}, InRange s i → InRange t j →
    InRange (s ++ t) (i ++ j)
  | [], [], _, _, _, h => h
  | _ :: _, _ :: _, _, _, h1, h2 => ⟨h1.1, inRange_append h1.2 h2⟩
  | [], _ :: _, _, _, h, _ => h.elim
  | _ :: _, [], _, _, h, _ => h.elim

theorem inRange_append_iff : ∀ {s i t j : List Nat}, i.length = s.length →
    (InRange (s ++ t) (i ++ j) ↔ InRange s i ∧ InRange t j)
  | [], [], _, _, _ => by simp
  | n :: s, i :: is, t, j, h => by
    have h' : is.length = s.length := by simpa using h
    simp [inRange_append_iff (t := t) (j := j) h', and_assoc]
  | [], _ :: _, _, _, h => by simp at h
  | _ :: _, [], _, _, h => by simp at h

/-- Every index of `s ++ t` splits. -/
theorem InRange.split {s t x : List Nat} (h : InRange (s ++ t) x) :
    ∃ a b, x = a ++ b ∧ InRange s a ∧ InRange t b := by
  have hlen : (x.take s.length).length = s.length := by
    have := h.length_eq
    simp only [List.length_take, List.length_append] at *; omega
  refine ⟨x.take s.length, x.drop s.length, (List.take_append_drop _ _).symm, ?_⟩
  rw [← inRange_append_iff hlen, List.take_append_drop]
  exact h

theorem InRange.split4 {A B C D x : List Nat} (h : InRange ((A ++ B) ++ (C ++ D)) x) :
    ∃ a b c d, x = (a ++ b) ++ (c ++ d) ∧ InRange A a ∧ InRange B b ∧ InRange C c ∧ InRange D d := by
  obtain ⟨ab, cd, rfl, h1, h2⟩ := h.split
  obtain ⟨a, b, rfl, ha, hb⟩ := h1.split
  obtain ⟨c, d, rfl, hc, hd⟩ := h2.split
  exact ⟨a, b, c, d, rfl, ha, hb, hc, hd⟩

theorem append_eq_append_of_inRange {s i i' : List Nat} (j j' : List Nat) (hi : InRange s i)
    (hi' : InRange s i') : i ++ j = i' ++ j' ↔ i = i' ∧ j = j' :=
  ⟨fun h => List.append_inj h (hi.length_eq.trans hi'.length_eq.symm), fun ⟨h1, h2⟩ => h1 ▸ h2 ▸ rfl⟩

theorem take_append_of_inRange {s i : List Nat} (j : List Nat) (h : InRange s i) :
    (i ++ j).take s.length = i := by
  rw [← h.length_eq]; simp

theorem drop_append_of_inRange {s i : List Nat} (j : List Nat) (h : InRange s i) :
    (i ++ j).drop s.length = j := by
  rw [← h.length_eq]; simp

theorem idxs_nodup (s : List Nat) : (idxs s).Nodup := by
  have h : ((idxs s).map (flatIdx s)).Nodup := by
    rw [map_flatIdx_idxs]; exact List.nodup_range
  exact (List.pairwise_map.1 h).imp (fun hne e => hne (by rw [e]))

/-- Pointwise characterisation of in-range indices. -/
theorem inRange_iff_getD : ∀ {s i : List Nat},
    InRange s i ↔ i.length = s.length ∧ ∀ p, p < s.length → i.getD p 0 < s.getD p 0
  | [], [] => ⟨fun _ => ⟨rfl, fun _ h => absurd h (Nat.not_lt_zero _)⟩, fun _ => trivial⟩
  | [], _ :: _ => ⟨fun h => h.elim, fun h => nomatch h.1⟩
  | _ :: _, [] => ⟨fun h => h.elim, fun h => nomatch h.1⟩
  | n :: s, i :: is => by
    rw [inRange_cons_cons, inRange_iff_getD (s := s), List.length_cons, List.length_cons,
      Nat.add_right_cancel_iff, Nat.forall_lt_succ_left]
    simp only [List.getD_cons_zero, List.getD_cons_succ]
    exact and_left_comm

/-! ### sums over multi-indices -/

section sums
variable {R : Type} [CommSemiring R]

theorem sumOver_congr {s : List Nat} {f g : List Nat → R}
    (h : ∀ i, InRange s i → f i = g i) : sumOver s f = sumOver s g := by
  unfold sumOver
  rw [List.map_congr_left (fun i hi => h i (mem_idxs.1 hi))]

@[simp] theorem sumOver_nil (f : List Nat → R) : sumOver [] f = f [] := by
  simp [sumOver, idxs]

theorem sumOver_zero (s : List Nat) : sumOver s (fun _ => (0 : R)) = 0 := by
  simp [sumOver]

theorem sumOver_mul_left (s : List Nat) (r : R) (f : List Nat → R) :
    sumOver s (fun i => r * f i) = r * sumOver s f := by
  unfold sumOver; exact List.sum_map_mul_left _ _ _

theorem sumOver_mul_right (s : List Nat) (r : R) (f : List Nat → R) :
    sumOver s (fun i => f i * r) = sumOver s f * r := by
  unfold sumOver; exact List.sum_map_mul_right _ _ _

theorem sumOver_add (s : List Nat) (f g : List Nat → R) :
    sumOver s (fun i => f i + g i) = sumOver s f + sumOver s g := by
  unfold sumOver; exact List.sum_map_add

/-- Fubini over index blocks. -/
theorem sumOver_append (s t : List Nat) (f : List Nat → R) :
    sumOver (s ++ t) f = sumOver s (fun i => sumOver t (fun j => f (i ++ j))) := by
  unfold sumOver
  rw [idxs_append, List.map_flatMap, List.flatMap_def, List.sum_flatten]
  simp [List.map_map, Function.comp_def]

theorem list_sum_comm {α β} (l : List α) (m : List β) (f : α → β → R) :
    (l.map (fun a => (m.map (fun b => f a b)).sum)).sum
      = (m.map (fun b => (l.map (fun a => f a b)).sum)).sum := by
  induction l with
  | nil => simp
  | cons a l ih => simp [ih, List.sum_map_add]

theorem sumOver_comm (s t : List Nat) (f : List Nat → List Nat → R) :
    sumOver s (fun i => sumOver t (fun j => f i j))
      = sumOver t (fun j => sumOver s (fun i => f i j)) := by
  unfold sumOver; exact list_sum_comm _ _ _

theorem list_sum_ite_eq {α} [DecidableEq α] (f : α → R) (a : α) :
    ∀ l : List α, l.Nodup → a ∈ l → (l.map (fun j => if a = j then f j else 0)).sum = f a
  | [], _, h => by simp at h
  | b :: l, hn, h => by
    rw [List.nodup_cons] at hn
    by_cases hab : a = b
    · subst hab
      have : (l.map (fun j => if a = j then f j else 0)) = l.map (fun _ => (0 : R)) :=
        List.map_congr_left (fun j hj => by
          have : a ≠ j := fun e => hn.1 (e ▸ hj)
          simp [this])
      simp [this]
    · have ha : a ∈ l := by
        rcases List.mem_cons.1 h with h | h
        · exact absurd h hab
        · exact h
      simp [hab, list_sum_ite_eq f a l hn.2 ha]

/-- Contracting with a Kronecker delta. -/
theorem sumOver_delta {s i : List Nat} (hi : InRange s i) (f : List Nat → R) :
    sumOver s (fun j => (if i = j then 1 else 0) * f j) = f i := by
  unfold sumOver
  rw [← list_sum_ite_eq f i (idxs s) (idxs_nodup s) (mem_idxs.2 hi)]
  congr 1
  apply List.map_congr_left
  intro j _
  split <;> simp

theorem sumOver_delta' {s i : List Nat} (hi : InRange s i) (f : List Nat → R) :
    sumOver s (fun j => f j * (if j = i then 1 else 0)) = f i := by
  rw [← sumOver_delta hi f]
  apply sumOver_congr
  intro j _
  by_cases h : j = i
  · subst h; simp
  · have : ¬ i = j := fun e => h e.symm
    simp [h, this]

end sums

end DV
