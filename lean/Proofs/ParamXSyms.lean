/-
  Proofs/ParamXSyms.lean — free symbols, substitution and evaluation of tensor diagrams with
  bubbles (Model/ParamXSyms.lean):

   * `mem_xfreeSymbolsL`           the symbols reported are exactly those of the parameters of the
                                   boxes, bubbles opened;
   * `xparams_mapData`             substitution maps the parameters in place (inside bubbles too);
   * `OpHom.map_xevalLayers`       evaluation (a bubble applies an integer polynomial entrywise to
                                   the evaluation of its inside) commutes with every
                                   operation-preserving map, ring homomorphisms commuting with
                                   conjugation among them.
-/
import Proofs.ParamBubble
import Model.ParamXSyms

set_option linter.unusedSectionVars false

namespace DV.Param

section Symbols
variable {R S : Type}

theorem mem_xbox_freeSymbols (fs : R → List Nat) (b : XBox R) (v : Nat) :
    v ∈ b.freeSymbols fs ↔ ∃ e ∈ b.params, v ∈ fs e := by
  cases b with
  | plain b => exact mem_box_freeSymbols fs b v
  | bubble dom cod func inside => exact mem_flatMap_data fs inside v
  | chain dom cod func inside term =>
    simp only [XBox.freeSymbols, XBox.params, mem_unionNat, mem_flatMap_data, exists_mem_append]

/-- The free symbols reported for a diagram with bubbles are exactly the symbols occurring in
    the parameters of its boxes, the boxes inside the bubbles included. -/
theorem mem_xfreeSymbolsL (fs : R → List Nat) (ls : List (XLayer R)) (v : Nat) :
    v ∈ xfreeSymbolsL fs ls ↔ ∃ e ∈ xparams ls, v ∈ fs e := by
  unfold xfreeSymbolsL xparams
  rw [mem_foldr_unionNat, exists_mem_flatMap]
  simp only [mem_xbox_freeSymbols]

theorem xbox_params_mapData (f : R → S) (b : XBox R) : (b.mapData f).params = b.params.map f := by
  cases b with
  | plain b => rfl
  | bubble dom cod func inside => exact flatMap_data_mapData f inside
  | chain dom cod func inside term =>
    simp only [XBox.mapData, XBox.params, flatMap_data_mapData, List.map_append]

theorem xparams_mapData (f : R → S) (ls : List (XLayer R)) :
    xparams (ls.map (XLayer.mapData f)) = (xparams ls).map f := by
  unfold xparams
  induction ls with
  | nil => rfl
  | cons l ls ih =>
    simp only [List.map_cons, List.flatMap_cons, List.map_append, ih]
    have : (XLayer.mapData f l).box = l.box.mapData f := rfl
    rw [this, xbox_params_mapData]

end Symbols

/-! ### evaluation with bubbles is natural in ring homomorphisms -/

theorem xbox_dom_mapData {R S : Type} (f : R → S) (b : XBox R) : (b.mapData f).dom = b.dom := by
  cases b <;> rfl

theorem xbox_cod_mapData {R S : Type} (f : R → S) (b : XBox R) : (b.mapData f).cod = b.cod := by
  cases b <;> rfl

namespace OpHom
variable {R S : Type} [Zero R] [One R] [Add R] [Mul R] [HasConj R] [CommRing S] [HasConj S]
  {φ : R → S} (h : OpHom φ) (ιR : Int → R) (ιS : Int → S) (hι : ∀ c, φ (ιR c) = ιS c)
include h hι

/-- `.chain` boxes are left out: they are the terms `Bubble.grad` returns, never part of a diagram
    that `subs` is applied to (the statement holds for them as well). -/
theorem xarr_mapData (b : XBox R) (hb : b.isInput) (i j : Nat) :
    (b.mapData φ).arr ιS i j = φ (b.arr ιR i j) := by
  cases b with
  | plain b => exact arr_mapData φ h.zero h.conj b i j
  | bubble dom cod func inside =>
    -- the polynomial of the bubble commutes with `φ`, the inside is natural
    show bubbleArr ιS _ _ func (inside.map (PLayer.mapData φ)) i j = φ (bubbleArr ιR _ _ func inside i j)
    rw [h.map_bubbleArr ιR ιS hι]
    unfold bubbleArr
    rw [h.map_evalLayers]
  | chain dom cod func inside term => exact hb.elim

theorem map_xevalLayers (ls : List (XLayer R)) (hls : ∀ l ∈ ls, l.box.isInput) (i k : Nat) :
    xevalLayers ιS (ls.map (XLayer.mapData φ)) i k = φ (xevalLayers ιR ls i k) := by
  rw [xevalLayers_eq_evalL, xevalLayers_eq_evalL]
  refine h.map_evalL_of _ _ _ _ _ ls (fun l _ => ?_) (fun l hl a b => ?_) i k
  · exact congrArg (fun c => prod l.left * prod c * prod l.right) (xbox_cod_mapData φ l.box)
  · rw [XLayer.mat_eq_whisk, XLayer.mat_eq_whisk, whisk_map φ h.zero]
    show whisk (prod (l.box.mapData φ).dom) (prod (l.box.mapData φ).cod) (prod l.right)
      ((l.box.mapData φ).arr ιS) a b = _
    rw [xbox_dom_mapData, xbox_cod_mapData,
      funext fun x => funext (h.xarr_mapData ιR ιS hι l.box (hls l hl) x)]

end OpHom

end DV.Param
