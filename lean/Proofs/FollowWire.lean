/-
  Proofs/FollowWire.lean — C07: `follow_wire` returns the consumer of the wire it is asked to
  follow (`Diagram.followWire_spec`), stated against an independent labelling of wires by their
  producers; the reason: the walk `classify` carries the producer label along.
-/
import Proofs.UnsnakeClassify

namespace DV

/-! ### Wire labels: which box produced the wire at each position, after `k` boxes -/

/-- One scan step on labels (Nat offsets): the box at index `k` with `m` inputs and `n` outputs
    at offset `off`. -/
def stepLabels (scan : List (Option Nat)) (k off m n : Nat) : List (Option Nat) :=
  scan.take off ++ List.replicate n (some k) ++ scan.drop (off + m)

/-- Labels of the wires after the first `k` boxes (`none` = an input of the diagram). -/
def labelsAfter (dom : Nat) (arity : List (Nat × Nat × Nat)) : Nat → List (Option Nat)
  | 0 => List.replicate dom none
  | k+1 => match arity[k]? with
    | some (off, m, n) => stepLabels (labelsAfter dom arity k) k off m n
    | none => labelsAfter dom arity k

theorem labelsAfter_succ {dom : Nat} {arity : List (Nat × Nat × Nat)} {k off m n : Nat}
    (h : arity[k]? = some (off, m, n)) :
    labelsAfter dom arity (k+1) = stepLabels (labelsAfter dom arity k) k off m n := by
  simp only [labelsAfter, h]

theorem stepLabels_left {scan : List (Option Nat)} {k off m n j : Nat} (h : j < off)
    (hoff : off ≤ scan.length) : (stepLabels scan k off m n)[j]? = scan[j]? := by
  unfold stepLabels
  rw [List.append_assoc, List.getElem?_append_left (by simp; omega)]
  simp [h]

theorem stepLabels_right {scan : List (Option Nat)} {k off m n j : Nat} (h : off + m ≤ j)
    (hoff : off ≤ scan.length) : (stepLabels scan k off m n)[j + n - m]? = scan[j]? := by
  unfold stepLabels
  have hl : (scan.take off ++ List.replicate n (some k)).length = off + n := by simp; omega
  rw [List.getElem?_append_right (by rw [hl]; omega), hl]
  simp only [List.getElem?_drop]
  congr 1
  omega

def arityOfLayers (ls : List Layer) : List (Nat × Nat × Nat) :=
  ls.map (fun l => (l.left.length, l.box.dom.length, l.box.cod.length))

theorem arityOfLayers_get {ls : List Layer} {c : Nat} {l : Layer} (h : ls[c]? = some l) :
    (arityOfLayers ls)[c]? = some (l.left.length, l.box.dom.length, l.box.cod.length) := by
  simp [arityOfLayers, h]

/-- The type reached after `k` layers of a chain has the length of the label list. -/
theorem labelsAfter_length {s c : Ty} {ls : List Layer} (h : Chain s ls c) (k : Nat) (hk : k ≤ ls.length) :
    ∃ t, Chain s (ls.take k) t ∧ (labelsAfter s.length (arityOfLayers ls) k).length = t.length := by
  induction k with
  | zero => exact ⟨s, by simp [Chain], by simp [labelsAfter]⟩
  | succ k ih =>
    obtain ⟨t, ht, hl⟩ := ih (by omega)
    have hlt : k < ls.length := by omega
    have hget : ls[k]? = some ls[k] := List.getElem?_eq_getElem hlt
    have har : (arityOfLayers ls)[k]? = some (ls[k].left.length, ls[k].box.dom.length, ls[k].box.cod.length) := by
      simp [arityOfLayers, hget]
    -- the chain up to k+1
    have hsplit : ls.take (k+1) = ls.take k ++ [ls[k]] := by
      rw [List.take_add_one, hget]; rfl
    obtain ⟨m, h1, h2⟩ := chain_take_drop k h
    have hm : m = t := chain_unique h1 ht
    subst hm
    have hdk : ls.drop k = ls[k] :: ls.drop (k+1) := by
      rw [List.drop_eq_getElem_cons hlt]
    rw [hdk] at h2
    obtain ⟨hdom, _⟩ := h2
    refine ⟨ls[k].cod, ?_, ?_⟩
    · rw [hsplit]; exact chain_append.mpr ⟨m, ht, by simp [Chain, hdom]⟩
    · rw [labelsAfter_succ har]
      simp only [stepLabels, List.length_append, List.length_take, List.length_replicate,
        List.length_drop, hl, hdom, Layer.dom, Layer.cod]
      omega

theorem arity_fits {s c : Ty} {ls : List Layer} (h : Chain s ls c) :
    ∀ k off m n, (arityOfLayers ls)[k]? = some (off, m, n) →
      off + m ≤ (labelsAfter s.length (arityOfLayers ls) k).length := by
  intro k off m n hk
  have hlt : k < ls.length := by
    have := (List.getElem?_eq_some_iff.mp hk).1
    simpa [arityOfLayers] using this
  obtain ⟨t, ht, hl⟩ := labelsAfter_length h k (by omega)
  have hget : ls[k]? = some ls[k] := List.getElem?_eq_getElem hlt
  simp only [arityOfLayers, List.getElem?_map, hget, Option.map_some, Option.some.injEq,
    Prod.mk.injEq] at hk
  obtain ⟨rfl, rfl, rfl⟩ := hk
  obtain ⟨m', h1, h2⟩ := chain_take_drop k h
  have : m' = t := chain_unique h1 ht
  subst this
  rw [List.drop_eq_getElem_cons hlt] at h2
  rw [hl, h2.1]
  simp [Layer.dom]

/-- The producer labels of the wires of `d` after its first `k` boxes. -/
def Diagram.labels (d : Diagram) (k : Nat) : List (Option Nat) :=
  labelsAfter d.dom.length (arityOfLayers d.layers.boxes) k

/-- The walk `classify` carries the producer label of the wire along: below the block it walked
    through, the wire sits at a position holding the label it started with. -/
theorem classify_labels {s c : Ty} {ls : List Layer} (h : Chain s ls c) (M : List Layer) :
    ∀ {rest : List Layer} (k j : Nat) {j' : Int} {lo ro : List Nat}, ls.drop k = M ++ rest →
    classify k (j : Int) (M.map fun l => (l.box, (l.left.length : Int))) = some (j', lo, ro) →
    ∃ jn : Nat, j' = (jn : Int) ∧
      (labelsAfter s.length (arityOfLayers ls) (k + M.length))[jn]? =
        (labelsAfter s.length (arityOfLayers ls) k)[j]? := by
  induction M with
  | nil =>
    intro rest k j j' lo ro _ hc
    simp only [List.map_nil, classify, Option.some.injEq, Prod.mk.injEq] at hc
    exact ⟨j, hc.1.symm, rfl⟩
  | cons l M ih =>
    intro rest k j j' lo ro hdrop hc
    have hk : ls[k]? = some l := by
      have := congrArg List.head? hdrop
      simpa [List.head?_drop] using this
    have hdrop' : ls.drop (k+1) = M ++ rest := by
      have := congrArg List.tail hdrop
      simpa [List.tail_drop] using this
    have hfit := arity_fits h k _ _ _ (arityOfLayers_get hk)
    have hsucc := labelsAfter_succ (dom := s.length) (arityOfLayers_get hk)
    have hidx : k + (l :: M).length = k + 1 + M.length := by rw [List.length_cons]; omega
    rw [List.map_cons] at hc
    rcases classify_cons_some hc with ⟨hx, lo1, rfl, h1⟩ | ⟨hx, ro1, rfl, h1⟩
    · simp only at hx h1
      rw [show (j : Int) + ((l.box.cod.length : Int) - l.box.dom.length)
        = ((j + l.box.cod.length - l.box.dom.length : Nat) : Int) by omega] at h1
      obtain ⟨jn, rfl, hl⟩ := ih (k+1) _ hdrop' h1
      exact ⟨jn, rfl, by rw [hidx, hl, hsucc]; exact stepLabels_right (by omega) (by omega)⟩
    · simp only at hx
      obtain ⟨jn, rfl, hl⟩ := ih (k+1) j hdrop' h1
      exact ⟨jn, rfl, by rw [hidx, hl, hsucc]; exact stepLabels_left (by omega) (by omega)⟩

/-- `follow_wire` is correct: starting from the wire at position `j` just below box `i`, it
    returns the index `c` of the box that consumes THAT wire (same producer label, position inside
    the input span of box `c`), or `len(d)` and the wire's position in the codomain. -/
theorem Diagram.followWire_spec {d : Diagram} (hd : d.WF) (i j : Nat) (hi : i < d.boxes.length) :
    ∃ c j' : Nat, (d.followWire i (j : Int)).1 = c ∧ (d.followWire i (j : Int)).2.1 = (j' : Int) ∧
      (d.labels c)[j']? = (d.labels (i+1))[j]? ∧ i < c ∧ c ≤ d.boxes.length ∧
      (c < d.boxes.length → ∃ l, d.layers.boxes[c]? = some l ∧
        l.left.length ≤ j' ∧ j' < l.left.length + l.box.dom.length) := by
  have hch : Chain d.dom d.layers.boxes d.cod := by
    have := hd.chain; rwa [LArrow.WF, hd.ldom, hd.lcod] at this
  rcases hfw : d.followWire i (j : Int) with ⟨cup, w', lo', ro'⟩
  -- the walk, as `classify` over the layers below box `i`
  obtain ⟨M, rest, lo1, ro1, e1, e3, _, _, e6, e7⟩ :=
    followWire_classify _ _ _ _ _ hfw (Nat.le_add_left _ _)
  have e1' : (d.layers.boxes.drop (i+1)).map (fun l => (l.box, (l.left.length : Int)))
      = M ++ rest := by rw [List.map_drop, ← Diagram.items_wf hd]; exact e1
  obtain ⟨L1, L2, hL, rfl, rfl⟩ := List.map_eq_append_iff.mp e1'
  obtain ⟨jn, rfl, hlab⟩ := classify_labels hch L1 (i+1) j hL e3
  have hb : d.boxes.length = d.layers.boxes.length := by rw [hd.boxes, List.length_map]
  have hlen : d.layers.boxes.length - (i + 1) = L1.length + L2.length := by
    rw [← List.length_drop, hL, List.length_append]
  cases L2 with
  | nil =>
    obtain rfl : cup = d.boxes.length := e6 rfl
    have hc : i + 1 + L1.length = d.boxes.length := by rw [List.length_nil] at hlen; omega
    exact ⟨_, jn, rfl, rfl, hc ▸ hlab, by omega, Nat.le_refl _, fun h => absurd h (Nat.lt_irrefl _)⟩
  | cons l L2 =>
    have e7' := e7 _ _ rfl
    rw [List.length_map] at e7'
    obtain ⟨rfl, h1, h2⟩ := e7'
    have hget : d.layers.boxes[i + 1 + L1.length]? = some l := by
      rw [← List.getElem?_drop, hL]; simp
    have hc := (List.getElem?_eq_some_iff.mp hget).1
    exact ⟨_, jn, rfl, rfl, hlab, by omega, by omega,
      fun _ => ⟨l, hget, Int.ofNat_le.mp h1, Int.ofNat_lt.mp h2⟩⟩

end DV
