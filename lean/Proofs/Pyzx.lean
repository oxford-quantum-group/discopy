/-
  Proofs/Pyzx.lean — lemmas about Model/Pyzx.lean (pyzx export/import of ZX diagrams), for C17.

  * List lemmas: replacing a segment (`getElem?_splice`, `length_splice`), exchanging two adjacent
    entries (`swapAt` and its lemmas), moving one entry to the left (`getElem?_rotate`).
  * Export (`to_pyzx`).  `producer` traces a wire upwards through the boxes to the vertex it comes
    from; `traceBox` is one box of that trace.  `stepBox_ok` describes one box of the loop;
    `ExpInv` (scan entry `k` = producer of wire `k`) and `DegInv` (edges + open wires = legs) are
    what the loop maintains (`stepBox_inv`, `stepBoxes_spec`); `expRun_spec` is the state after
    the loop; `specGraph` is the closed form of the exported graph and `toPyzx_spec` says that
    `to_pyzx` returns it; `toPyzx_degree` counts the edges at every vertex.
  * `nbrs_nodup_of_simple`: on a simple graph the neighbours of a vertex are distinct.
  * Wire moves.  `applySwaps_swapsLeft`: the SWAPs of a left move take the entry at `source` out
    and put it in at `target`; `move_left_fixed`, `move_swaps_le`, `move_length`: what `move`
    reports agrees with that.
  * Import (`from_pyzx`).  `Acc.Extends` collects what a stretch of the code that does not raise
    adds to the diagram; each function of the import has its `*_extends` lemma, and
    `fromPyzxWith_ok` is the result for the whole import, on every graph.  Refusals:
    `fromPyzxWith_refuses`.
  * Round trip: `roundtrip_spiders`.
-/
import Model.Pyzx

namespace DV.Pyzx
open DV

/-! ## list lemmas -/

/-- Replacing the `n` entries from `off` on by the list `m`. -/
theorem getElem?_splice {α} (l m : List α) (off n : Nat) (h : off ≤ l.length) (k : Nat) :
    (l.take off ++ m ++ l.drop (off + n))[k]? =
      if k < off then l[k]? else if k < off + m.length then m[k - off]? else l[k - m.length + n]? := by
  have hoff : min off l.length = off := by omega
  simp only [List.getElem?_append, List.length_append, List.length_take, List.getElem?_take,
    List.getElem?_drop, hoff]
  by_cases h1 : k < off
  · have : k < off + m.length := by omega
    simp only [h1, this, if_true]
  · by_cases h2 : k < off + m.length
    · simp only [h1, h2, if_true, if_false]
    · simp only [h1, h2, if_false]
      congr 1; omega

theorem length_splice {α} (l m : List α) (off n : Nat) (h : off + n ≤ l.length) :
    (l.take off ++ m ++ l.drop (off + n)).length = l.length - n + m.length := by
  simp only [List.length_append, List.length_take, List.length_drop]
  omega

theorem set_eq_self {α} {l : List α} {i : Nat} {a : α} (h : l[i]? = some a) : l.set i a = l := by
  obtain ⟨hi, rfl⟩ := List.getElem?_eq_some_iff.1 h
  exact List.set_getElem_self hi

/-- Exchange positions `o` and `o + 1` (the action of one `SWAP` box at offset `o` on the wires). -/
def swapAt {α} (o : Nat) (l : List α) : List α :=
  match l[o]?, l[o + 1]? with
  | some x, some y => (l.set o y).set (o + 1) x
  | _, _ => l

theorem length_swapAt {α} (o : Nat) (l : List α) : (swapAt o l).length = l.length := by
  simp only [swapAt]; split <;> simp

theorem getElem?_swapAt {α} (o : Nat) (l : List α) (h : o + 1 < l.length) (k : Nat) :
    (swapAt o l)[k]? = if k = o then l[o + 1]? else if k = o + 1 then l[o]? else l[k]? := by
  have ho : o < l.length := Nat.lt_of_succ_lt h
  obtain ⟨x, hx⟩ : ∃ x, l[o]? = some x := ⟨_, List.getElem?_eq_getElem ho⟩
  obtain ⟨y, hy⟩ : ∃ y, l[o + 1]? = some y := ⟨_, List.getElem?_eq_getElem h⟩
  simp only [swapAt, hx, hy, List.getElem?_set, List.length_set]
  by_cases h1 : k = o
  · subst h1
    simp [ho]
  · by_cases h2 : k = o + 1
    · subst h2; simp [h]
    · rw [if_neg (fun h => h2 h.symm), if_neg (fun h => h1 h.symm), if_neg h1, if_neg h2]

theorem swapAt_cons_succ {α} (o : Nat) (a : α) (l : List α) :
    swapAt (o + 1) (a :: l) = a :: swapAt o l := by
  simp only [swapAt, List.getElem?_cons_succ]
  split <;> rfl

theorem swapAt_append {α} (A : List α) (x y : α) (C : List α) {o : Nat} (ho : A.length = o) :
    swapAt o (A ++ x :: y :: C) = A ++ y :: x :: C := by
  subst ho
  induction A with
  | nil => rfl
  | cons a A ih => rw [List.length_cons, List.cons_append, swapAt_cons_succ, ih]; rfl

theorem take_pair_drop {α} {l : List α} {o : Nat} {x y : α}
    (hx : l[o]? = some x) (hy : l[o + 1]? = some y) : l.take o ++ x :: y :: l.drop (o + 2) = l := by
  obtain ⟨h1, rfl⟩ := List.getElem?_eq_some_iff.1 hx
  obtain ⟨h2, rfl⟩ := List.getElem?_eq_some_iff.1 hy
  rw [← List.drop_eq_getElem_cons h2, ← List.drop_eq_getElem_cons h1, List.take_append_drop]

/-- `scan[:o] + [scan[o + 1], scan[o]] + scan[o + 2:]` (zx.py:111-112) is `swapAt o scan`. -/
theorem swapAt_eq_take_drop {α} {l : List α} {o : Nat} {x y : α}
    (hx : l[o]? = some x) (hy : l[o + 1]? = some y) :
    swapAt o l = l.take o ++ [y, x] ++ l.drop (o + 2) := by
  have ho : (l.take o).length = o :=
    List.length_take_of_le (Nat.le_of_lt (List.getElem?_eq_some_iff.1 hx).1)
  conv => lhs; rw [← take_pair_drop hx hy]
  rw [swapAt_append _ _ _ _ ho, List.append_assoc]
  rfl

theorem swapAt_perm {α} {l : List α} {o : Nat} {x y : α}
    (hx : l[o]? = some x) (hy : l[o + 1]? = some y) : (swapAt o l).Perm l := by
  rw [swapAt_eq_take_drop hx hy]
  conv => rhs; rw [← take_pair_drop hx hy]
  rw [List.append_assoc]
  exact List.Perm.append_left _ (List.Perm.swap _ _ _)

theorem take_take_drop {α} (l : List α) (off n : Nat) :
    l.take off ++ (l.drop off).take n ++ l.drop (off + n) = l := by
  rw [← List.take_add, List.take_append_drop]

/-- Taking out the entry at `s` and putting `x` in at `t ≤ s`. -/
theorem getElem?_rotate {α} (l : List α) (x : α) (s t : Nat) (hlt : t ≤ s) (h2 : s < l.length)
    (k : Nat) :
    (l.take t ++ [x] ++ (l.drop t).take (s - t) ++ l.drop (s + 1))[k]? =
      if k < t then l[k]? else if k = t then some x else if k ≤ s then l[k - 1]? else l[k]? := by
  obtain ⟨d, rfl⟩ := Nat.exists_eq_add_of_le hlt
  have hm : (x :: (l.drop t).take d).length = d + 1 := by
    rw [List.length_cons, List.length_take_of_le (by rw [List.length_drop]; omega)]
  rw [Nat.add_sub_cancel_left, List.append_assoc (l.take t), Nat.add_assoc,
    getElem?_splice _ _ _ _ (by omega), List.singleton_append, hm]
  by_cases c1 : k < t
  · rw [if_pos c1, if_pos c1]
  · rw [if_neg c1, if_neg c1]
    obtain ⟨j, rfl⟩ := Nat.exists_eq_add_of_le (Nat.le_of_not_lt c1)
    rw [Nat.add_sub_cancel_left]
    cases j with
    | zero => rw [if_pos (by omega), if_pos (Nat.add_zero t)]; rfl
    | succ j =>
      by_cases c3 : j < d
      · rw [if_pos (by omega), if_neg (by omega), if_pos (by omega), List.getElem?_cons_succ,
          List.getElem?_take_of_lt c3, List.getElem?_drop]
        rfl
      · rw [if_neg (by omega), if_neg (by omega), if_neg (by omega)]
        congr 1; omega

/-- Number of `Z`/`X` spiders among the boxes: each becomes one vertex of the exported graph. -/
def nSpiders (bs : List ZBox) : Nat := (bs.filter ZBox.isSpider).length

theorem nSpiders_cons (b : ZBox) (bs : List ZBox) :
    nSpiders (b :: bs) = nSpiders bs + (if b.isSpider then 1 else 0) := by
  unfold nSpiders
  by_cases h : b.isSpider <;> simp [h]

theorem nSpiders_reverse (bs : List ZBox) : nSpiders bs.reverse = nSpiders bs := by
  simp [nSpiders, List.filter_reverse]

/-- Wire `k` below the box `b`, given the wires above it (`above`) and the vertex `new` that `b`
    creates if it is a spider: a spider's outputs come from `new`, a `SWAP` exchanges two wires, an
    `H` flips the parity of one.  This is the `b :: prev` clause of `producer` with the recursive
    calls abstracted (`producer_cons`), so that one box of the export loop can be described
    (`stepBox_ok`) without a list of earlier boxes. -/
def traceBox (b : ZBox) (above : Nat → Option (Nat × Bool)) (new k : Nat) : Option (Nat × Bool) :=
  if b.isSpider then
    (if k < b.off then above k
     else if k < b.off + b.nOut then some (new, false)
     else above (k - b.nOut + b.nIn))
  else if b.kind = .swap then
    (if k = b.off then above (b.off + 1) else if k = b.off + 1 then above b.off else above k)
  else if b.kind = .H then
    (if k = b.off then (above k).map (fun p => (p.1, !p.2)) else above k)
  else above k

/-- Follow wire `k` upwards through the boxes (`b :: prev`: `b` is the LAST box applied, `prev`
    the earlier ones, latest first) to the vertex that produced it, collecting the parity of the
    Hadamard boxes met on the way.  Vertex ids: inputs `0 … dom-1`, then one per spider in order. -/
def producer (dom : Nat) : List ZBox → Nat → Option (Nat × Bool)
  | [], k => if k < dom then some (k, false) else none
  | b :: prev, k =>
    if b.isSpider then
      (if k < b.off then producer dom prev k
       else if k < b.off + b.nOut then some (dom + nSpiders prev, false)
       else producer dom prev (k - b.nOut + b.nIn))
    else if b.kind = .swap then
      (if k = b.off then producer dom prev (b.off + 1)
       else if k = b.off + 1 then producer dom prev b.off else producer dom prev k)
    else if b.kind = .H then
      (if k = b.off then (producer dom prev k).map (fun p => (p.1, !p.2)) else producer dom prev k)
    else producer dom prev k

theorem producer_cons (dom : Nat) (b : ZBox) (prev : List ZBox) (k : Nat) :
    producer dom (b :: prev) k = traceBox b (producer dom prev) (dom + nSpiders prev) k := by
  rw [producer, traceBox]

/-- The vertex `to_pyzx` creates for a spider in row `row` (zx.py:100-103). -/
def spiderVertex (row : Nat) (b : ZBox) : Vertex :=
  ⟨vtypeOf b.kind, b.phase.export, (b.off : Int), (row : Int) + 1⟩

/-- One box of the loop (zx.py:98-119) that finds its inputs in the scan: never an `IndexError`;
    a spider adds its vertex and one edge per input leg and replaces the wires it takes by the
    wires it gives, the other boxes only rearrange or relabel the scan; read wire by wire, the new
    scan is `traceBox` of the old one. -/
theorem stepBox_ok (st : ExpState) (row : Nat) {b : ZBox} (hs : b.shaped = true)
    (hr : b.off + b.nIn ≤ st.scan.length) :
    ∃ scan', stepBox st row b = .ok
        { verts := st.verts ++ (if b.isSpider then [spiderVertex row b] else [])
          edges := st.edges ++
            (if b.isSpider then spiderEdges st.scan b.off b.nIn st.verts.length else [])
          scalar := if b.kind = .scalar then st.scalar.mul b.sc else st.scalar
          scan := scan' } ∧
      scan'.length = st.scan.length - b.nIn + b.nOut ∧
      (∀ k, scan'[k]? = traceBox b (st.scan[·]?) st.verts.length k) ∧
      (if b.isSpider then
        scan' = st.scan.take b.off ++ List.replicate b.nOut (st.verts.length, false)
          ++ st.scan.drop (b.off + b.nIn)
       else (scan'.map Prod.fst).Perm (st.scan.map Prod.fst)) := by
  by_cases hsp : b.isSpider = true
  · have hk : stepBox st row b = stepSpider st row b ∧ b.kind ≠ .scalar := by
      cases hk : b.kind <;> simp [ZBox.isSpider, hk, stepBox] at hsp ⊢
    have hne : ¬ (b.nIn ≠ 0 ∧ st.scan.length < b.off + b.nIn) := by omega
    refine ⟨st.scan.take b.off ++ List.replicate b.nOut (st.verts.length, false)
        ++ st.scan.drop (b.off + b.nIn), ?_, ?_, fun k => ?_, ?_⟩
    · simp only [hk.1, stepSpider, hne, hsp, hk.2, if_true, if_false, spiderVertex]
    · rw [length_splice _ _ _ _ hr, List.length_replicate]
    · rw [getElem?_splice _ _ _ _ (by omega), List.length_replicate]
      simp only [traceBox, hsp, if_true]
      by_cases h1 : k < b.off
      · rw [if_pos h1, if_pos h1]
      · rw [if_neg h1, if_neg h1]
        by_cases h2 : k < b.off + b.nOut
        · rw [if_pos h2, if_pos h2, List.getElem?_replicate, if_pos (by omega)]
        · rw [if_neg h2, if_neg h2]
    · simp only [hsp, if_true]
  have hsp' : b.isSpider = false := by simpa using hsp
  simp only [hsp', Bool.false_eq_true, if_false, List.append_nil, traceBox]
  cases hk : b.kind
  case Z => simp [ZBox.isSpider, hk] at hsp'
  case X => simp [ZBox.isSpider, hk] at hsp'
  case scalar =>
    have hio : b.nIn = 0 ∧ b.nOut = 0 := by simpa [ZBox.shaped, hk] using hs
    exact ⟨st.scan, by simp only [stepBox, hk, if_true], by omega,
      fun k => by simp only [reduceCtorEq, if_false], .refl _⟩
  case H =>
    have hio : b.nIn = 1 ∧ b.nOut = 1 := by simpa [ZBox.shaped, hk] using hs
    have hlt : b.off < st.scan.length := by omega
    obtain ⟨x, hx⟩ : ∃ x, st.scan[b.off]? = some x := ⟨_, List.getElem?_eq_getElem hlt⟩
    refine ⟨st.scan.set b.off (x.1, !x.2),
      by simp only [stepBox, hk, stepH, hx, reduceCtorEq, if_false],
      by rw [List.length_set]; omega, fun k => ?_, ?_⟩
    · simp only [reduceCtorEq, if_false, if_true, List.getElem?_set]
      by_cases h1 : k = b.off
      · subst h1; simp only [if_true, hlt, hx, Option.map_some]
      · rw [if_neg h1, if_neg (fun h => h1 h.symm)]
    · rw [List.map_set, set_eq_self (by rw [List.getElem?_map, hx]; rfl)]
  case swap =>
    have hio : b.nIn = 2 ∧ b.nOut = 2 := by simpa [ZBox.shaped, hk] using hs
    have hlt : b.off + 1 < st.scan.length := by omega
    obtain ⟨x, hx⟩ : ∃ x, st.scan[b.off]? = some x := ⟨_, List.getElem?_eq_getElem (by omega)⟩
    obtain ⟨y, hy⟩ : ∃ y, st.scan[b.off + 1]? = some y := ⟨_, List.getElem?_eq_getElem hlt⟩
    exact ⟨swapAt b.off st.scan,
      by simp only [stepBox, hk, stepSwap, hx, hy, swapAt_eq_take_drop hx hy, reduceCtorEq, if_false],
      by rw [length_swapAt]; omega,
      fun k => by simp only [if_true, getElem?_swapAt _ _ hlt],
      (swapAt_perm hx hy).map Prod.fst⟩

/-- The scan after the boxes `prev` (latest first) at width `w`: entry `k` is the producer of
    wire `k`. -/
structure ExpInv (dom : Nat) (st : ExpState) (prev : List ZBox) (w : Nat) : Prop where
  len : st.scan.length = w
  scan : ∀ k, st.scan[k]? = producer dom prev k
  nverts : st.verts.length = dom + nSpiders prev

theorem expInit_inv (dom : Nat) : ExpInv dom (expInit dom) [] dom := by
  refine ⟨by simp [expInit], ?_, by simp [expInit, nSpiders]⟩
  intro k
  simp only [expInit, producer, List.getElem?_map]
  by_cases h : k < dom <;> simp [h]

/-- Number of `add_edge` requests touching `v`. -/
def incident (es : List Edge) (v : Nat) : Nat := es.countP (fun e => e.s == v || e.t == v)

/-- Number of open wires currently produced by `v`. -/
def openLegs (scan : Scan) (v : Nat) : Nat := (scan.map Prod.fst).count v

/-- Legs of the vertex `v` after the boxes `prev` (latest first): 1 for an input boundary,
    `n_in + n_out` for a spider. -/
def legsOf (dom : Nat) : List ZBox → Nat → Nat
  | [], v => if v < dom then 1 else 0
  | b :: prev, v =>
    if b.isSpider = true ∧ v = dom + nSpiders prev then b.nIn + b.nOut else legsOf dom prev v

theorem legsOf_fresh (dom : Nat) (prev : List ZBox) (v : Nat) (h : dom + nSpiders prev ≤ v) :
    legsOf dom prev v = 0 := by
  induction prev with
  | nil => simp only [legsOf, nSpiders, List.filter_nil, List.length_nil] at *; split <;> omega
  | cons b prev ih =>
    rw [nSpiders_cons] at h
    simp only [legsOf]
    split
    · rename_i hc; have := hc.2; simp [hc.1] at h; omega
    · exact ih (by omega)

/-- Every edge requested so far and every open wire count as one leg of a vertex made so far. -/
structure DegInv (dom : Nat) (st : ExpState) (prev : List ZBox) : Prop where
  labels : ∀ p ∈ st.scan, p.1 < st.verts.length
  ends : ∀ e ∈ st.edges, e.s < e.t ∧ e.t < st.verts.length
  deg : ∀ v, incident st.edges v + openLegs st.scan v = legsOf dom prev v

theorem incident_append (a b : List Edge) (v : Nat) :
    incident (a ++ b) v = incident a v + incident b v := by simp [incident, List.countP_append]

theorem openLegs_append (a b : Scan) (v : Nat) :
    openLegs (a ++ b) v = openLegs a v + openLegs b v := by simp [openLegs, List.count_append]

theorem openLegs_replicate (k n : Nat) (h : Bool) (v : Nat) :
    openLegs (List.replicate k (n, h)) v = if v = n then k else 0 := by
  by_cases hv : v = n
  · simp [openLegs, hv]
  · have : ¬ n = v := fun h' => hv h'.symm
    simp [openLegs, List.count_replicate, hv, this]

/-- The edges into a new spider: all of them touch the spider, and each touches the producer of
    the wire it closes. -/
theorem incident_spiderEdges (B : Scan) (node v : Nat) :
    incident (B.map (fun sh => (⟨sh.1, node, etypeOf sh.2⟩ : Edge))) v =
      if v = node then B.length else openLegs B v := by
  simp only [incident, List.countP_map, openLegs, List.count_eq_countP]
  split
  · rename_i h
    exact List.countP_eq_length.2 (fun a _ => by simp [h])
  · rename_i h
    have : (node == v) = false := by simpa using fun h' => h h'.symm
    simp [Function.comp_def, this]

theorem openLegs_zero_of_lt (scan : Scan) (n v : Nat)
    (h : ∀ p ∈ scan, p.1 < n) (hv : n ≤ v) : openLegs scan v = 0 := by
  simp only [openLegs]
  apply List.count_eq_zero_of_not_mem
  intro hm
  obtain ⟨p, hp, rfl⟩ := List.mem_map.1 hm
  have := h p hp
  omega

theorem expInit_deg (dom : Nat) : DegInv dom (expInit dom) [] := by
  refine ⟨?_, by simp [expInit], ?_⟩
  · intro p hp
    simp only [expInit, List.mem_map, List.mem_range] at hp
    obtain ⟨i, hi, rfl⟩ := hp
    simpa [expInit] using hi
  · intro v
    simp only [expInit, incident, List.countP_nil, Nat.zero_add, openLegs, List.map_map, legsOf]
    have : (Prod.fst ∘ fun i => (i, false)) = (id : Nat → Nat) := rfl
    rw [this, List.map_id]
    exact List.count_range

/-- A new spider closes the wires `B` it takes and opens `nOut` wires, all its own. -/
theorem DegInv.spider {dom : Nat} {prev : List ZBox} {verts : List Vertex} {edges : List Edge}
    {sc sc' : Gauss} {A B C : Scan} (b : ZBox) (x : Vertex)
    (h : DegInv dom ⟨verts, edges, sc, A ++ B ++ C⟩ prev) (hn : verts.length = dom + nSpiders prev)
    (hsp : b.isSpider = true) (hB : B.length = b.nIn) :
    DegInv dom ⟨verts ++ [x], edges ++ B.map (fun sh => ⟨sh.1, verts.length, etypeOf sh.2⟩), sc',
      A ++ List.replicate b.nOut (verts.length, false) ++ C⟩ (b :: prev) := by
  have hlab : ∀ p ∈ A ++ B ++ C, p.1 < verts.length := h.labels
  have hends : ∀ e ∈ edges, e.s < e.t ∧ e.t < verts.length := h.ends
  have hlen : (verts ++ [x]).length = verts.length + 1 := List.length_append
  refine ⟨fun p hp => ?_, fun e he => ?_, fun v => ?_⟩
  · rw [hlen]
    rcases List.mem_append.1 hp with hp | hp
    · rcases List.mem_append.1 hp with hp | hp
      · exact Nat.lt_succ_of_lt (hlab p (by simp [hp]))
      · rw [(List.mem_replicate.1 hp).2]; exact Nat.lt_succ_self _
    · exact Nat.lt_succ_of_lt (hlab p (by simp [hp]))
  · rw [hlen]
    rcases List.mem_append.1 he with he | he
    · exact ⟨(hends e he).1, Nat.lt_succ_of_lt (hends e he).2⟩
    · obtain ⟨sh, hsh, rfl⟩ := List.mem_map.1 he
      exact ⟨hlab sh (by simp [hsh]), Nat.lt_succ_self _⟩
  · have h0 : incident edges v + openLegs (A ++ B ++ C) v = legsOf dom prev v := h.deg v
    show incident (edges ++ _) v + openLegs (A ++ _ ++ C) v = legsOf dom (b :: prev) v
    simp only [incident_append, openLegs_append, incident_spiderEdges, openLegs_replicate,
      legsOf, hsp, true_and, hB, ← hn] at h0 ⊢
    by_cases hv : v = verts.length
    · rw [legsOf_fresh dom prev v (by omega)] at h0
      simp only [hv, if_true] at h0 ⊢
      omega
    · simp only [hv, if_false]
      omega

/-- The other boxes leave vertices and edges alone and permute the labels of the scan. -/
theorem DegInv.wire {dom : Nat} {prev : List ZBox} {st : ExpState} {sc : Gauss} {scan' : Scan}
    (b : ZBox) (h : DegInv dom st prev) (hsp : b.isSpider = false)
    (hp : (scan'.map Prod.fst).Perm (st.scan.map Prod.fst)) :
    DegInv dom ⟨st.verts, st.edges, sc, scan'⟩ (b :: prev) := by
  refine ⟨fun p hp' => ?_, h.ends, fun v => ?_⟩
  · obtain ⟨q, hq, hq'⟩ := List.mem_map.1 (hp.mem_iff.1 (List.mem_map_of_mem hp'))
    rw [← hq']; exact h.labels q hq
  · show _ + openLegs scan' v = _
    rw [openLegs, hp.count_eq]
    simp only [legsOf, hsp, Bool.false_eq_true, false_and, if_false]
    exact h.deg v

/-- One box of a well-typed diagram: never an `IndexError`, and both invariants move on. -/
theorem stepBox_inv {dom : Nat} {st : ExpState} {prev : List ZBox} {w : Nat} (row : Nat) (b : ZBox)
    (inv : ExpInv dom st prev w) (dinv : DegInv dom st prev) (hs : b.shaped = true)
    (hr : b.off + b.nIn ≤ w) :
    ∃ st', stepBox st row b = .ok st' ∧ ExpInv dom st' (b :: prev) (w - b.nIn + b.nOut) ∧
      DegInv dom st' (b :: prev) ∧
      st'.edges = st.edges ++
        (if b.isSpider then spiderEdges st.scan b.off b.nIn st.verts.length else []) ∧
      st'.verts = st.verts ++ (if b.isSpider then [spiderVertex row b] else []) ∧
      st'.scalar = (if b.kind = .scalar then st.scalar.mul b.sc else st.scalar) := by
  obtain ⟨hlen, hscan, hnv⟩ := inv
  obtain ⟨scan', hok, hlen', hget, hcase⟩ := stepBox_ok st row hs (hlen ▸ hr)
  refine ⟨_, hok, ⟨by rw [← hlen]; exact hlen', fun k => ?_, ?_⟩, ?_, rfl, rfl, rfl⟩
  · rw [hget, producer_cons, hnv, funext hscan]
  · simp only [List.length_append, nSpiders_cons, hnv]
    split <;> simp only [List.length_cons, List.length_nil] <;> omega
  by_cases hsp : b.isSpider = true
  · simp only [hsp, if_true] at hcase ⊢
    subst hcase
    refine DegInv.spider (sc := st.scalar) b _ ?_ hnv hsp (List.length_take_of_le ?_)
    · rw [take_take_drop]; exact dinv
    · rw [List.length_drop]; omega
  · simp only [hsp, Bool.false_eq_true, if_false, List.append_nil] at hcase ⊢
    exact DegInv.wire b dinv (by simpa using hsp) hcase

/-! ## `to_pyzx`: closed form of the exported graph -/

/-- `producer` with a default; inside the width of the diagram the trace never fails and the
    default `(0, false)` is never taken (`ExpInv.scan_some`). -/
def producerD (dom : Nat) (prev : List ZBox) (k : Nat) : Nat × Bool :=
  (producer dom prev k).getD (0, false)

/-- The edge request from the producer `p.1` to `t`, Hadamard iff the parity `p.2` is odd. -/
def mkEdge (p : Nat × Bool) (t : Nat) : Edge := ⟨p.1, t, etypeOf p.2⟩

/-- Spider vertices in box order; `row` is the index of the first box of the list. -/
def specVerts : Nat → List ZBox → List Vertex
  | _, [] => []
  | row, b :: bs => (if b.isSpider then [spiderVertex row b] else []) ++ specVerts (row + 1) bs

/-- One edge per spider input leg: from the producer of the wire (traced upwards, with the parity
    of the H boxes on it as the edge type) to the spider. -/
def specEdges (dom : Nat) : List ZBox → List ZBox → List Edge
  | _, [] => []
  | prev, b :: bs =>
    (if b.isSpider then
      (List.range b.nIn).map (fun j => mkEdge (producerD dom prev (b.off + j)) (dom + nSpiders prev))
     else []) ++ specEdges dom (b :: prev) bs

/-- The scalar of the exported graph: `s` times the scalar boxes, in box order (zx.py:113-114). -/
def specScalar : Gauss → List ZBox → Gauss
  | s, [] => s
  | s, b :: bs => specScalar (if b.kind = .scalar then s.mul b.sc else s) bs

/-- Inside the width the trace never fails: the scan entry is the producer found by `producerD`. -/
theorem ExpInv.scan_some {dom : Nat} {st : ExpState} {prev : List ZBox} {w : Nat}
    (inv : ExpInv dom st prev w) {k : Nat} (hk : k < w) :
    st.scan[k]? = some (producerD dom prev k) := by
  have hlt : k < st.scan.length := inv.len ▸ hk
  rw [producerD, ← inv.scan, List.getElem?_eq_getElem hlt]
  rfl

theorem spiderEdges_eq {dom : Nat} {st : ExpState} {prev : List ZBox} {w : Nat}
    (inv : ExpInv dom st prev w) (off nIn node : Nat) (hr : off + nIn ≤ w) :
    spiderEdges st.scan off nIn node =
      (List.range nIn).map (fun j => mkEdge (producerD dom prev (off + j)) node) := by
  apply List.ext_getElem?
  intro j
  simp only [spiderEdges, List.getElem?_map, List.getElem?_take, List.getElem?_drop]
  by_cases hj : j < nIn
  · simp [hj, inv.scan_some (by omega : off + j < w), mkEdge]
  · have : nIn ≤ j := by omega
    simp [hj]

/-- The whole box loop (zx.py:98-119) on a well-typed box list. -/
theorem stepBoxes_spec {dom : Nat} (bs : List ZBox) :
    ∀ {st : ExpState} {prev : List ZBox} {w c : Nat} (row : Nat),
      ExpInv dom st prev w → DegInv dom st prev → widthAfter w bs = some c →
      ∃ st', stepBoxes st row bs = .ok st' ∧ ExpInv dom st' (bs.reverse ++ prev) c ∧
        DegInv dom st' (bs.reverse ++ prev) ∧
        st'.edges = st.edges ++ specEdges dom prev bs ∧
        st'.verts = st.verts ++ specVerts row bs ∧
        st'.scalar = specScalar st.scalar bs := by
  induction bs with
  | nil =>
    intro st prev w c row inv dinv hw
    cases hw
    exact ⟨st, rfl, inv, dinv, by simp [specEdges], by simp [specVerts], rfl⟩
  | cons b bs ih =>
    intro st prev w c row inv dinv hw
    simp only [widthAfter] at hw
    split at hw
    case isFalse => cases hw
    case isTrue hb =>
      obtain ⟨st1, h1, inv1, dinv1, he1, hv1, hs1⟩ := stepBox_inv row b inv dinv hb.1 hb.2
      obtain ⟨st2, h2, inv2, dinv2, he2, hv2, hs2⟩ := ih (row + 1) inv1 dinv1 hw
      rw [List.reverse_cons, List.append_assoc]
      refine ⟨st2, by simp only [stepBoxes, h1, h2], inv2, dinv2, ?_, ?_, ?_⟩
      · rw [he2, he1, specEdges, List.append_assoc]
        congr 2
        split
        · rw [spiderEdges_eq inv _ _ _ hb.2, inv.nverts]
        · rfl
      · rw [hv2, hv1, specVerts, List.append_assoc]
      · rw [hs2, hs1, specScalar]

/-- The graph `to_pyzx` returns for a well-typed diagram, written with `producer` only. -/
def specGraph (d : ZDiagram) : Graph :=
  { verts := (List.range d.dom).map (fun (i : Nat) => (⟨.boundary, ⟨0, 1⟩, (i : Int), 0⟩ : Vertex))
      ++ specVerts 0 d.boxes
      ++ (List.range d.cod).map
          (fun (i : Nat) => (⟨.boundary, ⟨0, 1⟩, (i : Int), (d.boxes.length : Int) + 1⟩ : Vertex))
    edges := specEdges d.dom [] d.boxes ++ (List.range d.cod).map
      (fun i => mkEdge (producerD d.dom d.boxes.reverse i) (d.dom + nSpiders d.boxes + i))
    inputs := List.range d.dom
    outputs := (List.range d.cod).map (d.dom + nSpiders d.boxes + ·)
    scalar := specScalar Gauss.one d.boxes }

theorem outEdges_eq {dom : Nat} {st : ExpState} {prev : List ZBox} {c : Nat}
    (inv : ExpInv dom st prev c) (base : Nat) :
    outEdges st.scan c base =
      (List.range c).map (fun i => mkEdge (producerD dom prev i) (base + i)) := by
  apply List.ext_getElem?
  intro j
  simp only [outEdges, List.getElem?_map, List.getElem?_zipIdx, List.getElem?_take]
  by_cases hj : j < c
  · simp [hj, inv.scan_some hj, mkEdge]
  · have : c ≤ j := by omega
    simp [hj]

structure ExpDone (d : ZDiagram) (st : ExpState) : Prop where
  inv : ExpInv d.dom st d.boxes.reverse d.cod
  deg : DegInv d.dom st d.boxes.reverse
  nverts : st.verts.length = d.dom + nSpiders d.boxes
  edges : st.edges = specEdges d.dom [] d.boxes
  verts : st.verts = (expInit d.dom).verts ++ specVerts 0 d.boxes
  scalar : st.scalar = specScalar Gauss.one d.boxes

theorem expRun_spec (d : ZDiagram) (h : d.WF) : ∃ st, expRun d = .ok st ∧ ExpDone d st := by
  obtain ⟨st, h1, inv, dinv, he, hv, hs⟩ :=
    stepBoxes_spec d.boxes 0 (expInit_inv d.dom) (expInit_deg d.dom) h
  rw [List.append_nil] at inv dinv
  exact ⟨st, h1, inv, dinv, by rw [inv.nverts, nSpiders_reverse], he, hv, hs⟩

/-- `to_pyzx` never raises on a well-typed diagram and returns `specGraph`. -/
theorem toPyzx_spec (d : ZDiagram) (h : d.WF) : toPyzx d = .ok (specGraph d) := by
  obtain ⟨st, h1, R⟩ := expRun_spec d h
  have hnl : ¬ st.scan.length < d.cod := by rw [R.inv.len]; omega
  simp only [toPyzx, h1, expFinish, hnl, if_false, R.edges, R.scalar, outEdges_eq R.inv, R.nverts]
  rw [R.verts]
  rfl

/-! ## `to_pyzx`: every vertex gets as many edges as it has legs -/

theorem deg_eq_incident (g : Graph) (v : Nat) : g.deg v = incident g.edges v := by
  simp only [Graph.deg, Graph.nbrs, List.length_filterMap_eq_countP, incident]
  congr 1
  funext e
  simp only [Edge.other?]
  by_cases h1 : e.s = v
  · simp [h1]
  · by_cases h2 : e.t = v <;> simp [h1, h2]

/-- The edges to the output boundaries (zx.py:120-126), numbered from `base + k` on: each touches
    the producer of its wire and its own boundary vertex. -/
theorem incident_outEdges (l : Scan) (base v : Nat) (hl : ∀ p ∈ l, p.1 < base) :
    ∀ k, incident ((l.zipIdx k).map (fun (x : (Nat × Bool) × Nat) =>
        (⟨x.1.1, base + x.2, etypeOf x.1.2⟩ : Edge))) v =
      openLegs l v + if base + k ≤ v ∧ v < base + k + l.length then 1 else 0 := by
  induction l with
  | nil => intro k; simp [incident, openLegs]
  | cons a l ih =>
    intro k
    have h1 := ih (fun p hp => hl p (List.mem_cons_of_mem _ hp)) (k + 1)
    have ha := hl a List.mem_cons_self
    simp only [incident, openLegs] at h1 ⊢
    simp only [List.zipIdx_cons, List.map_cons, List.countP_cons, List.count_cons, h1,
      List.length_cons, Bool.or_eq_true, beq_iff_eq]
    have e : (base + (k + 1) ≤ v ∧ v < base + (k + 1) + l.length) ↔
        (base + k ≤ v ∧ v < base + k + (l.length + 1)) ∧ base + k ≠ v := by omega
    by_cases h2 : base + k = v
    · have h3 : a.1 ≠ v := by omega
      simp only [e, h2, h3, ne_eq, not_true, and_false, false_or, if_true, if_false]
      rw [if_pos (by omega)]
    · by_cases h3 : a.1 = v
      · have hr : ¬ (base + k ≤ v ∧ v < base + k + (l.length + 1)) := by omega
        simp only [e, h2, h3, hr, false_and, or_false, if_true, if_false]
      · simp only [e, h2, h3, ne_eq, not_false_eq_true, and_true, or_self, if_false]
        omega

/-- Legs of vertex `v` of the exported graph: 1 for a boundary, `n_in + n_out` for a spider. -/
def vertexLegs (d : ZDiagram) (v : Nat) : Nat :=
  if v < d.dom + nSpiders d.boxes then legsOf d.dom d.boxes.reverse v
  else if v < d.dom + nSpiders d.boxes + d.cod then 1 else 0

theorem toPyzx_degree (d : ZDiagram) (h : d.WF) (v : Nat) :
    (specGraph d).deg v = vertexLegs d v := by
  obtain ⟨st, _, R⟩ := expRun_spec d h
  have hedges : (specGraph d).edges = st.edges ++ outEdges st.scan d.cod st.verts.length := by
    rw [R.edges, outEdges_eq R.inv, R.nverts]; rfl
  have htake : st.scan.take d.cod = st.scan := List.take_of_length_le (Nat.le_of_eq R.inv.len)
  rw [deg_eq_incident, hedges, incident_append, outEdges, htake,
    incident_outEdges _ _ _ R.deg.labels 0, ← Nat.add_assoc, R.deg.deg v, vertexLegs, R.inv.len,
    ← R.nverts]
  have hn := R.nverts
  by_cases hlt : v < st.verts.length
  · rw [if_pos hlt, if_neg (by omega)]; rfl
  · rw [if_neg hlt, legsOf_fresh _ _ _ (by rw [nSpiders_reverse]; omega)]
    simp only [Nat.add_zero, Nat.zero_add, Nat.le_of_not_lt hlt, true_and]

/-! ## `to_pyzx`: on a simple graph the neighbours of a vertex are distinct -/

theorem other?_eq_some {e : Edge} {v u : Nat} (h : e.other? v = some u) :
    (e.s = v ∧ e.t = u) ∨ (e.s = u ∧ e.t = v) := by
  simp only [Edge.other?] at h
  split at h
  · exact .inl ⟨‹_›, Option.some.inj h⟩
  · split at h
    · exact .inr ⟨Option.some.inj h, ‹_›⟩
    · cases h

theorem nbrs_nodup_of_simple (es : List Edge) (h : simpleEdges es = true) (v : Nat) :
    (es.filterMap (·.other? v)).Nodup := by
  induction es with
  | nil => simp
  | cons e es ih =>
    simp only [simpleEdges, Bool.and_eq_true, Bool.not_eq_true', List.any_eq_false] at h
    obtain ⟨⟨_, hno⟩, hrest⟩ := h
    rw [List.filterMap_cons]
    cases ho : e.other? v with
    | none => exact ih hrest
    | some u =>
      refine List.nodup_cons.2 ⟨fun hm => ?_, ih hrest⟩
      -- a later edge with the same neighbour joins the same pair of vertices
      obtain ⟨f, hf, hfu⟩ := List.mem_filterMap.1 hm
      apply hno f hf
      simp only [Edge.joins, Bool.or_eq_true, Bool.and_eq_true, beq_iff_eq]
      rcases other?_eq_some ho with ⟨a, b⟩ | ⟨a, b⟩ <;>
        rcases other?_eq_some hfu with ⟨c, d⟩ | ⟨c, d⟩ <;> simp [a, b, c, d]

/-- The action on the wires of `SWAP` boxes at the offsets listed, first offset first. -/
def applySwaps {α} : List Nat → List α → List α
  | [], l => l
  | o :: os, l => applySwaps os (swapAt o l)

theorem applySwaps_append {α} (os ps : List Nat) (l : List α) :
    applySwaps (os ++ ps) l = applySwaps ps (applySwaps os l) := by
  induction os generalizing l with
  | nil => rfl
  | cons o os ih => exact ih _

theorem swapsLeft_self (t : Nat) : swapsLeft t t = [] := by simp [swapsLeft]

/-- The last `SWAP` of a left move is the one at `target`. -/
theorem swapsLeft_eq_append (s t : Nat) (h : t < s) : swapsLeft s t = swapsLeft s (t + 1) ++ [t] := by
  have e : s - t = s - (t + 1) + 1 := by omega
  simp only [swapsLeft, e, List.range_succ, List.map_append, List.map_cons, List.map_nil]
  congr 2; omega

/-- The swaps of a left move carry the entry behind `M` to its front. -/
theorem applySwaps_swapsLeft_append {α} (M : List α) (x : α) (C : List α) :
    ∀ A, applySwaps (swapsLeft (A.length + M.length) A.length) (A ++ M ++ x :: C) =
      A ++ x :: M ++ C := by
  induction M with
  | nil => intro A; simp [swapsLeft_self, applySwaps]
  | cons m M ih =>
    intro A
    have := ih (A ++ [m])
    simp only [List.length_append, List.length_singleton, List.append_assoc, List.cons_append,
      List.nil_append] at this
    rw [List.length_cons, swapsLeft_eq_append _ _ (by omega), applySwaps_append,
      show A.length + (M.length + 1) = A.length + 1 + M.length by omega]
    simp only [List.append_assoc, List.cons_append, this, applySwaps]
    exact swapAt_append A m x (M ++ C) rfl

/-- The swaps of a left move carry the wire at `source` to `target` and shift the wires in
    between one place to the right; all other wires stay. -/
theorem applySwaps_swapsLeft {α} (t s : Nat) (l : List α) (ht : t ≤ s) (hs : s < l.length) :
    applySwaps (swapsLeft s t) l =
      l.take t ++ [l[s]] ++ (l.drop t).take (s - t) ++ l.drop (s + 1) := by
  have hA : (l.take t).length = t := List.length_take_of_le (by omega)
  have hM : ((l.drop t).take (s - t)).length = s - t :=
    List.length_take_of_le (by rw [List.length_drop]; omega)
  have h := applySwaps_swapsLeft_append ((l.drop t).take (s - t)) l[s] (l.drop (s + 1)) (l.take t)
  have hl : l.take t ++ (l.drop t).take (s - t) ++ l.drop s = l := by
    have := take_take_drop l t (s - t)
    rwa [Nat.add_sub_cancel' ht] at this
  rw [hA, hM, Nat.add_sub_cancel' ht, ← List.drop_eq_getElem_cons hs, hl] at h
  rw [h]
  simp

/-- With the repaired label the bookkeeping of a left move is exactly the action of the swaps. -/
theorem move_left_fixed (fix : Fix) (hf : fix.moveLabel = true) (node : Nat) (scan : List Nat)
    (source target : Nat) (hlt : target < source) (h2 : source < scan.length) :
    (move fix node scan source target).1 = applySwaps (swapsLeft source target) scan := by
  rw [applySwaps_swapsLeft target source scan (by omega) h2]
  simp [move, hlt, hf, List.getD_eq_getElem?_getD, List.getElem?_eq_getElem h2]

/-- Every `SWAP` of a `move` lies inside the width `move` reports for `swaps`. -/
theorem move_swaps_le (fix : Fix) (node : Nat) (scan : List Nat) (source target : Nat) :
    ∀ o ∈ (move fix node scan source target).2.1,
      o + 2 ≤ (move fix node scan source target).2.2 := by
  intro o ho
  rcases Nat.lt_trichotomy target source with hlt | rfl | hgt
  · simp only [move, hlt, if_true, swapsLeft, List.mem_map, List.mem_range] at ho ⊢
    obtain ⟨k, hk, rfl⟩ := ho
    omega
  · simp [move] at ho
  · have hn : ¬ target < source := by omega
    simp only [move, hn, hgt, if_true, if_false, swapsRight, List.mem_map, List.mem_range] at ho ⊢
    obtain ⟨k, hk, rfl⟩ := ho
    omega

/-- A `move` whose `swaps` have the width of the scan keeps the number of open wires. -/
theorem move_length (fix : Fix) (node : Nat) (scan : List Nat) (source target : Nat)
    (h : (move fix node scan source target).2.2 = scan.length) :
    (move fix node scan source target).1.length = scan.length := by
  -- in each branch the new scan is made of the pieces of the old one, one entry relabelled
  rcases Nat.lt_trichotomy target source with hlt | rfl | hgt
  · simp only [move, hlt, if_true] at h ⊢
    have hs : source < scan.length := by omega
    conv => rhs; rw [← take_take_drop scan target (source - target),
      Nat.add_sub_cancel' (Nat.le_of_lt hlt), List.drop_eq_getElem_cons hs]
    simp only [List.length_append, List.length_cons, List.length_nil]
    omega
  · simp [move]
  · have hn : ¬ target < source := by omega
    simp only [move, hn, hgt, if_true, if_false] at h ⊢
    have hs : source < scan.length := by omega
    have e1 : source + 1 + (target - source) = target + 1 := by omega
    have e2 : source + 1 + (target - (source + 1)) = target := by omega
    split
    · conv => rhs; rw [← List.take_append_drop source scan, List.drop_eq_getElem_cons hs,
        ← List.take_append_drop (target - source) (scan.drop (source + 1))]
      simp only [List.length_append, List.length_cons, List.length_nil, List.drop_drop, e1]
      omega
    · conv => rhs; rw [← List.take_append_drop source scan, List.drop_eq_getElem_cons hs,
        ← List.take_append_drop (target - (source + 1)) (scan.drop (source + 1))]
      simp only [List.length_append, List.length_cons, List.length_nil, List.drop_drop, e2]
      omega

/-! ## `from_pyzx`: what every path that does not raise adds to the diagram

`zx.py:149-217` keeps two things in step: the diagram under construction (whose codomain the model
carries as `Acc.cod`) and `scan`, the list of vertex labels of the open wires.  The code never
compares them — every `>>` only checks the type computed from `len(scan)` by `move` or by the
identities around a spider.  `Acc.Extends` collects what one successful stretch of the code does:
the diagram stays well-typed, only spiders made from inner vertices are added, a spider trades
`nIn` wires for `nOut`, and `cod = len(scan)` is kept.  Each function of the import is shown to
extend its accumulator once; the theorems about `from_pyzx` read their part off the result. -/

theorem widthAfter_append (w : Nat) (xs ys : List ZBox) :
    widthAfter w (xs ++ ys) = (widthAfter w xs).bind (fun w' => widthAfter w' ys) := by
  induction xs generalizing w with
  | nil => simp [widthAfter]
  | cons b xs ih =>
    simp only [List.cons_append, widthAfter]
    split
    · exact ih _
    · rfl

/-- Boxes that keep the width (`SWAP`, `H`) and lie inside it. -/
theorem widthAfter_same (w : Nat) (bs : List ZBox)
    (h : ∀ b ∈ bs, b.shaped = true ∧ b.nIn = b.nOut ∧ b.off + b.nIn ≤ w) :
    widthAfter w bs = some w := by
  induction bs with
  | nil => rfl
  | cons b bs ih =>
    obtain ⟨h1, h2, h3⟩ := h b (List.mem_cons_self)
    simp only [widthAfter, h1, h3, and_self, if_true]
    have : w - b.nIn + b.nOut = w := by omega
    rw [this]
    exact ih (fun b hb => h b (List.mem_cons_of_mem _ hb))

/-- Colour and phase (in full turns) of the spider box made from vertex `v` (zx.py:151-155). -/
def vertexKP (g : Graph) (v : Nat) : Option (ZKind × Phase) :=
  match g.verts[v]? with
  | some ⟨.Z, p, _, _⟩ => some (.Z, p.import)
  | some ⟨.X, p, _, _⟩ => some (.X, p.import)
  | _ => none

def spidersKP (bs : List ZBox) : List (Option (ZKind × Phase)) :=
  (bs.filter ZBox.isSpider).map (fun b => some (b.kind, b.phase))

theorem spidersKP_append (xs ys : List ZBox) : spidersKP (xs ++ ys) = spidersKP xs ++ spidersKP ys := by
  simp [spidersKP, List.filter_append]

theorem spidersKP_none (bs : List ZBox) (h : ∀ b ∈ bs, b.isSpider = false) : spidersKP bs = [] := by
  simp only [spidersKP, List.map_eq_nil_iff, List.filter_eq_nil_iff]
  intro b hb; simp [h b hb]

def AccWF (dom : Nat) (a : Acc) : Prop := widthAfter dom a.boxes = some a.cod

def Acc.Bal (a : Acc) : Prop := a.cod = a.scan.length

/-- `Σ_{v ∈ vs} len(f v)`: the wires that the vertices `vs` take (`f = nodeInputs g`) or give
    (`f = nodeOutputs g`) in all. -/
def sumLen (f : Nat → List Nat) (vs : List Nat) : Nat := (vs.map (fun v => (f v).length)).sum

/-- `a'` continues `a`: the boxes added keep the diagram well-typed, their spiders are `kps`, they
    take `i` wires and give `o` in all, and the scan still has one entry per wire if it had. -/
structure Acc.Extends (a a' : Acc) (kps : List (Option (ZKind × Phase))) (i o : Nat) : Prop where
  wf : ∀ {dom}, AccWF dom a → AccWF dom a'
  spiders : spidersKP a'.boxes = spidersKP a.boxes ++ kps
  cod : a'.cod + i = a.cod + o
  bal : a.Bal → a'.Bal

theorem Acc.Extends.refl (a : Acc) : a.Extends a [] 0 0 :=
  ⟨id, (List.append_nil _).symm, rfl, id⟩

theorem Acc.Extends.trans {a b c : Acc} {k₁ k₂ i₁ i₂ o₁ o₂} (h₁ : a.Extends b k₁ i₁ o₁)
    (h₂ : b.Extends c k₂ i₂ o₂) : a.Extends c (k₁ ++ k₂) (i₁ + i₂) (o₁ + o₂) :=
  ⟨fun h => h₂.wf (h₁.wf h), by rw [h₂.spiders, h₁.spiders, List.append_assoc],
    by have := h₁.cod; have := h₂.cod; omega, fun h => h₂.bal (h₁.bal h)⟩

/-- Appending boxes `bs` that form a well-typed diagram on the current codomain. -/
theorem Acc.Extends.of_boxes {a a' : Acc} {i o : Nat} (bs : List ZBox)
    (hb : a'.boxes = a.boxes ++ bs) (hw : widthAfter a.cod bs = some a'.cod)
    (hc : a'.cod + i = a.cod + o) (hbal : a.Bal → a'.Bal) : a.Extends a' (spidersKP bs) i o := by
  refine ⟨fun h => ?_, by rw [hb, spidersKP_append], hc, hbal⟩
  have h' : widthAfter _ a.boxes = some a.cod := h
  simp only [AccWF, hb, widthAfter_append, h', Option.bind_some, hw]

/-- Boxes that only rearrange wires (`SWAP`, `H` inside the width) change neither type nor spiders. -/
theorem Acc.Extends.of_wiring {a a' : Acc} (bs : List ZBox) (hb : a'.boxes = a.boxes ++ bs)
    (h : ∀ b ∈ bs, b.isSpider = false ∧ b.shaped = true ∧ b.nIn = b.nOut ∧ b.off + b.nIn ≤ a.cod)
    (hc : a'.cod = a.cod) (hbal : a.Bal → a'.Bal) : a.Extends a' [] 0 0 := by
  rw [← spidersKP_none bs (fun b hb => (h b hb).1)]
  exact .of_boxes bs hb (hc ▸ widthAfter_same a.cod bs (fun b hb => (h b hb).2)) (by omega) hbal

/-- `diagram >> swaps` after a `move` that is accepted (zx.py:180-181, 214-215). -/
theorem Acc.moved_extends {a a' : Acc} {fix : Fix} {node source target : Nat}
    (h : a.moved fix node source target = .ok a') : a.Extends a' [] 0 0 := by
  simp only [Acc.moved] at h
  split at h
  · cases h
  · rename_i hc
    simp only [ne_eq, Decidable.not_not] at hc
    cases h
    refine .of_wiring _ rfl ?_ rfl (fun hb => ?_)
    · intro b hb
      obtain ⟨o, ho, rfl⟩ := List.mem_map.1 hb
      have := move_swaps_le fix node a.scan source target o ho
      exact ⟨rfl, rfl, rfl, by simp only [swapBox]; omega⟩
    · exact hb.trans (move_length fix node a.scan source target (hc.symm.trans hb)).symm

theorem adjLoop_extends (fix : Fix) (node offset : Nat) (vs : List Nat) :
    ∀ {a a' : Acc} (i : Nat), adjLoop fix node offset a i vs = .ok a' → a.Extends a' [] 0 0 := by
  induction vs with
  | nil => intro a a' i h; cases h; exact .refl a
  | cons v vs ih =>
    intro a a' i h
    simp only [adjLoop] at h
    split at h
    · cases h
    · split at h
      · cases h
      · rename_i hm
        exact (Acc.moved_extends hm).trans (ih (i + 1) h)

theorem makeWiresAdjacent_extends {fix : Fix} {node : Nat} {a a' : Acc} {offset : Nat}
    {inputs : List Nat} (h : makeWiresAdjacent fix node a inputs = .ok (a', offset)) :
    a.Extends a' [] 0 0 := by
  cases inputs with
  | nil => cases h; exact .refl a
  | cons v vs =>
    simp only [makeWiresAdjacent] at h
    split at h
    · cases h
    · split at h
      · cases h
      · rename_i hl
        cases h
        exact adjLoop_extends fix node _ vs 0 hl

theorem hadamardBoxes_mem {g : Graph} {node offset : Nat} {labels : List Nat} {b : ZBox}
    (h : b ∈ hadamardBoxes g node offset labels) :
    ∃ j, j < labels.length ∧ b = hBox (offset + j) := by
  simp only [hadamardBoxes, List.mem_filterMap] at h
  obtain ⟨⟨v, j⟩, hm, hb⟩ := h
  have hj : j < labels.length := by
    have := List.mem_zipIdx hm
    simpa using this.2.1
  split at hb
  · cases hb; exact ⟨j, hj, rfl⟩
  · cases hb

/-- The box made from a vertex is a spider with the arities and offset asked for, and the colour
    and halved phase of the vertex. -/
theorem node2box_ok {g : Graph} {node nIn nOut off : Nat} {box : ZBox}
    (h : node2box g node nIn nOut off = .ok box) :
    box.isSpider = true ∧ box.nIn = nIn ∧ box.nOut = nOut ∧ box.off = off ∧
      vertexKP g node = some (box.kind, box.phase) := by
  simp only [node2box] at h
  split at h
  · rename_i hv; cases h; simp [vertexKP, hv, ZBox.isSpider]
  · rename_i hv; cases h; simp [vertexKP, hv, ZBox.isSpider]
  · cases h

theorem shaped_of_isSpider {b : ZBox} (h : b.isSpider = true) : b.shaped = true := by
  simp only [ZBox.isSpider, Bool.or_eq_true, beq_iff_eq] at h
  rcases h with h | h <;> simp [ZBox.shaped, h]

/-- zx.py:205-209: the H boxes and the spider fit on the `nIn` wires at `offset`; the spider takes
    them and gives `nOut`. -/
theorem placeSpider_extends {g : Graph} {node : Nat} {a a' : Acc} {offset nIn nOut : Nat}
    (h : placeSpider g node a offset nIn nOut = .ok a') :
    a.Extends a' [vertexKP g node] nIn nOut := by
  simp only [placeSpider] at h
  split at h
  · cases h
  · rename_i box hbox
    obtain ⟨hsp, rfl, rfl, rfl, hkp⟩ := node2box_ok hbox
    split at h
    · cases h
    · rename_i hc
      simp only [ne_eq, Decidable.not_not] at hc
      cases h
      have hle : box.off + box.nIn ≤ a.cod := by omega
      have hcod : box.off + box.nOut + (a.cod - box.off - box.nIn) = a.cod - box.nIn + box.nOut := by
        omega
      have hH : ∀ b ∈ hadamardBoxes g node box.off ((a.scan.drop box.off).take box.nIn),
          b.isSpider = false ∧ b.shaped = true ∧ b.nIn = b.nOut ∧ b.off + b.nIn ≤ a.cod := by
        intro b hb
        obtain ⟨j, hj, rfl⟩ := hadamardBoxes_mem hb
        have hj' : j < box.nIn := Nat.lt_of_lt_of_le hj (List.length_take_le _ _)
        exact ⟨rfl, rfl, rfl, by simp only [hBox]; omega⟩
      have hk : spidersKP (hadamardBoxes g node box.off ((a.scan.drop box.off).take box.nIn)
          ++ [box]) = [vertexKP g node] := by
        rw [spidersKP_append, spidersKP_none _ (fun b hb => (hH b hb).1)]
        simp [spidersKP, hsp, hkp]
      rw [← hk]
      refine .of_boxes _ (List.append_assoc _ _ _) ?_ ?_ (fun hb => ?_)
      · rw [widthAfter_append, widthAfter_same _ _ (fun b hb => (hH b hb).2)]
        simp only [Option.bind_some, widthAfter, shaped_of_isSpider hsp, hle, and_self, if_true, hcod]
      · show box.off + box.nOut + (a.cod - box.off - box.nIn) + box.nIn = a.cod + box.nOut
        omega
      · have hb' : a.cod = a.scan.length := hb
        show box.off + box.nOut + (a.cod - box.off - box.nIn) = (_ ++ _ ++ _ : List Nat).length
        rw [length_splice _ _ _ _ (hb' ▸ hle), List.length_replicate, hcod, hb']

/-! `inputs.sort(key=scan.index)` (zx.py:198) returns as many wires as it was given: only the
length is needed, for the arity of the spider. -/

theorem length_insertByKey (kv : Nat × Nat) (l : List (Nat × Nat)) :
    (insertByKey kv l).length = l.length + 1 := by
  induction l with
  | nil => rfl
  | cons x xs ih =>
    simp only [insertByKey]
    split
    · rfl
    · simp only [List.length_cons, ih]

theorem length_sortByKey (kvs : List (Nat × Nat)) : (sortByKey kvs).length = kvs.length := by
  suffices h : ∀ (acc : List (Nat × Nat)),
      (kvs.foldl (fun acc kv => insertByKey kv acc) acc).length = acc.length + kvs.length by
    simpa [sortByKey] using h []
  induction kvs with
  | nil => intro acc; rfl
  | cons kv kvs ih =>
    intro acc
    simp only [List.foldl_cons, ih, length_insertByKey, List.length_cons]
    omega

theorem length_mapM_option {α β} (f : α → Option β) :
    ∀ (l : List α) (r : List β), l.mapM f = some r → r.length = l.length
  | [], r, h => by cases h; rfl
  | x :: xs, r, h => by
    simp only [List.mapM_cons, Option.pure_def, Option.bind_eq_bind, Option.bind_eq_some_iff,
      Option.some.injEq] at h
    obtain ⟨y, -, ys, hys, rfl⟩ := h
    simp only [List.length_cons, length_mapM_option f xs ys hys]

theorem length_sortByScan {scan vs r : List Nat} (h : sortByScan scan vs = .ok r) :
    r.length = vs.length := by
  simp only [sortByScan] at h
  split at h
  · cases h
  · rename_i kvs hk
    cases h
    rw [List.length_map, length_sortByKey, length_mapM_option _ _ _ hk]

/-- One inner vertex (zx.py:194-209): the open wires it is joined to from above go in, its later
    neighbours come out. -/
theorem importNode_extends {fix : Fix} {g : Graph} {a a' : Acc} {node : Nat}
    (h : importNode fix g a node = .ok a') :
    a.Extends a' [vertexKP g node] (nodeInputs g node).length (nodeOutputs g node).length := by
  simp only [importNode] at h
  split at h
  · cases h
  · rename_i inputs hs
    split at h
    · cases h
    · rename_i hm
      rw [← length_sortByScan hs]
      simpa using (makeWiresAdjacent_extends hm).trans (placeSpider_extends h)

theorem importNodes_extends (fix : Fix) (g : Graph) (vs : List Nat) :
    ∀ {a a' : Acc}, importNodes fix g a vs = .ok a' →
      a.Extends a' (vs.map (vertexKP g)) (sumLen (nodeInputs g) vs) (sumLen (nodeOutputs g) vs) := by
  induction vs with
  | nil => intro a a' h; cases h; exact .refl a
  | cons v vs ih =>
    intro a a' h
    simp only [importNodes] at h
    split at h
    · cases h
    · rename_i h1
      exact (importNode_extends h1).trans (ih h)

/-- One output (zx.py:210-216): its wire is moved to `target`, which therefore exists. -/
theorem importOutput_extends {fix : Fix} {g : Graph} {a a' : Acc} {target output : Nat}
    (h : importOutput fix g a target output = .ok a') :
    a.Extends a' [] 0 0 ∧ (a.Bal → target < a.cod) := by
  simp only [importOutput] at h
  split at h                -- `node, = graph.neighbors(output)`
  · split at h              -- `scan.index(node …)`: `outputSource`
    · cases h
    · split at h            -- `diagram >> swaps`: `Acc.moved`
      · cases h
      · rename_i a1 hm
        have e1 := Acc.moved_extends hm
        split at h          -- `>> Id(target) @ hadamard @ Id(…)`: the codomain check
        · cases h
        · rename_i hc
          simp only [ne_eq, Decidable.not_not] at hc
          cases h
          refine ⟨e1.trans (k₂ := []) (i₂ := 0) (o₂ := 0) ?_, fun hb => ?_⟩
          · refine .of_wiring _ rfl (fun b hb => ?_) rfl id
            split at hb
            · cases List.mem_singleton.1 hb
              exact ⟨rfl, rfl, rfl, by simp only [hBox]; omega⟩
            · cases hb
          · have h1 : a1.cod = a1.scan.length := e1.bal hb
            have := e1.cod
            omega
  · cases h

theorem importOutputs_extends (fix : Fix) (g : Graph) (os : List Nat) :
    ∀ {a a' : Acc} (target : Nat), importOutputs fix g a target os = .ok a' →
      a.Extends a' [] 0 0 ∧ (a.Bal → os.length ≤ a.cod - target) := by
  induction os with
  | nil => intro a a' t h; cases h; exact ⟨.refl a, fun _ => Nat.zero_le _⟩
  | cons o os ih =>
    intro a a' t h
    simp only [importOutputs] at h
    split at h
    · cases h
    · rename_i a1 h1
      obtain ⟨e1, t1⟩ := importOutput_extends h1
      obtain ⟨e2, t2⟩ := ih (t + 1) h
      refine ⟨e1.trans e2, fun hb => ?_⟩
      have := t1 hb
      have := t2 (e1.bal hb)
      have := e1.cod
      simp only [List.length_cons]
      omega

/-- What `from_pyzx` returns, on every graph and for every combination of the repairs: the
    accumulator after the inner vertices (zx.py:194-209) and the outputs (zx.py:210-216). -/
theorem fromPyzxWith_ok {fix : Fix} {g : Graph} {d : ZDiagram} (h : fromPyzxWith fix g = .ok d) :
    ∃ a : Acc, d = ⟨g.inputs.length, a.cod, a.boxes⟩ ∧ g.outputs.length ≤ a.cod ∧
      Acc.Extends ⟨[], g.inputs.length, g.inputs⟩ a ((innerNodes g).map (vertexKP g))
        (sumLen (nodeInputs g) (innerNodes g)) (sumLen (nodeOutputs g) (innerNodes g)) := by
  simp only [fromPyzxWith] at h
  split at h                -- `missingBoundary`
  · cases h
  · split at h              -- `duplicateBoundary`
    · cases h
    · split at h            -- the loop over the inner vertices: `importNodes`
      · cases h
      · rename_i a h1
        split at h          -- the loop over the outputs: `importOutputs`
        · cases h
        · rename_i a' h2
          cases h
          have e1 := importNodes_extends fix g _ h1
          obtain ⟨e2, t2⟩ := importOutputs_extends fix g _ 0 h2
          have := t2 (e1.bal rfl)
          have := e2.cod
          exact ⟨a', rfl, by omega, by simpa using e1.trans e2⟩

/-- The spiders of the imported diagram are the inner vertices of the graph, in vertex order,
    each with its colour and half its pyzx phase — with the repairs switched on or off. -/
theorem fromPyzxWith_spiders (fix : Fix) (g : Graph) (d : ZDiagram)
    (h : fromPyzxWith fix g = .ok d) : spidersKP d.boxes = (innerNodes g).map (vertexKP g) := by
  obtain ⟨a, rfl, _, e⟩ := fromPyzxWith_ok h
  exact e.spiders

/-! ## `from_pyzx`: refusal of undeclared / shared boundaries -/

theorem missingBoundary_iff (g : Graph) :
    missingBoundary g = true ↔
      ∃ v, ∃ _ : v < g.verts.length, (g.verts[v]).ty = .boundary ∧ v ∉ g.inputs ∧ v ∉ g.outputs := by
  simp only [missingBoundary, List.any_eq_true, Bool.and_eq_true, beq_iff_eq, Bool.not_eq_true',
    List.contains_eq_mem, List.mem_append, decide_eq_false_iff_not, not_or, Prod.exists]
  constructor
  · rintro ⟨a, i, hm, hty, hni⟩
    obtain ⟨_, hi, hget⟩ := List.mem_zipIdx hm
    simp only [Nat.zero_add, Nat.sub_zero] at hi hget
    exact ⟨i, hi, by rw [← hget]; exact hty, hni⟩
  · rintro ⟨v, hv, hty, hni⟩
    refine ⟨g.verts[v], v, ?_, hty, hni⟩
    have := List.mk_mem_zipIdx_iff_getElem? (l := g.verts) (i := v) (x := g.verts[v])
    simpa using this.2 (List.getElem?_eq_getElem hv)

theorem duplicateBoundary_iff (g : Graph) :
    duplicateBoundary g = true ↔ ∃ v, v ∈ g.inputs ∧ v ∈ g.outputs := by
  simp [duplicateBoundary, List.any_eq_true]

theorem fromPyzxWith_refuses (fix : Fix) (g : Graph)
    (h : missingBoundary g = true ∨ duplicateBoundary g = true) :
    fromPyzxWith fix g = .error .value := by
  simp only [fromPyzxWith]
  rcases h with h | h
  · simp [h]
  · by_cases h' : missingBoundary g = true <;> simp [h, h']

/-- With the repaired search the output loop never asks for a right move: the off-by-one branch
    of `move` is dead code there. -/
theorem outputSource_ge (fix : Fix) (hf : fix.outputSearch = true) (scan : List Nat)
    (node target s : Nat) (h : outputSource fix scan node target = some s) :
    target ≤ s ∧ scan[s]? = some node := by
  simp only [outputSource, hf, if_true, Option.map_eq_some_iff] at h
  obtain ⟨i, hi, rfl⟩ := h
  refine ⟨by omega, ?_⟩
  have := List.of_findIdx?_eq_some (xs := scan.drop target) (p := fun x => x == node) (i := i)
    (by simpa [List.idxOf?] using hi)
  simp only [List.getElem?_drop] at this
  cases hget : scan[target + i]? with
  | none => simp [hget] at this
  | some x => simp [hget] at this; rw [this]

/-! ## round trip: the spiders come back, with their colours and phases mod 1 -/

/-- `vertexKP` for a vertex in hand instead of a graph and an index (`vertexKP_eq`), to be mapped
    over the vertices `specVerts` lists. -/
def kpOfVertex (v : Vertex) : Option (ZKind × Phase) :=
  match v with
  | ⟨.Z, p, _, _⟩ => some (.Z, p.import)
  | ⟨.X, p, _, _⟩ => some (.X, p.import)
  | _ => none

theorem vertexKP_eq (g : Graph) (v : Nat) : vertexKP g v = (g.verts[v]?).bind kpOfVertex := by
  simp only [vertexKP]
  cases g.verts[v]? with
  | none => rfl
  | some x => obtain ⟨ty, p, q, r⟩ := x; cases ty <;> rfl

theorem length_specVerts (row : Nat) (bs : List ZBox) : (specVerts row bs).length = nSpiders bs := by
  induction bs generalizing row with
  | nil => rfl
  | cons b bs ih =>
    simp only [specVerts, List.length_append, ih, nSpiders_cons]
    by_cases h : b.isSpider = true <;> simp [h] <;> omega

theorem specVerts_kp (row : Nat) (bs : List ZBox) :
    (specVerts row bs).map kpOfVertex =
      (bs.filter ZBox.isSpider).map (fun b => some (b.kind, b.phase.export.import)) := by
  induction bs generalizing row with
  | nil => rfl
  | cons b bs ih =>
    simp only [specVerts, List.map_append, ih, List.filter_cons]
    cases hk : b.kind <;>
      simp [ZBox.isSpider, hk, spiderVertex, vtypeOf, kpOfVertex]

/-- Of `a + b + c` consecutive numbers the first `a` and the last `c` are struck out. -/
theorem filter_range_middle (a b c : Nat) (bad : List Nat) (h1 : ∀ v, v < a → v ∈ bad)
    (h2 : ∀ i, i < b → a + i ∉ bad) (h3 : ∀ i, i < c → a + b + i ∈ bad) :
    (List.range (a + b + c)).filter (fun v => !bad.contains v) = (List.range b).map (a + ·) := by
  rw [List.range_add, List.range_add, List.filter_append, List.filter_append,
    List.filter_eq_nil_iff.2, List.filter_eq_self.2, List.filter_eq_nil_iff.2, List.nil_append,
    List.append_nil]
  · intro v hv
    obtain ⟨i, hi, rfl⟩ := List.mem_map.1 hv
    simpa using h3 i (List.mem_range.1 hi)
  · intro v hv
    obtain ⟨i, hi, rfl⟩ := List.mem_map.1 hv
    simpa using h2 i (List.mem_range.1 hi)
  · intro v hv
    simpa using h1 v (List.mem_range.1 hv)

theorem innerNodes_specGraph (d : ZDiagram) :
    innerNodes (specGraph d) = (List.range (nSpiders d.boxes)).map (d.dom + ·) := by
  have hlen : (specGraph d).verts.length = d.dom + nSpiders d.boxes + d.cod := by
    simp [specGraph, length_specVerts]; omega
  rw [innerNodes, hlen]
  refine filter_range_middle _ _ _ _ (fun v hv => ?_) (fun i hi => ?_) (fun i hi => ?_)
  · exact List.mem_append_left _ (List.mem_range.2 hv)
  · simp only [specGraph, List.mem_append, List.mem_range, List.mem_map, not_or, not_exists, not_and]
    exact ⟨by omega, fun x _ => by omega⟩
  · exact List.mem_append_right _ (List.mem_map.2 ⟨i, List.mem_range.2 hi, rfl⟩)

/-- Importing the exported graph gives back the spiders of the diagram, in order, with their
    colours and their phases reduced mod 1 (`export` then `import`) — whether or not the
    repairs are switched on: the defects of `from_pyzx` concern the wiring only. -/
theorem roundtrip_spiders (fix : Fix) (d d' : ZDiagram)
    (hrt : fromPyzxWith fix (specGraph d) = .ok d') :
    spidersKP d'.boxes =
      (d.boxes.filter ZBox.isSpider).map (fun b => some (b.kind, b.phase.export.import)) := by
  rw [fromPyzxWith_spiders fix _ _ hrt, innerNodes_specGraph, ← specVerts_kp 0]
  apply List.ext_getElem?
  intro i
  simp only [List.getElem?_map]
  by_cases hi : i < nSpiders d.boxes
  · have hi' : i < (specVerts 0 d.boxes).length := by rw [length_specVerts]; exact hi
    have : (specGraph d).verts[d.dom + i]? = (specVerts 0 d.boxes)[i]? := by
      simp only [specGraph, List.append_assoc]
      rw [List.getElem?_append_right (by simp)]
      simp only [List.length_map, List.length_range, Nat.add_sub_cancel_left]
      rw [List.getElem?_append_left hi']
    simp [List.getElem?_range hi, vertexKP_eq, this, List.getElem?_eq_getElem hi']
  · have h1 : (List.range (nSpiders d.boxes))[i]? = none := by simp; omega
    have h2 : (specVerts 0 d.boxes)[i]? = none := by simp [length_specVerts]; omega
    rw [h1, h2]; rfl

end DV.Pyzx
