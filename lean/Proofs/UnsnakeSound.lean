/-
  Proofs/UnsnakeSound.lean — C07: every result of `find_snake` describes a snake in the item view
  (cap, a block classified by the followed wire, cup); on such a state `unsnake` never raises,
  every diagram it yields is one legal interchange away from the previous one, the cap and cup end
  up adjacent and the final deletion is a yank; the box count drops by exactly two.  Hence the
  first loop of `snake_removal` (`snakeLoop_spec`): with `len + 1` rounds of fuel it never raises,
  yields an accepted trace and ends without a snake.
-/
import Proofs.UnsnakeMoves

namespace DV

theorem StepChain.last_ok {d : Diagram} {steps : List Diagram} (hd : d.WF) (hv : d.boxesValid)
    (h : StepChain d steps) : (lastOr d steps).WF ∧ (lastOr d steps).boxesValid := by
  induction steps generalizing d with
  | nil => exact ⟨hd, hv⟩
  | cons s ss ih =>
    have hs := h.1
    simp only [Bool.or_eq_true] at hs
    have ok : SStepOK d s := by
      rcases hs with hs | hs
      · exact istep_typed hd hs
      · exact ystep_typed hd hv hs
    exact ih ok.wf (ok.valid hv) h.2

/-! ### The final deletion -/

theorem YankShape.dom_cod {a b : Layer} (s : YankShape a b) (va : a.box.dom = [])
    (vb : b.box.cod = []) : a.dom = b.cod := by
  cases s with
  | left lb ra x y ha hb h2 h3 => rw [ha, hb]; simp [Layer.dom, Layer.cod, va, vb]
  | right la rb x y ha hb h2 h3 => rw [ha, hb]; simp [Layer.dom, Layer.cod, va, vb]

/-- Deleting a yankable adjacent pair never raises. -/
theorem Diagram.removePair_total {d : Diagram} {k : Nat} (hd : d.WF) (hv : d.boxesValid)
    (hy : yankableAt d k = true) :
    ∃ d', d.removePair (k : Int) ((k : Int) + 1) = .ok d' := by
  obtain ⟨l0, l1, e2, e3, hcap, hcup, va, vb, shape⟩ := yankableAt_spec hd hv hy
  have hdc := shape.dom_cod (va.2 hcap).1 (vb.1 hcup).2
  have hlen : k + 1 < d.layers.boxes.length := (List.getElem?_eq_some_iff.mp e3).1
  obtain ⟨pre, hpre⟩ := LArrow.slice_prefix_total (a := d.layers) (i := k) (by omega)
  obtain ⟨post, hpost⟩ := LArrow.slice_suffix_total (a := d.layers) (k := k + 2)
  obtain ⟨pw, pdom, pboxes⟩ := LArrow.slice_prefix hd.chain (by omega) hpre
  obtain ⟨qw, qcod, qboxes⟩ := LArrow.slice_suffix hd.chain (by omega) (by omega) hpost
  have hsplit := list_split_pair e2 e3
  have hch : Chain d.layers.dom (d.layers.boxes.take k ++ [l0, l1] ++ d.layers.boxes.drop (k+2))
      d.layers.cod := by rw [← hsplit]; exact hd.chain
  obtain ⟨m2, hc1, hc2⟩ := chain_append.mp hch
  obtain ⟨m1, hc0, hc01⟩ := chain_append.mp hc1
  have hm1 : m1 = l0.dom := hc01.1
  have hm2 : l1.cod = m2 := hc01.2.2
  have pcod : pre.cod = l0.dom := by
    have : Chain pre.dom pre.boxes pre.cod := pw
    rw [pdom, pboxes] at this
    rw [chain_unique this hc0, hm1]
  have qdom : post.dom = l1.cod := by
    have : Chain post.dom post.boxes post.cod := qw
    rw [qcod, qboxes] at this
    rw [chain_start_unique this hc2, hm2]
  have e : ((k : Int) + 1 + 1) = ((k + 2 : Nat) : Int) := by omega
  unfold Diagram.removePair
  rw [e]
  simp only [hpre, hpost]
  have s3 : pre.then post = .ok ⟨pre.dom, post.cod, pre.boxes ++ post.boxes⟩ := by
    simp [LArrow.then, pcod, qdom, hdc]
  simp only [s3]
  exact ⟨_, rfl⟩

/-- The last step of `unsnake` on adjacent cap and cup joined straight. -/
theorem yank_final {d : Diagram} (hd : d.WF) (hv : d.boxesValid) {P S : List (Box × Int)}
    {capI cupI : Box × Int} (hit : d.items = P ++ capI :: cupI :: S)
    (hk1 : capI.1.kind = .cap) (hk2 : cupI.1.kind = .cup)
    (h : (cupI.2 + 1 = capI.2 ∧ cupI.1.dom.take 1 = capI.1.cod.drop 1) ∨
         (cupI.2 = capI.2 + 1 ∧ cupI.1.dom.drop 1 = capI.1.cod.take 1)) :
    ∃ d', d.removePair (P.length : Int) ((P.length : Int) + 1) = .ok d' ∧ ystep d d' = true ∧
      d'.boxes.length + 2 = d.boxes.length := by
  have hx : d.items[P.length]? = some capI := by rw [hit]; exact getElem?_mid P capI _
  have hy : d.items[P.length + 1]? = some cupI := by rw [hit]; exact getElem?_mid1 P capI cupI S
  obtain ⟨b0, o0⟩ := Diagram.items_get hd hx
  obtain ⟨b1, o1⟩ := Diagram.items_get hd hy
  have hlen : d.boxes.length = P.length + 2 + S.length := by
    rw [← Diagram.items_length hd, hit]; simp; omega
  have hyk : yankableAt d P.length = true := by
    unfold yankableAt
    simp only [b0, b1, o0, o1, hk1, hk2, beq_self_eq_true, Bool.true_and]
    rcases h with ⟨h1, h2⟩ | ⟨h1, h2⟩
    · simp [h1, h2]
    · simp [h1, h2]
  obtain ⟨d', hd'⟩ := Diagram.removePair_total hd hv hyk
  have hl : P.length + 1 < d.layers.boxes.length := by
    have : d.layers.boxes.length = d.boxes.length := by rw [hd.boxes]; simp
    omega
  obtain ⟨w, _, _, hboxes⟩ := Diagram.removePair_wf hd hl hd'
  refine ⟨d', hd', ?_, ?_⟩
  · unfold ystep
    refine List.any_eq_true.mpr ⟨P.length, List.mem_range.mpr (by omega), ?_⟩
    rw [hyk]
    simp only [Bool.true_and]
    have : d.removePair (P.length : Int) ((P.length : Int) + 1) = .ok d' := hd'
    simp [this]
  · have h1 : d'.boxes.length = d'.layers.boxes.length := by rw [w.boxes]; simp
    have h2 : d.boxes.length = d.layers.boxes.length := by rw [hd.boxes]; simp
    rw [h1, hboxes, h2]
    simp only [List.length_append, List.length_take, List.length_drop]
    omega

/-! ### What `find_snake` returns -/

theorem findSnakeFrom_some {d : Diagram} {fuel start : Nat} {y : Yank}
    (h : findSnakeFrom d fuel start = some y) :
    ∃ cap b off ls, d.boxes[cap]? = some b ∧ d.offsets[cap]? = some off ∧ b.kind = .cap ∧
      tryYank d cap b off ls = some y := by
  induction fuel generalizing start with
  | zero => simp [findSnakeFrom] at h
  | succ fuel ih =>
    simp only [findSnakeFrom] at h
    split at h
    · rename_i b off hb ho
      split at h
      · rename_i hk
        split at h
        · rename_i y1 h1
          cases h
          exact ⟨start, b, off, true, hb, ho, hk, h1⟩
        · split at h
          · rename_i y2 h2
            cases h
            exact ⟨start, b, off, false, hb, ho, hk, h2⟩
          · exact ih h
      · exact ih h
    · cases h

/-- The snake found by `find_snake`, in the item view. -/
structure SnakeAt (d : Diagram) (y : Yank) (P M S : List (Box × Int)) (capI cupI : Box × Int) :
    Prop where
  items : d.items = P ++ capI :: (M ++ cupI :: S)
  cap : y.cap = P.length
  cup : y.cup = P.length + 1 + M.length
  kcap : capI.1.kind = .cap
  kcup : cupI.1.kind = .cup
  left : y.leftSnake = true →
    classify (P.length + 1) capI.2 M = some (cupI.2 + 1, y.lo, y.ro) ∧
      cupI.1.dom.take 1 = capI.1.cod.drop 1
  right : y.leftSnake = false →
    classify (P.length + 1) (capI.2 + 1) M = some (cupI.2, y.lo, y.ro) ∧
      cupI.1.dom.drop 1 = capI.1.cod.take 1

/-- What a successful attempt of `find_snake` on one leg of the cap at `cap` has checked. -/
theorem tryYank_some {d : Diagram} {cap : Nat} {capBox : Box} {capOff : Int} {ls : Bool} {y : Yank}
    (h : tryYank d cap capBox capOff ls = some y) :
    ∃ cup wire' lo ro cupBox cupOff,
      d.followWire cap (if ls then capOff else capOff + 1) = (cup, wire', lo, ro) ∧
      d.boxes[cup]? = some cupBox ∧ d.offsets[cup]? = some cupOff ∧ cupBox.kind = .cup ∧
      y = ⟨cup, cap, lo, ro, ls⟩ ∧
      (ls = true → cupOff + 1 = wire' ∧ cupBox.dom.take 1 = capBox.cod.drop 1) ∧
      (ls = false → cupOff = wire' ∧ cupBox.dom.drop 1 = capBox.cod.take 1) := by
  unfold tryYank at h
  rcases hfw : d.followWire cap (if ls = true then capOff else capOff + 1) with ⟨cup, wire', lo, ro⟩
  simp only [hfw] at h
  split at h
  · rename_i cupBox cupOff hcb hco
    refine ⟨cup, wire', lo, ro, cupBox, cupOff, rfl, hcb, hco, ?_⟩
    by_cases hk : cupBox.kind = .cup
    · cases ls
      · by_cases c2 : cupOff = wire'
        · simp [hk, c2] at h
          exact ⟨hk, h.2.symm, nofun, fun _ => ⟨c2, by simpa using h.1⟩⟩
        · simp [hk, c2] at h
      · by_cases c1 : cupOff + 1 = wire'
        · simp [hk, c1] at h
          exact ⟨hk, h.2.symm, fun _ => ⟨c1, by simpa using h.1⟩, nofun⟩
        · simp [hk, c1] at h
    · simp [hk] at h
  · cases h

theorem tryYank_snakeAt {d : Diagram} {cap : Nat} {b : Box} {off : Int} {ls : Bool}
    {y : Yank} (hb : d.boxes[cap]? = some b) (ho : d.offsets[cap]? = some off)
    (hk : b.kind = .cap) (h : tryYank d cap b off ls = some y) :
    ∃ P M S cupI, SnakeAt d y P M S (b, off) cupI := by
  obtain ⟨cup, wire', lo, ro, cupBox, cupOff, hfw, hcb, hco, hkc, rfl, hleft, hright⟩ :=
    tryYank_some h
  have hcl : cup < d.boxes.length := (List.getElem?_eq_some_iff.mp hcb).1
  obtain ⟨M, rest, lo1, ro1, e1, e3, e4, e5, e6, e7⟩ :=
    followWire_classify _ _ _ _ _ hfw (Nat.le_add_left _ _)
  cases rest with
  | nil => exact absurd hcl (e6 rfl ▸ Nat.lt_irrefl _)
  | cons x S =>
  obtain ⟨rfl, _, _⟩ := e7 x S rfl
  simp only [List.nil_append] at e4 e5
  subst e4 e5
  obtain ⟨hsplit, hPl⟩ := list_at_split (Diagram.items_of_get hb ho)
  have e1' : d.items.drop (cap + 1) = M ++ x :: S := e1
  rw [e1'] at hsplit
  have hx : d.items[cap + 1 + M.length]? = some x := by
    rw [hsplit, List.getElem?_append_right (by omega), hPl,
      show cap + 1 + M.length - cap = M.length + 1 by omega]
    simp
  rw [Diagram.items_of_get hcb hco] at hx
  cases hx
  refine ⟨d.items.take cap, M, S, (cupBox, cupOff), hsplit, hPl.symm, by rw [hPl], hk, hkc, ?_, ?_⟩
  · rintro rfl
    obtain ⟨c1, c3⟩ := hleft rfl
    rw [hPl, c1]
    exact ⟨e3, c3⟩
  · intro hl
    obtain rfl : ls = false := hl
    obtain ⟨c2, c4⟩ := hright rfl
    rw [hPl, c2]
    exact ⟨e3, c4⟩

theorem findSnake_snakeAt {d : Diagram} {y : Yank} (h : d.findSnake = some y) :
    ∃ P M S capI cupI, SnakeAt d y P M S capI cupI := by
  obtain ⟨cap, b, off, ls, hb, ho, hk, ht⟩ := findSnakeFrom_some h
  obtain ⟨P, M, S, cupI, hs⟩ := tryYank_snakeAt hb ho hk ht
  exact ⟨P, M, S, (b, off), cupI, hs⟩

/-! ### `unsnake` on a snake -/

theorem mem_boxes_of_items {d : Diagram} (hd : d.WF) {x : Box × Int} (h : x ∈ d.items) :
    x.1 ∈ d.boxes := by
  rw [Diagram.items_boxes hd]; exact List.mem_map_of_mem h

/-- After both loops: cap and cup are adjacent at `k`, `k+1`, and their deletion ends `unsnake`. -/
theorem unsnake_finish {d d2 : Diagram} {y : Yank} {moves : List Diagram} {k : Nat}
    {P S : List (Box × Int)} {capI cupI : Box × Int} (hd : d.WF) (hv : d.boxesValid)
    (hch : IChain d moves) (hla : lastOr d moves = d2) (it2 : d2.items = P ++ capI :: cupI :: S)
    (hk : k = P.length) (hk1 : capI.1.kind = .cap) (hk2 : cupI.1.kind = .cup)
    (hty : (cupI.2 + 1 = capI.2 ∧ cupI.1.dom.take 1 = capI.1.cod.drop 1) ∨
      (cupI.2 = capI.2 + 1 ∧ cupI.1.dom.drop 1 = capI.1.cod.take 1))
    (hun : ∀ d3, d2.removePair (k : Int) ((k : Int) + 1) = .ok d3 → d.unsnake y = .ok (moves ++ [d3])) :
    ∃ moves last, d.unsnake y = .ok (moves ++ [last]) ∧ IChain d moves ∧
      ystep (lastOr d moves) last = true ∧ last.boxes.length + 2 = d.boxes.length := by
  subst hk
  obtain ⟨w2, v2⟩ := StepChain.last_ok hd hv hch.stepChain
  have hl2 := IChain.length_eq hd hch
  rw [hla] at w2 v2 hl2
  obtain ⟨d3, hrp, hys, hlen3⟩ := yank_final w2 v2 it2 hk1 hk2 hty
  exact ⟨moves, d3, hun d3 hrp, hch, by rw [hla]; exact hys, by omega⟩

theorem unsnake_left {d : Diagram} {y : Yank} {P M S : List (Box × Int)} {capI cupI : Box × Int}
    (hd : d.WF) (hv : d.boxesValid) (hs : SnakeAt d y P M S capI cupI) (hl : y.leftSnake = true) :
    ∃ moves last, d.unsnake y = .ok (moves ++ [last]) ∧ IChain d moves ∧
      ystep (lastOr d moves) last = true ∧ last.boxes.length + 2 = d.boxes.length := by
  obtain ⟨hcl, hty⟩ := hs.left hl
  have vcup : cupI.1.valid := hv _ (mem_boxes_of_items hd (by rw [hs.items]; simp))
  have hcupdom := (vcup.1 hs.kcup).1
  -- first loop: afterwards nothing of the block is left of the cap's leg
  obtain ⟨d1, t1, ro1, acc1, hmv1, hch1, hla1, w1, P1, capI1, M1, it1, rfl, hc1, hcl1⟩ :=
    moveObstructions_chain (Inv := LeftUpInv capI.1 cupI S (cupI.2 + 1)) leftUp_step y.lo []
      (t := (y.cap : Int)) ⟨hd, P, capI, M, hs.items, by rw [hs.cap], rfl, hcl⟩
  obtain ⟨hright, hj, rfl⟩ := classify_no_left hcl1
  have hl1 := IChain.length_eq hd hch1
  rw [hla1, ← Diagram.items_length hd, ← Diagram.items_length w1, it1, hs.items] at hl1
  simp only [List.length_append, List.length_cons] at hl1
  -- second loop: the block, now right of the leg, moves below the cup (`unsnake` hands the first
  -- loop's list `[] ++ acc1` on as it is)
  obtain ⟨d2, t2, ro2, acc2, hmv2, hch2, hla2, w2, M2, S2, it2, hobs, rfl, _⟩ :=
    moveObstructions_chain (Inv := RightDownInv P1 capI1 cupI) rightDown_step _ ([] ++ acc1)
      (t := (y.cup : Int)) (ro := [])
      ⟨w1, M1, S, it1, rfl, by rw [hs.cup]; omega, fun x hx => by have := hright x hx; omega⟩
  obtain rfl : M2 = [] := by
    cases M2 with
    | nil => rfl
    | cons _ _ => simp [List.range'_succ] at hobs
  refine unsnake_finish (k := P1.length) hd hv (IChain.append hch1 (hla1 ▸ hch2))
    (by rw [lastOr_append, hla1, hla2]) it2 rfl (hc1 ▸ hs.kcap) hs.kcup
    (Or.inl ⟨by omega, hc1 ▸ hty⟩) (fun d3 hrp => ?_)
  unfold Diagram.unsnake
  rw [if_pos hl, hmv1]
  dsimp only
  rw [hmv2]
  dsimp only
  rw [show ((P1.length + 1 + ([] : List (Box × Int)).length : Nat) : Int) = (P1.length : Int) + 1 by
    simp, hrp, List.nil_append]

theorem unsnake_right {d : Diagram} {y : Yank} {P M S : List (Box × Int)} {capI cupI : Box × Int}
    (hd : d.WF) (hv : d.boxesValid) (hs : SnakeAt d y P M S capI cupI) (hl : y.leftSnake = false) :
    ∃ moves last, d.unsnake y = .ok (moves ++ [last]) ∧ IChain d moves ∧
      ystep (lastOr d moves) last = true ∧ last.boxes.length + 2 = d.boxes.length := by
  obtain ⟨hcl, hty⟩ := hs.right hl
  have vcup : cupI.1.valid := hv _ (mem_boxes_of_items hd (by rw [hs.items]; simp))
  have vcap : capI.1.valid := hv _ (mem_boxes_of_items hd (by rw [hs.items]; simp))
  have hcupdom := (vcup.1 hs.kcup).1
  have hcapcod := (vcap.2 hs.kcap).2
  -- first loop: afterwards nothing of the block is left of the cap's leg
  obtain ⟨d1, t1, ro1, acc1, hmv1, hch1, hla1, w1, M1, cupI1, S1, lo1, it1, hlo1, rfl, hc1, hcl1⟩ :=
    moveObstructions_chain (Inv := LeftDownInv P capI cupI.1 (capI.2 + 1))
      (leftDown_step (by omega)) y.lo.reverse [] (t := (y.cup : Int))
      ⟨hd, M, cupI, S, y.lo, hs.items, rfl, by rw [hs.cup], rfl, hcl⟩
  obtain rfl : lo1 = [] := List.reverse_eq_nil_iff.mp hlo1.symm
  obtain ⟨hright, hj, rfl⟩ := classify_no_left hcl1
  -- second loop: the block, now right of the leg, moves above the cap
  obtain ⟨d2, t2, ro2, acc2, hmv2, hch2, hla2, w2, P2, M2, it2, hobs, rfl, _⟩ :=
    moveObstructions_chain (Inv := RightUpInv capI cupI1 S1) rightUp_step _ ([] ++ acc1)
      (t := (y.cap : Int)) (ro := [])
      ⟨w1, P, M1, it1, rfl, by rw [hs.cap], fun x hx => by have := hright x hx; omega⟩
  obtain rfl : M2 = [] := by
    cases M2 with
    | nil => rfl
    | cons _ _ => simp [List.range'_succ] at hobs
  have hl2 := IChain.length_eq w1 hch2
  rw [hla2, ← Diagram.items_length w1, ← Diagram.items_length w2, it1, it2] at hl2
  simp only [List.length_append, List.length_cons, List.length_nil] at hl2
  refine unsnake_finish (k := P2.length) hd hv (IChain.append hch1 (hla1 ▸ hch2))
    (by rw [lastOr_append, hla1, hla2]) it2 rfl hs.kcap (hc1 ▸ hs.kcup)
    (Or.inr ⟨by omega, hc1 ▸ hty⟩) (fun d3 hrp => ?_)
  unfold Diagram.unsnake
  rw [if_neg (by simp [hl]), hmv1]
  dsimp only
  rw [hmv2]
  dsimp only
  rw [show ((P.length + 1 + M1.length : Nat) : Int) = (P2.length : Int) + 1 by omega, hrp,
    List.nil_append]

/-- `unsnake` on any result of `find_snake`: it never raises; every diagram it yields but the last
    is one legal interchange away from its predecessor; the last one is the yank of an ADJACENT
    cap/cup pair joined straight (so the index updates did bring them together); two boxes go. -/
theorem unsnake_shape {d : Diagram} {y : Yank} (hd : d.WF) (hv : d.boxesValid)
    (h : d.findSnake = some y) :
    ∃ moves last, d.unsnake y = .ok (moves ++ [last]) ∧ IChain d moves ∧
      ystep (lastOr d moves) last = true ∧ last.boxes.length + 2 = d.boxes.length := by
  obtain ⟨P, M, S, capI, cupI, hs⟩ := findSnake_snakeAt h
  cases hl : y.leftSnake with
  | true => exact unsnake_left hd hv hs hl
  | false => exact unsnake_right hd hv hs hl

theorem unsnake_ok {d : Diagram} {y : Yank} (hd : d.WF) (hv : d.boxesValid)
    (h : d.findSnake = some y) :
    ∃ steps, d.unsnake y = .ok steps ∧ StepChain d steps ∧
      (lastOr d steps).boxes.length + 2 = d.boxes.length := by
  obtain ⟨moves, last, hu, hch, hys, hlen⟩ := unsnake_shape hd hv h
  refine ⟨moves ++ [last], hu, StepChain.append hch.stepChain ⟨by rw [hys]; simp, trivial⟩, ?_⟩
  rw [lastOr_append]; exact hlen

/-! ### The loop -/

/-- The first loop of `snake_removal` with at least `len + 1` rounds of fuel: it never raises,
    yields an accepted trace, and stops because no snake is left. -/
theorem snakeLoop_spec (fuel : Nat) : ∀ {d : Diagram} {acc : List Diagram}, d.WF → d.boxesValid →
    d.boxes.length < fuel →
    ∃ d1 steps, snakeLoop fuel d acc = .ok (d1, acc ++ steps) ∧ StepChain d steps ∧
      lastOr d steps = d1 ∧ d1.findSnake = none ∧ d1.WF ∧ d1.boxesValid ∧
      d1.boxes.length ≤ d.boxes.length := by
  induction fuel with
  | zero => intro d acc _ _ h; omega
  | succ fuel ih =>
    intro d acc hd hv hlt
    simp only [snakeLoop]
    cases hf : d.findSnake with
    | none => exact ⟨d, [], by simp, trivial, rfl, hf, hd, hv, Nat.le_refl _⟩
    | some y =>
      obtain ⟨steps, hu, hch, hlen⟩ := unsnake_ok hd hv hf
      obtain ⟨w, v⟩ := StepChain.last_ok hd hv hch
      obtain ⟨d1, steps2, hloop, hch2, hla, hnone, w1, v1, hle⟩ :=
        ih (acc := acc ++ steps) w v (by omega)
      simp only [hu]
      refine ⟨d1, steps ++ steps2, by rw [hloop]; simp, StepChain.append hch hch2, ?_, hnone, w1, v1,
        by omega⟩
      rw [lastOr_append, hla]

end DV
