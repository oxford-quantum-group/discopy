/-
  Proofs/TkFrom.lean — `from_tk.make_units_adjacent` for every width (C13): where the swaps built
  for a two-unit gate put the two wires, and what the swap between them, conjugated, exchanges.
-/
import Proofs.TkBasic
import Model.TkFrom

namespace DV.Tk
open DV

/-! ### `make_units_adjacent` on a two-unit gate, every width -/

/-- The offset and the swap offsets for a gate on the units `a`, `b`. -/
theorem makeUnitsAdjacent_pair (a b : Nat) :
    makeUnitsAdjacent [a, b] =
      if b ≤ a then (a - 1, List.range' b (a - b)) else (a, (List.range' (a + 1) (b - (a + 1))).reverse) := by
  simp only [makeUnitsAdjacent, muaLoop, Nat.add_zero, List.nil_append, Nat.lt_succ_iff, Nat.add_sub_cancel]
  split
  · simp only [*]
  · split
    · rfl
    · have : b = a + 1 := by omega
      subst this; simp

theorem arrangement_length (n : Nat) (offs : List Nat) : (arrangement n offs).length = n := by
  simp [arrangement, foldl_swapAt_length]

/-- After the swaps the wire `a` sits at the returned offset and the wire `b` right after it. -/
theorem makeUnitsAdjacent_split (n a b : Nat) (ha : a < n) (hb : b < n) (hab : a ≠ b) :
    ∃ A C, arrangement n (makeUnitsAdjacent [a, b]).2 = A ++ [a, b] ++ C ∧
      A.length = (makeUnitsAdjacent [a, b]).1 := by
  rw [makeUnitsAdjacent_pair]
  unfold arrangement
  by_cases h : b ≤ a
  · simpa only [h, if_true] using
      foldl_swapAt_moveRight (by omega) (List.getElem?_range hb) (List.getElem?_range ha)
  · simpa only [h, if_false] using
      foldl_swapAt_moveLeft (by omega) (List.getElem?_range ha) (List.getElem?_range hb)

/-- **make_units_adjacent, all widths.**  For a gate on two different units `a`, `b` of an
    `n`-wire circuit, after the swaps the wire `a` sits at the returned offset and the wire `b`
    right after it. -/
theorem makeUnitsAdjacent_adjacent (n a b : Nat) (ha : a < n) (hb : b < n) (hab : a ≠ b) :
    ((arrangement n (makeUnitsAdjacent [a, b]).2).drop (makeUnitsAdjacent [a, b]).1).take 2 = [a, b] := by
  obtain ⟨A, C, h, hl⟩ := makeUnitsAdjacent_split n a b ha hb hab
  rw [h, ← hl]
  simp

/-- Every swap offset built lies inside the circuit. -/
theorem makeUnitsAdjacent_inRange (n a b : Nat) (ha : a < n) (hb : b < n) :
    ∀ o ∈ (makeUnitsAdjacent [a, b]).2, o + 1 < n := by
  rw [makeUnitsAdjacent_pair]
  intro o ho
  split at ho
  · simp only [List.mem_range'_1] at ho; omega
  · simp only [List.mem_reverse, List.mem_range'_1] at ho; omega

/-- Conjugating by swaps `os` the swap at the place where they have brought the wires `a`, `b`
    exchanges `a` and `b` and nothing else: on the arrangement that swap is the renaming `a ↔ b`,
    and renamings commute with swaps. -/
theorem arrangement_conj (n : Nat) (os : List Nat) (off a b : Nat) (hos : ∀ o ∈ os, o + 1 < n)
    (ha : (arrangement n os)[off]? = some a) (hb : (arrangement n os)[off + 1]? = some b) :
    arrangement n (os ++ [off] ++ os.reverse) = (List.range n).map (transp a b) := by
  have nd : (arrangement n os).Nodup := (foldl_swapAt_perm os _).nodup_iff.mpr List.nodup_range
  have e := swapAt_eq_map_transp nd ha hb
  unfold arrangement at *
  rw [List.foldl_append, List.foldl_append, List.foldl_cons, List.foldl_nil, e, foldl_swapAt_map,
    ← List.foldl_append, foldl_swapAt_reverse _ _ (by simpa using hos)]

/-- A one-unit gate needs no swaps. -/
theorem makeUnitsAdjacent_single (a : Nat) : makeUnitsAdjacent [a] = (a, []) := rfl

/-- Not so for three units (no supported tket op has three: `box_from_tk` raises before the
    swaps are built): the loop compares tket indices with positions that earlier swaps have changed. -/
theorem makeUnitsAdjacent_three_wrong :
    ((arrangement 3 (makeUnitsAdjacent [2, 0, 1]).2).drop (makeUnitsAdjacent [2, 0, 1]).1).take 3 = [1, 0, 2] := by
  decide +kernel

end DV.Tk
