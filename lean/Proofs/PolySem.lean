/-
  Proofs/PolySem.lean — the meaning of the executable polynomials of Model/Param.lean in
  Mathlib's `MvPolynomial ℕ ℤ`, used only as a proof device:

    sem : Poly → MvPolynomial ℕ ℤ          sem p = Σ (m, c) ∈ p.terms,  c · X^m

  * every executable operation (`add`, `mul`, `neg`, `const`, `var`, `pow`, `subst`, `deriv`,
    `ofTerms`) is the corresponding operation of `MvPolynomial` under `sem` — for ALL term lists,
    normal or not;
  * `sem` is injective on normal forms (`Poly.WF`, Proofs/PolyOrder.lean): two normal forms with
    the same meaning are the same list (`sem_inj`).
-/
import Proofs.PolyOrder
import Mathlib.Algebra.MvPolynomial.PDeriv
import Mathlib.Algebra.MvPolynomial.Monad

namespace DV.Param
open MvPolynomial

abbrev MP := MvPolynomial ℕ ℤ

/-- Exponent vector of a monomial whose first entry is the exponent of `x_i`. -/
noncomputable def monoF : Nat → Mono → (ℕ →₀ ℕ)
  | _, [] => 0
  | i, e :: m => Finsupp.single i e + monoF (i + 1) m

theorem monoF_apply_lt (i : Nat) (m : Mono) (j : Nat) (h : j < i) : monoF i m j = 0 := by
  induction m generalizing i with
  | nil => rfl
  | cons e m ih =>
    rw [monoF, Finsupp.add_apply, Finsupp.single_eq_of_ne (Nat.ne_of_lt h),
      ih (i + 1) (Nat.lt_succ_of_lt h)]

theorem monoF_apply_add (i : Nat) (m : Mono) (k : Nat) : monoF i m (i + k) = Mono.get m k := by
  induction m generalizing i k with
  | nil => exact (Mono.get_nil k).symm
  | cons e m ih =>
    rw [monoF, Finsupp.add_apply]
    cases k with
    | zero =>
      rw [Nat.add_zero, Finsupp.single_eq_same, monoF_apply_lt (i + 1) m i (Nat.lt_succ_self i),
        Mono.get_cons_zero, Nat.add_zero]
    | succ k =>
      rw [Finsupp.single_eq_of_ne (by omega), ← Nat.add_assoc, Nat.add_right_comm, ih (i + 1) k,
        Mono.get_cons_succ, Nat.zero_add]

theorem monoF_zero_apply (m : Mono) (j : Nat) : monoF 0 m j = Mono.get m j := by
  rw [← monoF_apply_add 0 m j, Nat.zero_add]

theorem monoF_eq_iff (m n : Mono) : monoF 0 m = monoF 0 n ↔ ∀ i, Mono.get m i = Mono.get n i := by
  constructor
  · intro h i
    rw [← monoF_zero_apply, ← monoF_zero_apply, h]
  · intro h
    ext i
    rw [monoF_zero_apply, monoF_zero_apply, h]

theorem monoF_trim_mul (m n : Mono) : monoF 0 (Mono.trim (Mono.mul m n)) = monoF 0 m + monoF 0 n := by
  ext i
  simp only [Finsupp.add_apply, monoF_zero_apply, Mono.get_trim, Mono.get_mul]

theorem monoF_trim (m : Mono) : monoF 0 (Mono.trim m) = monoF 0 m :=
  (monoF_eq_iff _ _).mpr (Mono.get_trim m)

theorem monoF_var (k i : Nat) : monoF k (List.replicate i 0 ++ [1]) = Finsupp.single (k + i) 1 := by
  induction i generalizing k with
  | zero => simp [monoF]
  | succ i ih =>
    rw [List.replicate_succ, List.cons_append]
    simp only [monoF, Finsupp.single_zero, zero_add, ih]
    congr 1
    omega

/-- Meaning of a term list. -/
noncomputable def semL (l : List (Mono × Int)) : MP :=
  (l.map (fun t => monomial (monoF 0 t.1) t.2)).sum

/-- Meaning of an executable polynomial. -/
noncomputable def sem (p : Poly) : MP := semL p.terms

@[simp] theorem semL_nil : semL [] = 0 := rfl
@[simp] theorem semL_cons (t : Mono × Int) (l : List (Mono × Int)) :
    semL (t :: l) = monomial (monoF 0 t.1) t.2 + semL l := rfl

namespace Poly

/-- A term is dropped when its coefficient is 0, which does not change the meaning. -/
theorem semL_ite_cons (m : Mono) (c : Int) (l : List (Mono × Int)) :
    semL (if (c == 0) = true then l else (m, c) :: l) = monomial (monoF 0 m) c + semL l := by
  split
  · rename_i hc
    rw [eq_of_beq hc, monomial_zero, zero_add]
  · rfl

theorem semL_addTerm (m : Mono) (c : Int) (l : List (Mono × Int)) :
    semL (addTerm m c l) = monomial (monoF 0 m) c + semL l := by
  induction l with
  | nil => exact semL_ite_cons m c []
  | cons x p ih =>
    obtain ⟨n, d⟩ := x
    unfold addTerm
    split
    · exact semL_ite_cons m c _
    · rename_i heq
      -- equal exponents: the coefficients add
      rw [semL_ite_cons n (c + d) p, (monomial _).map_add, add_assoc,
        (monoF_eq_iff m n).mpr ((Mono.cmp_eq_iff m n).mp heq)]
      rfl
    · rw [semL_cons, ih, semL_cons, add_left_comm]

theorem semL_addL (p q : List (Mono × Int)) : semL (addL p q) = semL p + semL q := by
  induction p with
  | nil => simp [addL]
  | cons t p ih =>
    have : addL (t :: p) q = addTerm t.1 t.2 (addL p q) := rfl
    rw [this, semL_addTerm, ih, semL_cons, add_assoc]

theorem semL_smulMono (m : Mono) (c : Int) (q : List (Mono × Int)) :
    semL (smulMono m c q) = monomial (monoF 0 m) c * semL q := by
  induction q with
  | nil => simp [smulMono]
  | cons t q ih =>
    have : smulMono m c (t :: q)
        = addTerm (Mono.trim (Mono.mul m t.1)) (c * t.2) (smulMono m c q) := rfl
    rw [this, semL_addTerm, ih, semL_cons, mul_add, monomial_mul, monoF_trim_mul]

theorem semL_mulL (p q : List (Mono × Int)) : semL (mulL p q) = semL p * semL q := by
  induction p with
  | nil => simp [mulL]
  | cons t p ih =>
    have : mulL (t :: p) q = addL (smulMono t.1 t.2 q) (mulL p q) := rfl
    rw [this, semL_addL, semL_smulMono, ih, semL_cons, add_mul]

theorem sem_add (p q : Poly) : sem (p + q) = sem p + sem q := semL_addL _ _
theorem sem_mul (p q : Poly) : sem (p * q) = sem p * sem q := semL_mulL _ _

theorem sem_neg (p : Poly) : sem (-p) = - sem p := by
  show semL (p.terms.map (fun t => (t.1, -t.2))) = - semL p.terms
  induction p.terms with
  | nil => exact neg_zero.symm
  | cons t ts ih => simp only [List.map_cons, semL_cons, ih, map_neg, neg_add]

theorem sem_const (c : Int) : sem (const c) = C c :=
  (semL_ite_cons [] c []).trans (add_zero _)

theorem sem_zero : sem (0 : Poly) = 0 := (sem_const 0).trans C_0

theorem sem_one : sem (1 : Poly) = 1 := (sem_const 1).trans C_1

theorem sem_var (i : Nat) : sem (var i) = X i := by
  unfold var sem
  simp only [semL_cons, semL_nil, add_zero, monoF_var, Nat.zero_add]
  rfl

theorem sem_ofTerms (ts : List (Mono × Int)) : sem (ofTerms ts) = semL ts := by
  unfold ofTerms sem
  induction ts with
  | nil => rfl
  | cons t ts ih =>
    simp only [List.foldr_cons, semL_addTerm, ih, semL_cons, monoF_trim]

theorem sem_pow (p : Poly) (n : Nat) : sem (pow p n) = sem p ^ n := by
  induction n with
  | zero => simpa [pow] using sem_one
  | succ n ih =>
    have : pow p (n + 1) = p * pow p n := rfl
    rw [this, sem_mul, ih, pow_succ, mul_comm]

theorem sem_monoSubst (σ : Nat → Poly) (i : Nat) (m : Mono) :
    sem (monoSubst σ i m) = (monoF i m).prod (fun j e => sem (σ j) ^ e) := by
  induction m generalizing i with
  | nil => simpa [monoSubst, monoF] using sem_one
  | cons e m ih =>
    have : monoSubst σ i (e :: m) = pow (σ i) e * monoSubst σ (i + 1) m := rfl
    rw [this, sem_mul, sem_pow, ih]
    simp only [monoF]
    rw [Finsupp.prod_add_index' (h := fun j e => sem (σ j) ^ e) (fun a => pow_zero _)
      (fun a b₁ b₂ => pow_add _ _ _)]
    congr 1
    exact (Finsupp.prod_single_index (h := fun j e => sem (σ j) ^ e) (pow_zero _)).symm

/-- `subst σ` is `MvPolynomial.aeval` of the meanings of the `σ i`. -/
theorem sem_subst (σ : Nat → Poly) (p : Poly) :
    sem (subst σ p) = aeval (fun j => sem (σ j)) (sem p) := by
  unfold subst
  show _ = aeval (fun j => sem (σ j)) (semL p.terms)
  induction p.terms with
  | nil => simpa using sem_zero
  | cons t ts ih =>
    simp only [List.foldr_cons, semL_cons, map_add, aeval_monomial]
    rw [sem_add, sem_mul, sem_const, sem_monoSubst, ih]
    rfl

theorem monoF_set (m : Mono) (i e : Nat) (h : m[i]? = some (e + 1)) :
    monoF 0 (m.set i e) = monoF 0 m - Finsupp.single i 1 := by
  ext j
  rw [Finsupp.tsub_apply, monoF_zero_apply, monoF_zero_apply, Finsupp.single_apply]
  unfold Mono.get
  rw [List.getD_eq_getElem?_getD, List.getD_eq_getElem?_getD, List.getElem?_set]
  split
  · rename_i hij
    subst hij
    rw [if_pos (List.getElem?_eq_some_iff.mp h).1, h]
    rfl
  · rfl

/-- One step of `deriv`: the exponent of `x_i` in the first term comes down, or the term goes. -/
theorem deriv_cons (i : Nat) (t : Mono × Int) (ts : List (Mono × Int)) :
    (deriv i ⟨t :: ts⟩).terms = match t.1[i]? with
      | some (e + 1) =>
        addTerm (Mono.trim (t.1.set i e)) (((e + 1 : Nat) : Int) * t.2) (deriv i ⟨ts⟩).terms
      | _ => (deriv i ⟨ts⟩).terms := rfl

theorem sem_deriv (i : Nat) (p : Poly) : sem (deriv i p) = pderiv i (sem p) := by
  obtain ⟨ts⟩ := p
  induction ts with
  | nil => exact (pderiv i).map_zero.symm
  | cons t ts ih =>
    have hget : Mono.get t.1 i = (t.1[i]?).getD 0 := List.getD_eq_getElem?_getD
    have ih : semL (deriv i ⟨ts⟩).terms = pderiv i (semL ts) := ih
    show semL (deriv i ⟨t :: ts⟩).terms = pderiv i (semL (t :: ts))
    rw [deriv_cons, semL_cons, (pderiv i).map_add, pderiv_monomial, monoF_zero_apply, ← ih]
    split
    · rename_i e he
      rw [semL_addTerm, monoF_trim, monoF_set _ _ _ he, hget, he, mul_comm]
      rfl
    · -- `x_i` does not occur
      rename_i hne
      have : Mono.get t.1 i = 0 := by
        rw [hget]
        cases hx : t.1[i]? with
        | none => rfl
        | some v =>
          cases v with
          | zero => rfl
          | succ e => exact absurd hx (hne e)
      rw [this, Nat.cast_zero, mul_zero, monomial_zero, zero_add]

end Poly

/-! ### injectivity on normal forms -/

theorem coeff_semL_of_lt (m : Mono) (l : List (Mono × Int))
    (h : ∀ t ∈ l, Mono.cmp m t.1 = .lt) : coeff (monoF 0 m) (semL l) = 0 := by
  induction l with
  | nil => simp
  | cons t l ih =>
    have hne : monoF 0 t.1 ≠ monoF 0 m := by
      intro e
      have := (Mono.cmp_eq_iff m t.1).mpr (fun i => ((monoF_eq_iff _ _).mp e i).symm)
      rw [h t List.mem_cons_self] at this
      cases this
    rw [semL_cons, coeff_add, coeff_monomial, if_neg hne, zero_add]
    exact ih (fun x hx => h x (List.mem_cons_of_mem _ hx))

theorem coeff_semL_head (m : Mono) (c : Int) (l : List (Mono × Int))
    (h : ∀ t ∈ l, Mono.cmp m t.1 = .lt) : coeff (monoF 0 m) (semL ((m, c) :: l)) = c := by
  rw [semL_cons, coeff_add, coeff_monomial, if_pos rfl, coeff_semL_of_lt m l h, add_zero]

/-- A normal form whose least monomial is below every monomial of another has a coefficient the
    other lacks. -/
theorem semL_ne_of_head_lt {m n : Mono} {c d : Int} {p q : List (Mono × Int)}
    (hp : TermsWF ((m, c) :: p)) (hq : TermsWF ((n, d) :: q)) (hc : Mono.cmp m n = .lt) :
    semL ((m, c) :: p) ≠ semL ((n, d) :: q) := by
  intro h
  have h1 := coeff_semL_head m c p (List.pairwise_cons.mp hp.1).1
  have h2 : coeff (monoF 0 m) (semL ((n, d) :: q)) = 0 :=
    coeff_semL_of_lt m _ (fun t ht => by
      rcases List.mem_cons.mp ht with e | e
      · rw [e]; exact hc
      · exact Mono.cmp_lt_trans hc ((List.pairwise_cons.mp hq.1).1 t e))
  rw [h, h2] at h1
  exact (hp.2 (m, c) List.mem_cons_self).2 h1.symm

theorem semL_inj {p q : List (Mono × Int)} (hp : TermsWF p) (hq : TermsWF q)
    (h : semL p = semL q) : p = q := by
  induction p generalizing q with
  | nil =>
    cases q with
    | nil => rfl
    | cons y q' =>
      obtain ⟨n, d⟩ := y
      have := coeff_semL_head n d q' (List.pairwise_cons.mp hq.1).1
      rw [← h] at this
      exact absurd this.symm (hq.2 (n, d) List.mem_cons_self).2
  | cons x p' ih =>
    obtain ⟨m, c⟩ := x
    have hmp := (List.pairwise_cons.mp hp.1).1
    have hm := hp.2 (m, c) List.mem_cons_self
    cases q with
    | nil =>
      have := coeff_semL_head m c p' hmp
      rw [h] at this
      exact absurd this.symm hm.2
    | cons y q' =>
      obtain ⟨n, d⟩ := y
      cases hc : Mono.cmp m n with
      | lt => exact absurd h (semL_ne_of_head_lt hp hq hc)
      | gt => exact absurd h.symm (semL_ne_of_head_lt hq hp (Mono.cmp_gt_swap hc))
      | eq =>
        -- same least monomial, hence same coefficient, and the tails have the same meaning
        obtain rfl : m = n :=
          Mono.trimmed_ext hm.1 (hq.2 (n, d) List.mem_cons_self).1 ((Mono.cmp_eq_iff m n).mp hc)
        have h1 := coeff_semL_head m c p' hmp
        rw [h, coeff_semL_head m d q' (List.pairwise_cons.mp hq.1).1] at h1
        subst h1
        rw [ih hp.tail hq.tail (add_left_cancel h)]

theorem sem_inj {p q : Poly} (hp : p.WF) (hq : q.WF) (h : sem p = sem q) : p = q := by
  cases p; cases q
  congr
  exact semL_inj hp hq h

end DV.Param
