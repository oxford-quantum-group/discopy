/-
  Proofs/Snake.lean — C07: every step of an accepted snake-removal trace is well-typed with the
  input's type, and denotes the same morphism under every rigid functor (a monoidal functor whose
  images of cups and caps satisfy the two snake equations).
-/
import Proofs.Normalize
import Model.Snake

namespace DV

/-! ### Deleting an adjacent pair of layers -/

/-- `removePair k (k+1)` slices at `(k : Int) + 1 + 1`, which is not the cast of a natural number as
    written; the next two lemmas are `pySlice_drop` and `LArrow.slice_suffix` at that index. -/
theorem pySlice_drop_succ2 {α} (xs : List α) (k : Nat) :
    pySlice xs (some ((k : Int) + 1 + 1)) none = xs.drop (k + 2) := by
  have := pySlice_drop xs (k + 2)
  simpa [Int.add_assoc] using this

theorem LArrow.slice_suffix2 {a post : LArrow} {k : Nat} (ha : a.WF) (hk : k + 2 ≤ a.boxes.length)
    (h : a.slice (some ((k : Int) + 1 + 1)) none = .ok post) :
    post.WF ∧ post.cod = a.cod ∧ post.boxes = a.boxes.drop (k + 2) := by
  have e : ((k : Int) + 1 + 1) = ((k + 2 : Nat) : Int) := by omega
  rw [e] at h
  exact LArrow.slice_suffix ha hk (by omega) h

theorem Diagram.removePair_wf {d d' : Diagram} {k : Nat} (hd : d.WF)
    (hk : k + 1 < d.layers.boxes.length)
    (h : d.removePair (k : Int) ((k : Int) + 1) = .ok d') :
    d'.WF ∧ d'.dom = d.dom ∧ d'.cod = d.cod ∧
      d'.layers.boxes = d.layers.boxes.take k ++ d.layers.boxes.drop (k + 2) := by
  unfold Diagram.removePair at h
  split at h
  · rename_i pre post hpre hpost
    split at h
    · cases h
    · rename_i ls hls
      cases h
      obtain ⟨pw, pdom, pboxes⟩ := LArrow.slice_prefix hd.chain (by omega) hpre
      obtain ⟨qw, qcod, qboxes⟩ := LArrow.slice_suffix2 hd.chain (by omega) hpost
      have w := LArrow.then_wf pw qw hls
      obtain ⟨_, rfl⟩ := LArrow.then_ok hls
      refine ⟨⟨?_, ?_, ?_, ?_, w⟩, rfl, rfl, ?_⟩
      · simp [pdom, hd.ldom]
      · simp [qcod, hd.lcod]
      · simp [pboxes, qboxes, hd.boxes, pySlice_take, pySlice_drop_succ2, List.map_take, List.map_drop]
      · simp [pboxes, qboxes, hd.offsets, pySlice_take, pySlice_drop_succ2, List.map_take, List.map_drop]
      · simp [pboxes, qboxes]
  · cases h
  · cases h

/-! ### Rigid functors -/

/-- A rigid functor: a monoidal functor whose images of caps and cups satisfy the snake equations
    (hypotheses of the theorems, not axioms). -/
structure RFunctor {O M : Type} (C : SMC O M) extends MFunctor C where
  /-- `Id(x) @ Cap(y, x) >> Cup(x, y) @ Id(x) = Id(x)` -/
  snake_left : ∀ (capB cupB : Box) (x y : Ob), capB.kind = .cap → cupB.kind = .cup →
    capB.dom = [] → capB.cod = [y, x] → cupB.dom = [x, y] → cupB.cod = [] →
    C.comp (C.tens (C.id ([x].flatMap ob)) (ar capB)) (C.tens (ar cupB) (C.id ([x].flatMap ob)))
      = C.id ([x].flatMap ob)
  /-- `Cap(x, y) @ Id(x) >> Id(x) @ Cup(y, x) = Id(x)` -/
  snake_right : ∀ (capB cupB : Box) (x y : Ob), capB.kind = .cap → cupB.kind = .cup →
    capB.dom = [] → capB.cod = [x, y] → cupB.dom = [y, x] → cupB.cod = [] →
    C.comp (C.tens (ar capB) (C.id ([x].flatMap ob))) (C.tens (C.id ([x].flatMap ob)) (ar cupB))
      = C.id ([x].flatMap ob)

/-- Shapes of the special boxes (what their constructors enforce, rigid.py:338-349, 371-382). -/
def Box.valid (b : Box) : Prop :=
  (b.kind = .cup → b.dom.length = 2 ∧ b.cod = []) ∧ (b.kind = .cap → b.dom = [] ∧ b.cod.length = 2)

section
variable {O M : Type} {C : SMC O M}

/-- `(L ⊗ X ⊗ R) ∘ (L ⊗ Y ⊗ R) = L ⊗ (X ∘ Y) ⊗ R`. -/
theorem SMC.whisker_comp (C : SMC O M) (L R : List O) (X Y : M) (h : C.cod X = C.dom Y) :
    C.comp (C.tens (C.tens (C.id L) X) (C.id R)) (C.tens (C.tens (C.id L) Y) (C.id R)) =
      C.tens (C.tens (C.id L) (C.comp X Y)) (C.id R) := by
  have h1 : C.cod (C.tens (C.id L) X) = C.dom (C.tens (C.id L) Y) := by
    rw [C.cod_tens, C.dom_tens, C.cod_id, C.dom_id, h]
  rw [C.interchange _ _ _ _ h1 (by rw [C.cod_id, C.dom_id]),
      C.interchange _ _ _ _ (by rw [C.cod_id, C.dom_id]) h]
  have e1 : C.comp (C.id L) (C.id L) = C.id L := by
    have := C.id_comp (C.id L); rwa [C.dom_id] at this
  have e2 : C.comp (C.id R) (C.id R) = C.id R := by
    have := C.id_comp (C.id R); rwa [C.dom_id] at this
  rw [e1, e2]

/-- A layer whose box has the wire `x` directly to its left / to its right, with that wire
    grouped with the box. -/
theorem MFunctor.layer_wire_left (F : MFunctor C) (l r : Ty) (x : Ob) (b : Box) :
    F.layer ⟨l ++ [x], b, r⟩ =
      C.tens (C.tens (C.id (F.ty l)) (C.tens (C.id (F.ty [x])) (F.ar b))) (C.id (F.ty r)) := by
  simp only [MFunctor.layer, MFunctor.ty_append]
  rw [← C.tens_id_id, C.tens_assoc (C.id (F.ty l))]

theorem MFunctor.layer_wire_right (F : MFunctor C) (l r : Ty) (x : Ob) (b : Box) :
    F.layer ⟨l, b, [x] ++ r⟩ =
      C.tens (C.tens (C.id (F.ty l)) (C.tens (F.ar b) (C.id (F.ty [x])))) (C.id (F.ty r)) := by
  simp only [MFunctor.layer, MFunctor.ty_append]
  rw [← C.tens_id_id (F.ty [x]), ← C.tens_assoc, ← C.tens_assoc, C.tens_assoc (C.id _) (F.ar b)]

variable (F : RFunctor C)

/-- A cap layer followed by a cup layer joined straight and forming a snake composes to the
    identity, under every rigid functor. -/
theorem RFunctor.yank_left (lb ra : Ty) (capB cupB : Box) (x y : Ob)
    (hk1 : capB.kind = .cap) (hk2 : cupB.kind = .cup) (h1 : capB.dom = []) (h2 : capB.cod = [y, x])
    (h3 : cupB.dom = [x, y]) (h4 : cupB.cod = []) :
    C.comp (F.toMFunctor.layer ⟨lb ++ [x], capB, ra⟩) (F.toMFunctor.layer ⟨lb, cupB, [x] ++ ra⟩) =
      C.id (F.toMFunctor.ty (lb ++ [x] ++ ra)) := by
  have hty : C.cod (C.tens (C.id (F.toMFunctor.ty [x])) (F.ar capB)) =
      C.dom (C.tens (F.ar cupB) (C.id (F.toMFunctor.ty [x]))) := by
    rw [C.cod_tens, C.dom_tens, C.cod_id, C.dom_id, F.cod_ar, F.dom_ar, h2, h3]
    simp [MFunctor.ty]
  rw [F.toMFunctor.layer_wire_left, F.toMFunctor.layer_wire_right, C.whisker_comp _ _ _ _ hty]
  have := F.snake_left capB cupB x y hk1 hk2 h1 h2 h3 h4
  simp only [MFunctor.ty] at this ⊢
  rw [this, C.tens_id_id, C.tens_id_id]
  simp

theorem RFunctor.yank_right (la rb : Ty) (capB cupB : Box) (x y : Ob)
    (hk1 : capB.kind = .cap) (hk2 : cupB.kind = .cup) (h1 : capB.dom = []) (h2 : capB.cod = [x, y])
    (h3 : cupB.dom = [y, x]) (h4 : cupB.cod = []) :
    C.comp (F.toMFunctor.layer ⟨la, capB, [x] ++ rb⟩) (F.toMFunctor.layer ⟨la ++ [x], cupB, rb⟩) =
      C.id (F.toMFunctor.ty (la ++ [x] ++ rb)) := by
  have hty : C.cod (C.tens (F.ar capB) (C.id (F.toMFunctor.ty [x]))) =
      C.dom (C.tens (C.id (F.toMFunctor.ty [x])) (F.ar cupB)) := by
    rw [C.cod_tens, C.dom_tens, C.cod_id, C.dom_id, F.cod_ar, F.dom_ar, h2, h3]
    simp [MFunctor.ty]
  rw [F.toMFunctor.layer_wire_right, F.toMFunctor.layer_wire_left, C.whisker_comp _ _ _ _ hty]
  have := F.snake_right capB cupB x y hk1 hk2 h1 h2 h3 h4
  simp only [MFunctor.ty] at this ⊢
  rw [this, C.tens_id_id, C.tens_id_id]
  simp

end

/-! ### From the decidable test `yankableAt` to the shape of the two layers -/

theorem length_two {α} {xs : List α} (h : xs.length = 2) : ∃ a b, xs = [a, b] := by
  match xs, h with
  | [a, b], _ => exact ⟨a, b, rfl⟩

theorem length_one {α} {xs : List α} (h : xs.length = 1) : ∃ a, xs = [a] := by
  match xs, h with
  | [a], _ => exact ⟨a, rfl⟩

/-- The two shapes of a yankable pair of layers `a; b`. -/
inductive YankShape (a b : Layer) : Prop
  | left (lb ra : Ty) (x y : Ob) (ha : a = ⟨lb ++ [x], a.box, ra⟩) (hb : b = ⟨lb, b.box, [x] ++ ra⟩)
      (h2 : a.box.cod = [y, x]) (h3 : b.box.dom = [x, y]) : YankShape a b
  | right (la rb : Ty) (x y : Ob) (ha : a = ⟨la, a.box, [x] ++ rb⟩) (hb : b = ⟨la ++ [x], b.box, rb⟩)
      (h2 : a.box.cod = [x, y]) (h3 : b.box.dom = [y, x]) : YankShape a b

theorem yank_shape {a b : Layer} (hc : a.cod = b.dom)
    (hcap : a.box.kind = .cap) (hcup : b.box.kind = .cup) (va : a.box.valid) (vb : b.box.valid)
    (h : ((b.left.length : Int) + 1 = a.left.length ∧ b.box.dom.take 1 = a.box.cod.drop 1) ∨
         ((b.left.length : Int) = a.left.length + 1 ∧ b.box.dom.drop 1 = a.box.cod.take 1)) :
    YankShape a b := by
  obtain ⟨k1, k2, hk⟩ := length_two (va.2 hcap).2
  obtain ⟨c1, c2, hcd⟩ := length_two (vb.1 hcup).1
  cases a with | mk al ab ar =>
  cases b with | mk bl bb br =>
  simp only at hk hcd h hcap hcup
  have hc' : al ++ (ab.cod ++ ar) = bl ++ (bb.dom ++ br) := by
    simpa [Layer.cod, Layer.dom] using hc
  rw [hk, hcd] at hc' h
  rcases h with ⟨hl, ht⟩ | ⟨hl, ht⟩
  · -- left snake
    obtain ⟨s1, s2⟩ := append_split hc'.symm (by omega)
    obtain ⟨z, hz⟩ := length_one (xs := al.drop bl.length) (by simp; omega)
    rw [hz] at s1 s2
    simp at s2 ht
    obtain ⟨rfl, rfl, rfl⟩ := s2
    subst ht
    exact YankShape.left bl ar _ _ (by simp [s1]) (by simp) hk hcd
  · -- right snake
    obtain ⟨s1, s2⟩ := append_split hc' (by omega)
    obtain ⟨z, hz⟩ := length_one (xs := bl.drop al.length) (by simp; omega)
    rw [hz] at s1 s2
    simp at s2 ht
    obtain ⟨rfl, rfl, rfl⟩ := s2
    subst ht
    exact YankShape.right al br _ _ (by simp) (by simp [s1]) hk hcd

section
variable {O M : Type} {C : SMC O M} (F : RFunctor C)

theorem YankShape.sound {a b : Layer} (s : YankShape a b)
    (hcap : a.box.kind = .cap) (hcup : b.box.kind = .cup) (va : a.box.valid) (vb : b.box.valid) :
    C.comp (F.toMFunctor.layer a) (F.toMFunctor.layer b) = C.id (F.toMFunctor.ty a.dom) := by
  have d1 := (va.2 hcap).1
  have d2 := (vb.1 hcup).2
  cases s with
  | left lb ra x y ha hb h2 h3 =>
    rw [ha, hb, F.yank_left lb ra a.box b.box x y hcap hcup d1 h2 h3 d2]
    simp [Layer.dom, d1]
  | right la rb x y ha hb h2 h3 =>
    rw [ha, hb, F.yank_right la rb a.box b.box x y hcap hcup d1 h2 h3 d2]
    simp [Layer.dom, d1]

end

def Diagram.boxesValid (d : Diagram) : Prop := ∀ b ∈ d.boxes, b.valid

/-- What one accepted snake-removal step guarantees (typing part). -/
structure SStepOK (d d' : Diagram) : Prop where
  wf : d'.WF
  dom : d'.dom = d.dom
  cod : d'.cod = d.cod
  valid : d.boxesValid → d'.boxesValid

theorem istep_inv {d d' : Diagram} (h : istep d d' = true) :
    ∃ i j : Nat, d.interchange (i : Int) (j : Int) false = .ok d' := by
  unfold istep at h
  obtain ⟨i, _, hi⟩ := List.any_eq_true.mp h
  obtain ⟨j, _, hj⟩ := List.any_eq_true.mp hi
  simp only [Bool.and_eq_true] at hj
  split at hj
  · rename_i x hx
    have : x = d' := by simpa using hj.2
    exact ⟨i, j, this ▸ hx⟩
  · cases hj.2

theorem istep_of {d d' : Diagram} {i j : Nat}
    (h : d.interchange (i : Int) (j : Int) false = .ok d') (hi : i < d.boxes.length)
    (hj : j < d.boxes.length) (hne : i ≠ j) : istep d d' = true := by
  unfold istep
  refine List.any_eq_true.mpr ⟨i, List.mem_range.mpr hi, ?_⟩
  refine List.any_eq_true.mpr ⟨j, List.mem_range.mpr hj, ?_⟩
  simp [h, hne]

theorem ystep_inv {d d' : Diagram} (h : ystep d d' = true) :
    ∃ k : Nat, yankableAt d k = true ∧ d.removePair (k : Int) ((k : Int) + 1) = .ok d' := by
  unfold ystep at h
  obtain ⟨k, _, hk⟩ := List.any_eq_true.mp h
  simp only [Bool.and_eq_true] at hk
  split at hk
  · rename_i x hx
    have : x = d' := by simpa using hk.2
    exact ⟨k, hk.1, this ▸ hx⟩
  · cases hk.2

theorem yankableAt_spec {d : Diagram} {k : Nat} (hd : d.WF) (hv : d.boxesValid)
    (h : yankableAt d k = true) :
    ∃ a b, d.layers.boxes[k]? = some a ∧ d.layers.boxes[k+1]? = some b ∧
      a.box.kind = .cap ∧ b.box.kind = .cup ∧ a.box.valid ∧ b.box.valid ∧ YankShape a b := by
  unfold yankableAt at h
  split at h
  · rename_i capB cupB capO cupO e0 e1 e2 e3
    have va : capB.valid := hv _ (List.mem_of_getElem? e0)
    have vb : cupB.valid := hv _ (List.mem_of_getElem? e1)
    obtain ⟨a, ea, rfl, rfl⟩ := hd.layer_at e0 e2
    obtain ⟨b, eb, rfl, rfl⟩ := hd.layer_at e1 e3
    simp only [Bool.and_eq_true, Bool.or_eq_true, beq_iff_eq] at h
    obtain ⟨⟨hcap, hcup⟩, hcase⟩ := h
    exact ⟨a, b, ea, eb, hcap, hcup, va, vb,
      yank_shape (chain_adjacent hd.chain ea eb) hcap hcup va vb hcase⟩
  · cases h

theorem istep_typed {d d' : Diagram} (hd : d.WF) (h : istep d d' = true) : SStepOK d d' := by
  obtain ⟨i, j, hx⟩ := istep_inv h
  obtain ⟨w, a, b⟩ := Diagram.interchange_wf hd hx
  exact ⟨w, a, b, fun hv bx hbx => hv bx ((Diagram.interchange_perm hd hx).mem_iff.mp hbx)⟩

theorem ystep_typed {d d' : Diagram} (hd : d.WF) (hv : d.boxesValid) (h : ystep d d' = true) :
    SStepOK d d' := by
  obtain ⟨k, hy, hx⟩ := ystep_inv h
  obtain ⟨a, b, ea, eb, _⟩ := yankableAt_spec hd hv hy
  have hlen : k + 1 < d.layers.boxes.length := (List.getElem?_eq_some_iff.mp eb).1
  obtain ⟨w, hdom, hcod, hboxes⟩ := Diagram.removePair_wf hd hlen hx
  refine ⟨w, hdom, hcod, fun _ bx hbx => hv bx ?_⟩
  rw [w.boxes, hboxes] at hbx
  rw [hd.boxes]
  simp only [List.map_append, List.mem_append, List.map_take, List.map_drop] at hbx
  exact hbx.elim List.mem_of_mem_take List.mem_of_mem_drop

section
variable {O M : Type} {C : SMC O M} (F : RFunctor C)

theorem ystep_ok {d d' : Diagram} (hd : d.WF) (hv : d.boxesValid) (h : ystep d d' = true) :
    SStepOK d d' ∧ F.toMFunctor.eval d' = F.toMFunctor.eval d := by
  refine ⟨ystep_typed hd hv h, ?_⟩
  obtain ⟨k, hy, hx⟩ := ystep_inv h
  obtain ⟨a, b, ea, eb, hcap, hcup, va, vb, shape⟩ := yankableAt_spec hd hv hy
  have hlen : k + 1 < d.layers.boxes.length := (List.getElem?_eq_some_iff.mp eb).1
  obtain ⟨_, hdom, _, hboxes⟩ := Diagram.removePair_wf hd hlen hx
  have hyank := shape.sound F hcap hcup va vb
  have hsplit := list_split_pair ea eb
  have hchain : Chain d.dom (d.layers.boxes.take k ++ [a, b] ++ d.layers.boxes.drop (k+2)) d.cod := by
    have := hd.chain
    rw [LArrow.WF, hd.ldom, hd.lcod] at this
    rw [← hsplit]; exact this
  obtain ⟨m2, hc1, _⟩ := chain_append.mp hchain
  obtain ⟨m, hpre, hab⟩ := chain_append.mp hc1
  have hma : m = a.dom := hab.1
  obtain ⟨_, hX⟩ := F.toMFunctor.layers_typing hpre
  unfold MFunctor.eval
  rw [hboxes, hdom]
  conv => rhs; rw [hsplit]
  rw [F.toMFunctor.layers_append, F.toMFunctor.layers_append, F.toMFunctor.layers_append]
  congr 1
  simp only [List.foldl_cons, List.foldl_nil]
  rw [C.comp_assoc _ _ _ (by rw [hX, F.toMFunctor.dom_layer, hma])
        (by rw [F.toMFunctor.cod_layer, F.toMFunctor.dom_layer, hab.2.1]),
      hyank, ← hma, ← hX, C.comp_id]

theorem istep_ok {d d' : Diagram} (hd : d.WF) (h : istep d d' = true) :
    SStepOK d d' ∧ F.toMFunctor.eval d' = F.toMFunctor.eval d :=
  let ⟨_, _, hx⟩ := istep_inv h
  ⟨istep_typed hd h, Diagram.interchange_sound F.toMFunctor hd hx⟩

theorem sstep_ok {left : Bool} {d d' : Diagram} (hd : d.WF) (hv : d.boxesValid)
    (h : sstep left d d' = true) :
    SStepOK d d' ∧ F.toMFunctor.eval d' = F.toMFunctor.eval d := by
  unfold sstep at h
  simp only [Bool.or_eq_true] at h
  rcases h with (h | h) | h
  · exact istep_ok F hd h
  · exact ystep_ok F hd hv h
  · have ok := rstep_ok hd h
    exact ⟨⟨ok.wf, ok.dom, ok.cod, fun hv bx hbx => hv bx (ok.perm.mem_iff.mp hbx)⟩,
      ok.exch.sound F.toMFunctor hd⟩

/-- C07 soundness: every diagram of an accepted snake-removal trace is
    well-typed, has the input's domain and codomain, and denotes the input's morphism under every
    rigid functor. -/
theorem checkSnakeTrace_ok {left : Bool} {d : Diagram} {steps : List Diagram} {k : Nat}
    (hd : d.WF) (hv : d.boxesValid) (h : checkSnakeTrace left d steps k = none) :
    ∀ s ∈ steps, s.WF ∧ s.dom = d.dom ∧ s.cod = d.cod ∧
      F.toMFunctor.eval s = F.toMFunctor.eval d := by
  induction steps generalizing d k with
  | nil => simp
  | cons s ss ih =>
    simp only [checkSnakeTrace] at h
    split at h
    · rename_i hs
      obtain ⟨ok, e0⟩ := sstep_ok F hd hv hs
      intro t ht
      rcases List.mem_cons.mp ht with rfl | ht
      · exact ⟨ok.wf, ok.dom, ok.cod, e0⟩
      · obtain ⟨a, b, c, e⟩ := ih ok.wf (ok.valid hv) h t ht
        exact ⟨a, b.trans ok.dom, c.trans ok.cod, e.trans e0⟩
    · cases h

end

/-- `find_snake` is complete over all caps and both legs: when it returns nothing, no cap admits a
    yank on either leg. -/
theorem findSnakeFrom_none {d : Diagram} {fuel start : Nat} (h : findSnakeFrom d fuel start = none) :
    ∀ cap b off, start ≤ cap → cap < start + fuel → d.boxes[cap]? = some b →
      d.offsets[cap]? = some off → b.kind = .cap →
      tryYank d cap b off true = none ∧ tryYank d cap b off false = none := by
  induction fuel generalizing start with
  | zero => intro cap _ _ h1 h2; omega
  | succ fuel ih =>
    intro cap b off h1 h2 hb ho hk
    simp only [findSnakeFrom] at h
    split at h
    · rename_i b0 off0 hb0 ho0
      by_cases hc : cap = start
      · subst hc
        rw [hb] at hb0; rw [ho] at ho0
        cases hb0; cases ho0
        rw [if_pos hk] at h
        split at h
        · cases h
        · rename_i h1'
          split at h
          · cases h
          · rename_i h2'; exact ⟨h1', h2'⟩
      · have hrest : findSnakeFrom d fuel (start + 1) = none := by
          split at h
          · split at h
            · cases h
            · split at h
              · cases h
              · exact h
          · exact h
        exact ih hrest cap b off (by omega) (by omega) hb ho hk
    · rename_i hnone
      -- the lookup at `start` failed, so `start` is out of range; but `cap ≥ start` is in range
      have hlt : cap < d.boxes.length := (List.getElem?_eq_some_iff.mp hb).1
      have hlt2 : cap < d.offsets.length := (List.getElem?_eq_some_iff.mp ho).1
      exfalso
      have hs1 : start < d.boxes.length := by omega
      have hs2 : start < d.offsets.length := by omega
      exact hnone _ _ (List.getElem?_eq_getElem hs1) (List.getElem?_eq_getElem hs2)

end DV
