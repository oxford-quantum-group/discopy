/-
  Proofs/Param.lean — lemmas behind C14 (substitution is natural in the evaluator) and the
  diagram-level part of C15 (product rule for an abstract derivation), about Model/Param.lean.

  Scalars are an arbitrary commutative ring; a substitution is any ring homomorphism `σ`
  commuting with conjugation; a derivative is any additive map with the Leibniz rule commuting
  with conjugation.  Nothing here is about `Poly`: that the executable polynomials meet these
  hypotheses is Proofs/PolyOrder.lean, PolySem.lean, PolyRing.lean, PolyDiagram.lean.

  Both results are proved once, for lists of layers of any kind (`evalL`, `gradL`: plain layers
  here, layers with bubbles in Proofs/ParamBubble.lean) and read through a map `φ` preserving the
  operations (`OpHom`): naturality of evaluation is `OpHom.map_evalL_of`, the product rule is
  `gradL_rule` / `OpHom.grad_rule`.  `φ = id` gives the statements over a ring, `φ = norm` those
  about the executable polynomials, which are a ring only in normal form.
-/
import Model.Param
import Mathlib.Tactic.Ring
import Mathlib.Tactic.LinearCombination

set_option linter.unusedSectionVars false

namespace DV.Param

/-! ### sums over lists -/

section Sums
variable {R : Type} [CommRing R] {α β : Type}

theorem sum_map_zero (l : List α) : (l.map (fun _ => (0 : R))).sum = 0 := by
  induction l with
  | nil => simp
  | cons a l ih => simp [ih]

theorem sum_map_add (l : List α) (f g : α → R) :
    (l.map (fun x => f x + g x)).sum = (l.map f).sum + (l.map g).sum := by
  induction l with
  | nil => simp
  | cons a l ih => simp only [List.map_cons, List.sum_cons, ih]; ring

theorem sum_map_mul_left (l : List α) (c : R) (f : α → R) :
    (l.map (fun x => c * f x)).sum = c * (l.map f).sum := by
  induction l with
  | nil => simp
  | cons a l ih => simp only [List.map_cons, List.sum_cons, ih]; ring

theorem sum_map_mul_right (l : List α) (c : R) (f : α → R) :
    (l.map (fun x => f x * c)).sum = (l.map f).sum * c := by
  induction l with
  | nil => simp
  | cons a l ih => simp only [List.map_cons, List.sum_cons, ih]; ring

theorem sum_map_comm (ts : List α) (js : List β) (f : α → β → R) :
    (ts.map (fun t => (js.map (fun j => f t j)).sum)).sum
      = (js.map (fun j => (ts.map (fun t => f t j)).sum)).sum := by
  induction ts with
  | nil => simp [sum_map_zero]
  | cons t ts ih =>
    simp only [List.map_cons, List.sum_cons, ih]
    rw [← sum_map_add]

theorem sum_map_congr (l : List α) (f g : α → R) (h : ∀ x, f x = g x) :
    (l.map f).sum = (l.map g).sum := by
  have : f = g := funext h
  rw [this]

end Sums

/-- Matrix of `Id @ a @ Id(r)` for an array `a : p → q`, rows and columns row-major: what
    `PLayer.mat` and `XLayer.mat` do with the array of their box. -/
def whisk {R : Type} [Zero R] (p q r : Nat) (a : Mat R) : Mat R := fun i j =>
  if i / (p * r) = j / (q * r) ∧ i % r = j % r then a (i / r % p) (j / r % q) else 0

theorem PLayer.mat_eq_whisk {R : Type} [Zero R] [HasConj R] (l : PLayer R) :
    l.mat = whisk (prod l.box.dom) (prod l.box.cod) (prod l.right) l.box.arr := rfl

theorem whisk_map {R S : Type} [Zero R] [Zero S] (f : R → S) (h0 : f 0 = 0) (p q r : Nat)
    (a : Mat R) (i j : Nat) : f (whisk p q r a i j) = whisk p q r (fun i j => f (a i j)) i j := by
  unfold whisk
  split
  · rfl
  · exact h0

theorem whisk_sum {R α : Type} [CommRing R] (p q r : Nat) (as : List α) (a : α → Mat R)
    (i j : Nat) :
    (as.map (fun x => whisk p q r (a x) i j)).sum
      = whisk p q r (fun i j => (as.map (fun x => a x i j)).sum) i j := by
  unfold whisk
  split
  · rfl
  · exact sum_map_zero as

/-! ### data maps commute with the arrays of boxes and layers -/

section MapData
-- only `0` and conjugation are involved: no ring laws (used for `Poly` itself, which is not a ring)
variable {R S : Type} [Zero R] [Zero S] [HasConj R] [HasConj S]

theorem getD_map_zero (f : R → S) (h0 : f 0 = 0) (l : List R) (k : Nat) :
    (l.map f).getD k 0 = f (l.getD k 0) := by
  simp only [List.getD_eq_getElem?_getD, List.getElem?_map]
  cases l[k]? with
  | none => exact h0.symm
  | some x => rfl

/-- The array of a box whose data went through `f` is `f` of the array, for every `f` that
    fixes 0 and commutes with conjugation (substitutions and derivations both do). -/
theorem arr_mapData (f : R → S) (h0 : f 0 = 0) (hc : ∀ x, f (HasConj.conj x) = HasConj.conj (f x))
    (b : PBox R) (i j : Nat) : (b.mapData f).arr i j = f (b.arr i j) := by
  unfold PBox.arr
  show (if b.dagger = true then HasConj.conj ((b.data.map f).getD (j * prod b.dom + i) 0)
    else (b.data.map f).getD (i * prod b.cod + j) 0) = _
  split
  · rw [getD_map_zero f h0, hc]
  · exact getD_map_zero f h0 _ _

theorem mat_mapData (f : R → S) (h0 : f 0 = 0) (hc : ∀ x, f (HasConj.conj x) = HasConj.conj (f x))
    (l : PLayer R) (i j : Nat) : (l.mapData f).mat i j = f (l.mat i j) := by
  rw [PLayer.mat_eq_whisk, PLayer.mat_eq_whisk, whisk_map f h0]
  exact congrArg (fun a => whisk _ _ _ a i j) (funext fun a => funext (arr_mapData f h0 hc l.box a))

theorem outDim_mapData (f : R → S) (l : PLayer R) : (l.mapData f).outDim = l.outDim := rfl

end MapData

section EvalL
variable {L L' R S : Type} [Zero R] [One R] [Add R] [Mul R] [Zero S] [One S] [Add S] [Mul S]

/-- Evaluation of a list of layers, each with an output dimension and a matrix (`evalLayers` and
    `xevalLayers` are instances). -/
def evalL (od : L → Nat) (mat : L → Mat R) : List L → Mat R
  | [] => idMat
  | l :: ls => matMul (od l) (mat l) (evalL od mat ls)

def sumL (od : L → Nat) (mat : L → Mat R) (ts : List (List L)) : Mat R :=
  fun i j => (ts.map (fun t => evalL od mat t i j)).sum

theorem evalLayers_eq_evalL [HasConj R] (ls : List (PLayer R)) :
    evalLayers ls = evalL PLayer.outDim PLayer.mat ls := by
  induction ls with
  | nil => rfl
  | cons l ls ih => simp only [evalLayers, evalL, ih]

theorem evalSum_eq_sumL [HasConj R] (ts : List (List (PLayer R))) :
    evalSum ts = sumL PLayer.outDim PLayer.mat ts := by
  show (fun i j => (ts.map (fun t => evalLayers t i j)).sum) = _
  simp only [evalLayers_eq_evalL]
  rfl

/-- A map preserving 0, 1, +, · and conjugation, between types that need not be rings (ring
    homomorphisms; `norm` from the executable polynomials to their normal forms). -/
structure OpHom [HasConj R] [HasConj S] (φ : R → S) : Prop where
  zero : φ 0 = 0
  one : φ 1 = 1
  add : ∀ a b, φ (a + b) = φ a + φ b
  mul : ∀ a b, φ (a * b) = φ a * φ b
  conj : ∀ a, φ (HasConj.conj a) = HasConj.conj (φ a)

variable [HasConj R] [HasConj S] {φ : R → S}

namespace OpHom

theorem map_sum (h : OpHom φ) (l : List R) : φ l.sum = (l.map φ).sum := by
  induction l with
  | nil => exact h.zero
  | cons a l ih => rw [List.sum_cons, List.map_cons, List.sum_cons, h.add, ih]

theorem map_matMul (h : OpHom φ) (n : Nat) (a b : Mat R) (i k : Nat) :
    φ (matMul n a b i k) = matMul n (fun i j => φ (a i j)) (fun i j => φ (b i j)) i k := by
  unfold matMul
  rw [h.map_sum, List.map_map]
  exact congrArg List.sum (List.map_congr_left fun j _ => h.mul _ _)

theorem map_idMat (h : OpHom φ) (i j : Nat) : φ (idMat i j) = idMat i j := by
  unfold idMat
  split
  · exact h.one
  · exact h.zero

/-- **Naturality of evaluation**, for layers of any kind. -/
theorem map_evalL_of (h : OpHom φ) (od : L → Nat) (mat : L → Mat R) (od' : L' → Nat)
    (mat' : L' → Mat S) (f : L → L') (ls : List L) (hod : ∀ l ∈ ls, od' (f l) = od l)
    (hmat : ∀ l ∈ ls, ∀ i j, mat' (f l) i j = φ (mat l i j)) (i k : Nat) :
    evalL od' mat' (ls.map f) i k = φ (evalL od mat ls i k) := by
  induction ls generalizing i k with
  | nil => exact (h.map_idMat i k).symm
  | cons l ls ih =>
    have ih' := ih (fun x hx => hod x (List.mem_cons_of_mem _ hx))
      (fun x hx => hmat x (List.mem_cons_of_mem _ hx))
    simp only [List.map_cons, evalL]
    rw [h.map_matMul, hod l List.mem_cons_self]
    exact congrArg₂ (fun a b => matMul (od l) a b i k)
      (funext fun a => funext (hmat l List.mem_cons_self a)) (funext fun a => funext (ih' a))

theorem map_evalL (h : OpHom φ) (od : L → Nat) (mat : L → Mat R) (ls : List L) (i k : Nat) :
    φ (evalL od mat ls i k) = evalL od (fun l i j => φ (mat l i j)) ls i k := by
  have := h.map_evalL_of od mat od (fun l i j => φ (mat l i j)) id ls (fun _ _ => rfl)
    (fun _ _ _ _ => rfl) i k
  rw [List.map_id] at this
  exact this.symm

theorem map_sumL (h : OpHom φ) (od : L → Nat) (mat : L → Mat R) (ts : List (List L))
    (i k : Nat) :
    φ (sumL od mat ts i k) = sumL od (fun l i j => φ (mat l i j)) ts i k := by
  unfold sumL
  rw [h.map_sum, List.map_map]
  exact congrArg List.sum (List.map_congr_left fun t _ => h.map_evalL od mat t i k)

theorem map_evalLayers (h : OpHom φ) (ls : List (PLayer R)) (i k : Nat) :
    evalLayers (ls.map (PLayer.mapData φ)) i k = φ (evalLayers ls i k) := by
  rw [evalLayers_eq_evalL, evalLayers_eq_evalL]
  exact h.map_evalL_of _ _ _ _ _ ls (fun _ _ => rfl) (fun l _ => mat_mapData φ h.zero h.conj l) i k

end OpHom

end EvalL

/-! ### C14: the evaluator is natural in ring homomorphisms -/

section Natural
variable {R S : Type} [CommRing R] [CommRing S] [HasConj R] [HasConj S]

theorem OpHom.of_ringHom (σ : R →+* S) (hc : ∀ x, σ (HasConj.conj x) = HasConj.conj (σ x)) :
    OpHom σ :=
  ⟨σ.map_zero, σ.map_one, σ.map_add, σ.map_mul, hc⟩

theorem OpHom.of_id : OpHom (id : R → R) := ⟨rfl, rfl, fun _ _ => rfl, fun _ _ => rfl, fun _ => rfl⟩

theorem evalLayers_natural (σ : R →+* S) (hc : ∀ x, σ (HasConj.conj x) = HasConj.conj (σ x))
    (ls : List (PLayer R)) (i k : Nat) :
    evalLayers (ls.map (PLayer.mapData σ)) i k = σ (evalLayers ls i k) :=
  (OpHom.of_ringHom σ hc).map_evalLayers ls i k

end Natural

/-! ### C15: derivations -/

/-- A derivation on a commutative ring: additive and Leibniz. -/
structure Deriv (R : Type) [CommRing R] where
  D : R → R
  add : ∀ a b, D (a + b) = D a + D b
  mul : ∀ a b, D (a * b) = D a * b + a * D b

section Derivation
variable {R : Type} [CommRing R] (d : Deriv R)

/-- `D` as an additive map: it preserves 0, negation and subtraction. -/
def Deriv.toAddMonoidHom : R →+ R := AddMonoidHom.mk' d.D d.add

theorem Deriv.zero : d.D 0 = 0 := d.toAddMonoidHom.map_zero

theorem Deriv.neg (a : R) : d.D (-a) = - d.D a := d.toAddMonoidHom.map_neg a

theorem Deriv.sub (a b : R) : d.D (a - b) = d.D a - d.D b := d.toAddMonoidHom.map_sub a b

theorem Deriv.one : d.D 1 = 0 := by
  have h := d.mul 1 1
  rw [mul_one, mul_one, one_mul] at h
  exact left_eq_add.mp h

theorem Deriv.sum_map {α : Type} (l : List α) (f : α → R) :
    d.D ((l.map f).sum) = (l.map (fun x => d.D (f x))).sum := by
  induction l with
  | nil => exact d.zero
  | cons a l ih => simp only [List.map_cons, List.sum_cons, d.add, ih]

theorem Deriv.const_mul (c a : R) (hc : d.D c = 0) : d.D (c * a) = c * d.D a := by
  rw [d.mul, hc, zero_mul, zero_add]

/-- Product rule for composition (`>>` = matrix product). -/
theorem then_leibniz (n : Nat) (a b : Mat R) (i k : Nat) :
    d.D (matMul n a b i k)
      = matMul n (fun i j => d.D (a i j)) b i k + matMul n a (fun i j => d.D (b i j)) i k := by
  unfold matMul
  rw [d.sum_map, ← sum_map_add]
  exact sum_map_congr _ _ _ (fun j => d.mul _ _)

/-- Kronecker product of a `_ × _` matrix with a `p × q` matrix. -/
def kron (p q : Nat) (a b : Mat R) : Mat R := fun i j => a (i / p) (j / q) * b (i % p) (j % q)

/-- Product rule for the tensor (`@` = Kronecker product). -/
theorem tensor_leibniz (p q : Nat) (a b : Mat R) (i j : Nat) :
    d.D (kron p q a b i j)
      = kron p q (fun i j => d.D (a i j)) b i j + kron p q a (fun i j => d.D (b i j)) i j := by
  unfold kron
  exact d.mul _ _

theorem idMat_const (i j : Nat) : d.D (idMat i j) = 0 := by
  unfold idMat
  split
  · exact d.one
  · exact d.zero

end Derivation

section GradL
variable {L S : Type} [CommRing S] (d : Deriv S)

/-- The recursion of tensor.Diagram.grad (tensor.py:485-492), on any type of layers. -/
def gradL (dep : L → Bool) (G : L → List L) : List L → List (List L)
  | [] => []
  | l :: tail =>
    if (l :: tail).any dep then
      (G l).map (fun l' => l' :: tail) ++ (gradL dep G tail).map (fun t => l :: t)
    else []

theorem sumL_append (od : L → Nat) (mat : L → Mat S) (as bs : List (List L)) (i j : Nat) :
    sumL od mat (as ++ bs) i j = sumL od mat as i j + sumL od mat bs i j := by
  simp only [sumL, List.map_append, List.sum_append]

theorem D_evalL_const (od : L → Nat) (mat : L → Mat S) (ls : List L)
    (h : ∀ l ∈ ls, ∀ i j, d.D (mat l i j) = 0) (i k : Nat) :
    d.D (evalL od mat ls i k) = 0 := by
  induction ls generalizing i k with
  | nil => exact idMat_const d i k
  | cons l ls ih =>
    simp only [evalL]
    rw [then_leibniz]
    have h1 : (fun i j => d.D (mat l i j)) = fun _ _ => 0 :=
      funext fun a => funext (h l List.mem_cons_self a)
    have h2 : (fun i j => d.D (evalL od mat ls i j)) = fun _ _ => 0 :=
      funext fun a => funext (ih (fun l' hl' => h l' (List.mem_cons_of_mem _ hl')) a)
    rw [h1, h2]
    unfold matMul
    simp only [zero_mul, mul_zero, sum_map_zero, add_zero]

/-- `>>` distributes over a formal sum on its right. -/
theorem sumL_map_cons (od : L → Nat) (mat : L → Mat S) (l : L) (ts : List (List L)) (i k : Nat) :
    sumL od mat (ts.map (fun t => l :: t)) i k = matMul (od l) (mat l) (sumL od mat ts) i k := by
  unfold sumL
  rw [List.map_map]
  show (ts.map (fun t => ((List.range (od l)).map (fun j => mat l i j * evalL od mat t j k)).sum)).sum
    = ((List.range (od l)).map (fun j => mat l i j * (ts.map (fun t => evalL od mat t j k)).sum)).sum
  rw [sum_map_comm]
  exact sum_map_congr _ _ _ fun j => sum_map_mul_left ts _ _

/-- `>>` distributes over a formal sum on its left, the terms having the same dimension. -/
theorem sumL_map_cons_tail (od : L → Nat) (mat : L → Mat S) (n : Nat) (ls : List L)
    (hod : ∀ l ∈ ls, od l = n) (tail : List L) (i k : Nat) :
    sumL od mat (ls.map (fun l => l :: tail)) i k
      = matMul n (fun i j => (ls.map (fun l => mat l i j)).sum) (evalL od mat tail) i k := by
  unfold sumL
  rw [List.map_map]
  have e : ls.map ((fun t => evalL od mat t i k) ∘ fun l => l :: tail)
      = ls.map (fun l => ((List.range n).map (fun j => mat l i j * evalL od mat tail j k)).sum) :=
    List.map_congr_left fun l hl => by
      show matMul (od l) (mat l) (evalL od mat tail) i k = _
      rw [hod l hl]
      rfl
  rw [e, sum_map_comm]
  exact sum_map_congr _ _ _ fun j => sum_map_mul_right ls _ _

/-- **Product rule over the layers**, for layers of any kind; `G l` are the terms replacing the layer `l`. -/
theorem gradL_rule (od : L → Nat) (mat : L → Mat S) (dep : L → Bool)
    (G : L → List L) (ls : List L)
    (hod : ∀ l ∈ ls, ∀ l' ∈ G l, od l' = od l)
    (hG : ∀ l ∈ ls, ∀ i j, ((G l).map (fun l' => mat l' i j)).sum = d.D (mat l i j))
    (hdep : ∀ l ∈ ls, dep l = false → ∀ i j, d.D (mat l i j) = 0) (i k : Nat) :
    sumL od mat (gradL dep G ls) i k = d.D (evalL od mat ls i k) := by
  induction ls generalizing i k with
  | nil => exact (idMat_const d i k).symm
  | cons l tail ih =>
    have ih' := ih (fun x hx => hod x (List.mem_cons_of_mem _ hx))
      (fun x hx => hG x (List.mem_cons_of_mem _ hx))
      (fun x hx => hdep x (List.mem_cons_of_mem _ hx))
    unfold gradL
    split
    · -- the first layer differentiated, plus the tail differentiated
      rw [sumL_append, sumL_map_cons_tail od mat (od l) (G l) (hod l List.mem_cons_self),
        sumL_map_cons, funext fun a => funext (hG l List.mem_cons_self a),
        funext fun a => funext (ih' a)]
      exact (then_leibniz d (od l) (mat l) (evalL od mat tail) i k).symm
    · rename_i hany
      refine (D_evalL_const d od mat _ (fun l' hl' => hdep l' hl' ?_) i k).symm
      cases hb : dep l' with
      | false => rfl
      | true => exact absurd (List.any_eq_true.mpr ⟨l', hl', hb⟩) hany

end GradL

def reBox {R : Type} (l : PLayer R) (b' : PBox R) : PLayer R :=
  { left := l.left, box := b', right := l.right }

theorem gradLayers_eq_gradL {R : Type} (dep : PBox R → Bool) (G : PBox R → List (PBox R))
    (ls : List (PLayer R)) :
    gradLayers dep G ls = gradL (fun l => dep l.box) (fun l => (G l.box).map (reBox l)) ls := by
  induction ls with
  | nil => rfl
  | cons l tail ih =>
    simp only [gradLayers, gradL, ih, List.map_map, Function.comp_def, reBox]

section GradHom
variable {R S : Type} [Zero R] [One R] [Add R] [Mul R] [HasConj R] [CommRing S] [HasConj S]
  {φ : R → S} (h : OpHom φ) (d : Deriv S)
include h

namespace OpHom

/-- Whiskering is additive and its identity legs are constants: terms that sum to the derivative
    of an array still do once whiskered. -/
theorem whisk_sum_deriv {α : Type} (p q r : Nat) (as : List α) (arr : α → Mat R) (a : Mat R)
    (hG : ∀ i j, (as.map (fun x => φ (arr x i j))).sum = d.D (φ (a i j))) (i j : Nat) :
    (as.map (fun x => φ (whisk p q r (arr x) i j))).sum = d.D (φ (whisk p q r a i j)) := by
  have h0 : d.D (φ 0) = 0 := by rw [h.zero, d.zero]
  rw [whisk_map (fun x => d.D (φ x)) h0, ← funext fun a => funext (hG a), ← whisk_sum]
  exact congrArg List.sum (List.map_congr_left fun x _ => whisk_map φ h.zero p q r (arr x) i j)

theorem whisk_deriv_zero (p q r : Nat) (a : Mat R) (ha : ∀ i j, d.D (φ (a i j)) = 0)
    (i j : Nat) : d.D (φ (whisk p q r a i j)) = 0 := by
  unfold whisk
  split
  · exact ha _ _
  · rw [h.zero, d.zero]

/-- **Product rule over the layers** (tensor.py:485-492), read through an operation-preserving
    map `φ` into a commutative ring with a derivation (`φ = id` for data in a ring; `φ = norm` for
    the executable polynomials, which are a ring only in normal form): if, under `φ`, every box
    gradient evaluates to the derivative of the box, the gradient of the diagram evaluates to the
    derivative of its evaluation. -/
theorem grad_rule (dep : PBox R → Bool) (G : PBox R → List (PBox R))
    (hdims : ∀ b, ∀ b' ∈ G b, b'.dom = b.dom ∧ b'.cod = b.cod)
    (hG : ∀ b i j, ((G b).map (fun b' => φ (b'.arr i j))).sum = d.D (φ (b.arr i j)))
    (hdep : ∀ b, dep b = false → ∀ i j, d.D (φ (b.arr i j)) = 0)
    (ls : List (PLayer R)) (i k : Nat) :
    φ (evalSum (gradLayers dep G ls) i k) = d.D (φ (evalLayers ls i k)) := by
  rw [evalSum_eq_sumL, evalLayers_eq_evalL, gradLayers_eq_gradL, h.map_sumL, h.map_evalL]
  apply gradL_rule d
  · intro l _ l' hl'
    obtain ⟨b', hb', rfl⟩ := List.mem_map.mp hl'
    exact congrArg (fun c => prod l.left * prod c * prod l.right) (hdims l.box b' hb').2
  · intro l _ i j
    rw [List.map_map, PLayer.mat_eq_whisk, ← h.whisk_sum_deriv d _ _ _ _ _ _ (hG l.box)]
    refine congrArg List.sum (List.map_congr_left fun b' hb' => ?_)
    obtain ⟨h1, h2⟩ := hdims l.box b' hb'
    show φ (whisk (prod b'.dom) (prod b'.cod) (prod l.right) b'.arr i j) = _
    rw [h1, h2]
  · intro l _ hl
    exact h.whisk_deriv_zero d _ _ _ _ (hdep l.box hl)

/-- tensor.Box.grad as modelled (`boxGrad`): one term, the box with differentiated data — or no
    term when the repaired code tests the free symbols first; either way the terms sum to the
    derivative of the box.  `D` is the entrywise derivative on the data, `d` its image under `φ`. -/
theorem boxGrad_spec (D : R → R) (hD : ∀ x, φ (D x) = d.D (φ x)) (hD0 : D 0 = 0)
    (hconj : ∀ x, D (HasConj.conj x) = HasConj.conj (D x))
    (checksFS : Bool) (dep : PBox R → Bool)
    (hdep : ∀ b, dep b = false → ∀ i j, d.D (φ (b.arr i j)) = 0) (b : PBox R) (i j : Nat) :
    ((boxGrad checksFS dep D b).map (fun b' => φ (b'.arr i j))).sum = d.D (φ (b.arr i j)) := by
  unfold boxGrad
  split
  · rename_i hc
    have hb : dep b = false := by
      cases hdb : dep b with
      | false => rfl
      | true => rw [hdb] at hc; cases checksFS <;> cases hc
    exact (hdep b hb i j).symm
  · rw [List.map_singleton, List.sum_singleton, arr_mapData D hD0 hconj, hD]

end OpHom

end GradHom

theorem boxGrad_dims {R : Type} (checksFS : Bool) (dep : PBox R → Bool) (D : R → R) (b : PBox R) :
    ∀ b' ∈ boxGrad checksFS dep D b, b'.dom = b.dom ∧ b'.cod = b.cod := by
  intro b' hb
  unfold boxGrad at hb
  split at hb
  · exact absurd hb List.not_mem_nil
  · rw [List.mem_singleton.mp hb]
    exact ⟨rfl, rfl⟩

section Gradient
variable {R : Type} [CommRing R] [HasConj R] (d : Deriv R)

/-- **Product rule over the layers** (tensor.py:485-492): if every box gradient evaluates to the
    derivative of the box, the gradient of the diagram evaluates to the derivative of its
    evaluation. -/
theorem grad_product_rule (dep : PBox R → Bool) (G : PBox R → List (PBox R))
    (hdims : ∀ b, ∀ b' ∈ G b, b'.dom = b.dom ∧ b'.cod = b.cod)
    (hG : ∀ b i j, ((G b).map (fun b' => b'.arr i j)).sum = d.D (b.arr i j))
    (hdep : ∀ b, dep b = false → ∀ i j, d.D (b.arr i j) = 0)
    (ls : List (PLayer R)) (i k : Nat) :
    evalSum (gradLayers dep G ls) i k = d.D (evalLayers ls i k) :=
  OpHom.of_id.grad_rule d dep G hdims hG hdep ls i k

omit [CommRing R] [HasConj R] in
/-- A diagram none of whose boxes depends on the variable has the empty sum as gradient. -/
theorem grad_of_constant (dep : PBox R → Bool) (G : PBox R → List (PBox R))
    (ls : List (PLayer R)) (h : ∀ l ∈ ls, dep l.box = false) :
    gradLayers dep G ls = [] := by
  cases ls with
  | nil => rfl
  | cons l tail =>
    unfold gradLayers
    have : (l :: tail).any (fun x => dep x.box) = false :=
      List.any_eq_false.mpr fun x hx => by rw [h x hx]; exact Bool.false_ne_true
    rw [this]
    rfl

theorem boxGrad_spec (checksFS : Bool) (dep : PBox R → Bool)
    (hconj : ∀ x, d.D (HasConj.conj x) = HasConj.conj (d.D x))
    (hdep : ∀ b, dep b = false → ∀ i j, d.D (b.arr i j) = 0)
    (b : PBox R) (i j : Nat) :
    ((boxGrad checksFS dep d.D b).map (fun b' => b'.arr i j)).sum = d.D (b.arr i j) :=
  OpHom.of_id.boxGrad_spec d d.D (fun _ => rfl) d.zero hconj checksFS dep hdep b i j

end Gradient

/-! ### jacobian stacking order -/

/-- Row-major index `k * c + j`, `j < c`: quotient and remainder. -/
theorem mul_add_div (k c j : Nat) (hj : j < c) : (k * c + j) / c = k := by
  rw [Nat.add_comm, Nat.add_mul_div_right _ _ (Nat.zero_lt_of_lt hj), Nat.div_eq_of_lt hj,
    Nat.zero_add]

theorem mul_add_mod (k c j : Nat) (hj : j < c) : (k * c + j) % c = j := by
  rw [Nat.add_comm, Nat.add_mul_mod_self_right, Nat.mod_eq_of_lt hj]

theorem jacobianMat_entry {R : Type} [Zero R] (c : Nat) (grads : List (Mat R)) (i k j : Nat)
    (hj : j < c) (g : Mat R) (hk : grads[k]? = some g) :
    jacobianMat c grads i (k * c + j) = g i j := by
  unfold jacobianMat
  rw [mul_add_div k c j hj, mul_add_mod k c j hj, hk]

/-! ### free symbols -/

theorem mem_insertNat (v w : Nat) (ws : List Nat) : v ∈ insertNat w ws ↔ v = w ∨ v ∈ ws := by
  induction ws with
  | nil => exact List.mem_singleton.trans (or_iff_left List.not_mem_nil).symm
  | cons x xs ih =>
    unfold insertNat
    split
    · exact List.mem_cons
    · split
      · rename_i h
        rw [h, List.mem_cons, ← or_assoc, or_self]
      · rw [List.mem_cons, ih, List.mem_cons, or_left_comm]

theorem mem_unionNat (v : Nat) (xs ys : List Nat) : v ∈ unionNat xs ys ↔ v ∈ xs ∨ v ∈ ys := by
  induction xs with
  | nil => exact (or_iff_right List.not_mem_nil).symm
  | cons x xs ih =>
    show v ∈ insertNat x (unionNat xs ys) ↔ _
    rw [mem_insertNat, ih, List.mem_cons, or_assoc]

/-- A union of symbol lists taken over a list holds exactly the symbols of the members (the
    shape of every `free_symbols` of the model). -/
theorem mem_foldr_unionNat {α : Type} (g : α → List Nat) (xs : List α) (v : Nat) :
    v ∈ xs.foldr (fun x acc => unionNat (g x) acc) [] ↔ ∃ x ∈ xs, v ∈ g x := by
  induction xs with
  | nil => simp only [List.foldr_nil, List.not_mem_nil, false_and, exists_false]
  | cons x xs ih =>
    simp only [List.foldr_cons, mem_unionNat, ih, List.mem_cons, or_and_right, exists_or,
      exists_eq_left]

theorem exists_mem_singleton {α : Type} (p : α → Prop) (x : α) : (∃ a ∈ [x], p a) ↔ p x := by
  simp only [List.mem_singleton, exists_eq_left]

theorem exists_mem_append {α : Type} (p : α → Prop) (as bs : List α) :
    (∃ a ∈ as ++ bs, p a) ↔ (∃ a ∈ as, p a) ∨ ∃ a ∈ bs, p a := by
  simp only [List.mem_append, or_and_right, exists_or]

theorem exists_mem_flatMap {α β : Type} (p : β → Prop) (g : α → List β) (xs : List α) :
    (∃ b ∈ xs.flatMap g, p b) ↔ ∃ a ∈ xs, ∃ b ∈ g a, p b := by
  simp only [List.mem_flatMap]
  exact ⟨fun ⟨b, ⟨a, ha, hb⟩, h⟩ => ⟨a, ha, b, hb, h⟩, fun ⟨a, ha, b, hb, h⟩ => ⟨b, ⟨a, ha, hb⟩, h⟩⟩

theorem mem_box_freeSymbols {R : Type} (fs : R → List Nat) (b : PBox R) (v : Nat) :
    v ∈ b.freeSymbols fs ↔ ∃ e ∈ b.data, v ∈ fs e :=
  mem_foldr_unionNat fs b.data v

/-- The free symbols reported for a diagram are exactly the symbols occurring in the data of
    its boxes. -/
theorem mem_freeSymbolsL {R : Type} (fs : R → List Nat) (ls : List (PLayer R)) (v : Nat) :
    v ∈ freeSymbolsL fs ls ↔ ∃ l ∈ ls, ∃ e ∈ l.box.data, v ∈ fs e := by
  simp only [← mem_box_freeSymbols]
  exact mem_foldr_unionNat _ ls v

theorem mem_flatMap_data {R : Type} (fs : R → List Nat) (ls : List (PLayer R)) (v : Nat) :
    v ∈ freeSymbolsL fs ls ↔ ∃ e ∈ ls.flatMap (fun l => l.box.data), v ∈ fs e := by
  rw [mem_freeSymbolsL, exists_mem_flatMap]

theorem flatMap_data_mapData {R S : Type} (f : R → S) (ls : List (PLayer R)) :
    (ls.map (PLayer.mapData f)).flatMap (fun l => l.box.data)
      = (ls.flatMap (fun l => l.box.data)).map f := by
  induction ls with
  | nil => rfl
  | cons l ls ih =>
    simp only [List.map_cons, List.flatMap_cons, List.map_append, ih]
    rfl

theorem eq_nil_of_closed {R S : Type} (fs : S → List Nat) (f : R → S)
    (hclosed : ∀ e, fs (f e) = []) (es : List R) (syms : List Nat)
    (h : ∀ v, v ∈ syms ↔ ∃ e ∈ es.map f, v ∈ fs e) : syms = [] := by
  refine List.eq_nil_iff_forall_not_mem.mpr fun v hv => ?_
  obtain ⟨e, he, hve⟩ := (h v).mp hv
  obtain ⟨e0, _, rfl⟩ := List.mem_map.mp he
  rw [hclosed] at hve
  exact absurd hve List.not_mem_nil

theorem freeSymbols_mapData_closed {R S : Type} (fs : S → List Nat) (f : R → S)
    (hclosed : ∀ e, fs (f e) = []) (ls : List (PLayer R)) :
    freeSymbolsL fs (ls.map (PLayer.mapData f)) = [] :=
  eq_nil_of_closed fs f hclosed (ls.flatMap (fun l => l.box.data)) _ fun v => by
    rw [mem_flatMap_data, flatMap_data_mapData]

theorem mapData_mapData {R S T : Type} (f : R → S) (g : S → T) (ls : List (PLayer R)) :
    (ls.map (PLayer.mapData f)).map (PLayer.mapData g)
      = ls.map (PLayer.mapData (fun x => g (f x))) := by
  rw [List.map_map]
  refine List.map_congr_left fun l _ => ?_
  show PLayer.mk l.left (PBox.mk l.box.name l.box.dom l.box.cod l.box.dagger
    ((l.box.data.map f).map g)) l.right = _
  rw [List.map_map]
  rfl

end DV.Param
