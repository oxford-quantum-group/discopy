/-
  Proofs/CircuitProps.lean — the whole-circuit statements of C11 and C16 for the executable model,
  assembled from the transport theorems (Proofs/CircuitCyc8.lean) and the gate tables
  (Proofs/CircuitTables.lean, Proofs/CircuitTablesZX.lean).
-/
import Proofs.CircuitTables
import Proofs.CircuitTablesZX

namespace DV.Gates
open DV

/-- The unitary gates of the C11 statements: the table, rotations (every integer phase index, even
    unless CU1), controlled gates, and all their daggers. -/
def Gate.inUnitarySet (g : Gate) : Prop :=
  g ∈ unitaryGates ∨ g ∈ unitaryGatesF2 ∨ ∃ k n, g = Gate.rot k n ∧ (k = .CU1 ∨ n % 2 = 0)

/-- Gates whose dagger is covered: the unitary set (`Controlled(S)`, `Controlled(T)` only with F2
    repaired), kets and bras of ≤ 4 bits (a bound of this list only: `ket_ok`, `bra_ok` hold for every bitstring),
    normalised scalars, and square-root scalars `sqrt(z)` with a
    normalised value `r` for every `z` that is not a negative real (there the statement is FALSE for the
    code as it is, finding F4k: `F4k_sqrt_negative`), and user-defined `QuantumGate`s on ZERO qubits (global
    phases `QuantumGate(name, 0, [z])`) with either dagger flag and any normalised entry. -/
def Gate.inDaggerSet (g : Gate) : Prop :=
  g ∈ unitaryGates ∨ (f2Fixed = true ∧ g ∈ unitaryGatesF2) ∨
  (∃ k n, g = Gate.rot k n ∧ (k = .CU1 ∨ n % 2 = 0)) ∨ g ∈ ketGates ∨ g ∈ braGates ∨
  (∃ z : Cyc8, g = Gate.scalar z ∧ z.isNormal = true) ∨
  (∃ z r : Cyc8, g = Gate.sqrt z r ∧ r.isNormal = true ∧ (sqrtSelfAdjoint z r = false ∨ r.conj = r)) ∨
  ∃ (name : String) (z : Cyc8) (b : Bool), g = Gate.q ⟨name, 0, [[z]], some b⟩ ∧ z.isNormal = true

/-- Gates of the C16 statement: the translated table, normalised scalars, Rz, Rx, CRz, CRx, CU1 at
    every even integer phase index, and square-root scalars `sqrt(z)` (the subclass `gates.Sqrt` of
    `gates.Scalar`; `Circuit.cups` / `caps` contain `sqrt(2)`) whose value `r` (`r² = z`) is invertible
    in ℤ[ζ₈][1/2] or zero. -/
def Gate.inZXSet (g : Gate) : Prop :=
  (∃ k, (g, k) ∈ zxTable) ∨ (∃ z : Cyc8, g = Gate.scalar z ∧ z.isNormal = true) ∨
  (∃ k n, g = Gate.rot k n ∧ k ≠ .Ry ∧ n % 2 = 0) ∨
  (∃ z r r' : Cyc8, g = Gate.sqrt z r ∧ z.isNormal = true ∧ r.isNormal = true ∧ r'.isNormal = true ∧
    r * r = z ∧ r * r' = 1) ∨ g = Gate.sqrt 0 0

theorem named_inSets {p : String × Gate} (h : p ∈ named) :
    (p.2.inUnitarySet ∧ p.2.inDaggerSet) ∧ (p.2.dagger.inUnitarySet ∧ p.2.dagger.inDaggerSet) := by
  have hb : p.2 ∈ unitaryBase := List.mem_append_left _ (List.mem_append_left _ (List.mem_map_of_mem h))
  have h1 : p.2 ∈ unitaryGates := List.mem_append_left _ hb
  have h2 : p.2.dagger ∈ unitaryGates := List.mem_append_right _ (List.mem_map_of_mem hb)
  exact ⟨⟨.inl h1, .inl h1⟩, .inl h2, .inl h2⟩

/-- The phase-free entries, kets and bras (≤ 4 bits) of the translated set. -/
theorem named_inZXSet {p : String × Gate} (h : p ∈ zxNamed) : p.2.inZXSet :=
  .inl ⟨zxScalarNamed p.1,
    List.mem_append_left _ (List.mem_append_left _ (List.mem_append_left _ (List.mem_map.2 ⟨p, h, rfl⟩)))⟩

theorem ketBra_inZXSet {bs : List Bool} (h : bs ∈ bitstringsUpTo4) :
    (Gate.ket bs).inZXSet ∧ (Gate.bra bs).inZXSet :=
  ⟨.inl ⟨1, List.mem_append_right _ (List.mem_flatMap.2 ⟨bs, h, by simp⟩)⟩,
   .inl ⟨1, List.mem_append_right _ (List.mem_flatMap.2 ⟨bs, h, by simp⟩)⟩⟩

theorem Gate.inUnitarySet.ok {g : Gate} (h : g.inUnitarySet) : g.isoOK = true ∧ g.coisoOK = true := by
  rcases h with h | h | ⟨k, n, rfl, h⟩
  · exact ⟨(unitaryGates_ok g h).1, (unitaryGates_ok g h).2.1⟩
  · exact ⟨(unitaryGatesF2_ok g h).1, (unitaryGatesF2_ok g h).2.1⟩
  · exact ⟨(rotOK_all k n h).1, (rotOK_all k n h).2.1⟩

theorem Gate.inDaggerSet.ok {g : Gate} (h : g.inDaggerSet) : g.dagOK = true := by
  rcases h with h | ⟨hf, h⟩ | ⟨k, n, rfl, h⟩ | h | h | ⟨z, rfl, hz⟩ | ⟨z, r, rfl, hr, h⟩ |
    ⟨name, z, b, rfl, hz⟩
  · exact (unitaryGates_ok g h).2.2
  · exact (unitaryGatesF2_ok g h).2.2 hf
  · exact (rotOK_all k n h).2.2
  · exact (ketBra_ok.1 g h).2
  · exact (ketBra_ok.2 g h).2
  · exact scalar_dagOK z hz
  · exact sqrt_dagOK z r hr h
  · exact phase0_dagOK name z b hz

/-- **C11 `circuit_unitary`**: every well-typed circuit over the unitary gate set evaluates to a unitary. -/
theorem circuit_unitary_cyc8 (n m : Nat) (c : Circ) (ht : Circ.codFrom n c = some m)
    (hg : ∀ x ∈ c, x.2.1.inUnitarySet) :
    mul (evalCirc n c) (dagger (evalCirc n c)) = idQ n ∧
    mul (dagger (evalCirc n c)) (evalCirc n c) = idQ m :=
  ⟨evalCirc_isometry ht fun x hx => (hg x hx).ok.1, evalCirc_coisometry ht fun x hx => (hg x hx).ok.2⟩

/-- State preparation included: with kets (≤ 4 bits) among the layers the circuit is an isometry. -/
theorem circuit_isometry_cyc8 (n m : Nat) (c : Circ) (ht : Circ.codFrom n c = some m)
    (hg : ∀ x ∈ c, x.2.1.inUnitarySet ∨ x.2.1 ∈ ketGates) :
    mul (evalCirc n c) (dagger (evalCirc n c)) = idQ n :=
  evalCirc_isometry ht fun x hx => by
    rcases hg x hx with h | h
    · exact h.ok.1
    · exact (ketBra_ok.1 _ h).1

/-- **C11 `circuit_dagger`**: `⟦c†⟧ = ⟦c⟧†` for every well-typed circuit over the gate set. -/
theorem circuit_dagger_cyc8 (n m : Nat) (c : Circ) (ht : Circ.codFrom n c = some m)
    (hg : ∀ x ∈ c, x.2.1.inDaggerSet) :
    evalCirc m (Circ.dagger c) = dagger (evalCirc n c) :=
  evalCirc_dagger ht fun x hx => (hg x hx).ok

/-- **C16 `circuit2zx_sound`**: the (corrected) translation of a well-typed circuit over the translated
    gate set is a well-typed ZX diagram denoting `k • ⟦c⟧` for ONE non-zero (indeed invertible) `k`. -/
theorem circuit2zx_sound_cyc8 (n m : Nat) (c : Circ) (d : ZXDiag) (ht : Circ.codFrom n c = some m)
    (hg : ∀ x ∈ c, x.2.1.inZXSet) (h : circuit2zx true c = .ok d) :
    ZXDiag.codFrom n d = some m ∧
    ∃ k : Cyc8, k ≠ 0 ∧ ZXDiag.eval n d = msmul k (evalCirc n c) := by
  obtain ⟨K, K', h0, _, hc, he⟩ := circuit2zx_sound_of ht (fun x hx => by
    rcases hg x hx with ⟨k, hk⟩ | ⟨z, hz, hn⟩ | ⟨k, n', hr, hk, hn⟩ | ⟨z, r, r', hg', hz, hr, hr', h1, h2⟩ | hg'
    · exact ⟨k, zxInv k, zxTable_ok _ hk⟩
    · exact ⟨1, 1, hz ▸ scalar_zxOK z hn⟩
    · exact ⟨_, _, hr ▸ rot_zxOK k hk n' hn⟩
    · exact ⟨r, r', hg' ▸ sqrt_zxOK z r r' hz hr hr' h1 h2⟩
    · exact ⟨1, 1, hg' ▸ sqrt_zero_zxOK⟩) h
  exact ⟨hc, K, h0, he⟩

/-- Hence the translation AS IT IS (finding F7 open) is sound on circuits without CRz, CRx, CU1. -/
theorem circuit2zx_sound_asis (n m : Nat) (c : Circ) (d : ZXDiag) (ht : Circ.codFrom n c = some m)
    (hg : ∀ x ∈ c, (∃ k, (x.2.1, k) ∈ zxTableA ++ zxTableC) ∨
      ∃ z : Cyc8, x.2.1 = Gate.scalar z ∧ z.isNormal = true)
    (h : circuit2zx false c = .ok d) :
    ZXDiag.codFrom n d = some m ∧
    ∃ k : Cyc8, k ≠ 0 ∧ ZXDiag.eval n d = msmul k (evalCirc n c) := by
  have e : circuit2zx false c = circuit2zx true c := by
    clear ht h
    induction c with
    | nil => rfl
    | cons x rest ih =>
      obtain ⟨l, g, r⟩ := x
      have hgx : gate2zx false g = gate2zx true g := by
        rcases hg (l, g, r) (by simp) with ⟨k, hk⟩ | ⟨z, hz, _⟩
        · exact gate2zx_asis_eq_fixed _ hk
        · simp only at hz; subst hz; rfl
      simp only [circuit2zx, hgx, ih fun y hy => hg y (by simp [hy])]
  refine circuit2zx_sound_cyc8 n m c d ht (fun x hx => ?_) (e ▸ h)
  rcases hg x hx with ⟨k, hk⟩ | hz
  · refine .inl ⟨k, ?_⟩
    simp only [zxTable, List.mem_append] at hk ⊢
    rcases hk with hk | hk
    · exact .inl (.inl hk)
    · exact .inr hk
  · exact .inr (.inl hz)

/-- The typing hypothesis cannot be dropped: on 2 qubits the "circuit" `H` (a 2 × 2 layer) does not
    evaluate to a unitary 4 × 4 matrix (the list product truncates). -/
theorem circuit_unitary_needs_typing :
    Circ.codFrom 2 [(0, .q gH, 0)] = none ∧
    mul (evalCirc 2 [(0, .q gH, 0)]) (dagger (evalCirc 2 [(0, .q gH, 0)])) ≠ idQ 2 := by decide

end DV.Gates
