/-
  Proofs/InterchangePath.lean — `d.interchange(i, j)` is a walk: adjacent interchanges at the
  positions `movePath i j`, one after the other.  What every adjacent step preserves is then
  preserved along any path, hence by `interchange` for all `(i, j)`.
-/
import Model.Diagram

namespace DV

/-- Adjacent interchanges at the positions `ks`, in order, up to the first refusal. -/
def interchangePath (left : Bool) : List Nat → Diagram → Except Err Diagram
  | [], d => .ok d
  | k :: ks, d => match d.interchangeAdj k left with
    | .error e => .error e
    | .ok d' => interchangePath left ks d'

theorem interchangeDown_eq_path (left : Bool) (n i : Nat) (d : Diagram) :
    interchangeDown left n i d = interchangePath left (List.range' i n) d := by
  induction n generalizing i d with
  | zero => rfl
  | succ n ih =>
    simp only [interchangeDown, List.range'_succ, interchangePath, ih]
    rfl

/-- Moving up by `n` to position `m` visits `m+n-1, …, m+1, m`. -/
theorem interchangeUp_eq_path (left : Bool) (m n : Nat) (d : Diagram) :
    interchangeUp left n (m + n) d = interchangePath left (List.range' m n).reverse d := by
  induction n generalizing d with
  | zero => rfl
  | succ n ih =>
    rw [List.range'_1_concat, List.reverse_append, ← Nat.add_assoc]
    simp only [interchangeUp, if_neg (Nat.succ_ne_zero (m + n)), Nat.add_sub_cancel, ih]
    rfl

def movePath (i j : Nat) : List Nat :=
  if j < i then (List.range' j (i - j)).reverse else List.range' i (j - i)

theorem Diagram.interchange_eq_path (d : Diagram) (i j : Int) (left : Bool) :
    d.interchange i j left =
      if ¬ (0 ≤ i ∧ i < (d.boxes.length : Int)) ∨ ¬ (0 ≤ j ∧ j < (d.boxes.length : Int)) then
        .error .index
      else interchangePath left (movePath i.toNat j.toNat) d := by
  unfold Diagram.interchange
  split
  · rfl
  · rename_i hr
    obtain ⟨a, rfl⟩ := Int.eq_ofNat_of_zero_le (Decidable.not_not.mp (not_or.mp hr).1).1
    obtain ⟨b, rfl⟩ := Int.eq_ofNat_of_zero_le (Decidable.not_not.mp (not_or.mp hr).2).1
    simp only [Int.natCast_inj, Int.ofNat_lt, Int.toNat_natCast, Int.toNat_sub, movePath]
    split
    · rename_i hab
      rw [hab, if_neg (Nat.lt_irrefl b), Nat.sub_self]
      rfl
    · split
      · rename_i hba
        have := interchangeUp_eq_path left b (a - b) d
        rwa [Nat.add_sub_cancel' (Nat.le_of_lt hba)] at this
      · exact interchangeDown_eq_path left (b - a) a d

theorem mem_movePath {i j n k : Nat} (hi : i < n) (hj : j < n) (hk : k ∈ movePath i j) :
    k + 1 < n := by
  unfold movePath at hk
  split at hk
  · rename_i hji
    rw [List.mem_reverse, List.mem_range'_1, Nat.add_sub_cancel' (Nat.le_of_lt hji)] at hk
    exact Nat.lt_of_le_of_lt hk.2 hi
  · rename_i hji
    rw [List.mem_range'_1, Nat.add_sub_cancel' (Nat.le_of_not_lt hji)] at hk
    exact Nat.lt_of_le_of_lt hk.2 hj

end DV
