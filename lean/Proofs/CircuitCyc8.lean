/-
  Proofs/CircuitCyc8.lean — the whole-circuit theorems of Proofs/CircuitAlg.lean for the EXECUTABLE model
  (`evalCirc`, `Circ.dagger`, `circuit2zx`, `ZXDiag.eval`, `ZXDiag.dagger` of Model/Gates.lean over `Cyc8`).

  `Cyc8` with its normalising operations is not literally a ring (un-normalised values are distinct
  representations of one number), so the theorems are transported along `Cyc8.val : Cyc8 → ℚ(ζ₈)`
  (Proofs/Cyc8Ring.lean): `val` commutes with every matrix operation (Proofs/MatHom.lean), the ring
  theorem is applied in ℚ(ζ₈), and equality is pulled back because `val` is injective on normalised
  values and every operation preserves normalisation (`eq_of_val`).

  The per-box facts enter as decidable predicates on a gate (`Gate.isoOK`, `coisoOK`, `dagOK`, `zxOK`), which
  Proofs/CircuitTables.lean and Proofs/CircuitTablesZX.lean establish for the gate set: rotations, controlled
  rotations, kets and bras by the same transport (Proofs/RotCyc8.lean, Proofs/KetBra.lean), the named table by
  `decide`.
-/
import Proofs.MatHom
import Proofs.Cyc8Ring
import Proofs.ZXTable

namespace DV.Gates
open DV

/-! ### transport along `val` -/

theorem val_isHom : IsHom Cyc8.val :=
  ⟨Cyc8.val_zero, Cyc8.val_one, Cyc8.val_add, Cyc8.val_mul, Cyc8.val_neg, Cyc8.val_conj⟩

/-- Normalised. -/
def Nrm (x : Cyc8) : Prop := x.isNormal = true

theorem nrm_closed : IsClosed Nrm :=
  ⟨Cyc8.isNormal_zero, Cyc8.isNormal_one, Cyc8.isNormal_add, Cyc8.isNormal_mul, Cyc8.isNormal_neg,
   Cyc8.isNormal_conj⟩

/-- **Pull-back of equalities**: matrices of normalised values with the same image are equal. -/
theorem eq_of_val {A B : M8} (hA : AllEnt Nrm A) (hB : AllEnt Nrm B)
    (h : mapM Cyc8.val A = mapM Cyc8.val B) : A = B :=
  mapM_inj_on (P := Nrm) (fun _ _ hx hy => Cyc8.val_inj hx hy) hA hB h

def allNormalB (A : M8) : Bool := A.all (·.all Cyc8.isNormal)
def isMatB (m n : Nat) (A : M8) : Bool := A.length == m && A.all (·.length == n)

theorem allEnt_of_allNormalB {A : M8} (h : allNormalB A = true) : AllEnt Nrm A := by
  intro r hr x hx
  simp only [allNormalB, List.all_eq_true] at h
  exact h r hr x hx

theorem isMat_of_isMatB {m n : Nat} {A : M8} (h : isMatB m n A = true) : IsMat m n A := by
  simp only [isMatB, Bool.and_eq_true, beq_iff_eq, List.all_eq_true] at h
  exact h

theorem mapL_Ldagger (L : Layers Cyc8) :
    mapL Cyc8.val (Ldagger L) = Ldagger (mapL Cyc8.val L) := by
  simp only [Ldagger, mapL, List.map_map, List.map_reverse]
  congr 1
  apply List.map_congr_left
  intro x _
  simp [mapM_dagger val_isHom]

/-! ### circuits -/

/-- Typing scan of a circuit on `w` qubits: every layer `(l, g, r)` has `l + dom g + r` wires. -/
def Circ.codFrom : Nat → Circ → Option Nat
  | w, [] => some w
  | w, (l, g, r) :: rest => if l + g.dom + r = w then Circ.codFrom (l + g.cod + r) rest else none

def Circ.layers (c : Circ) : Layers Cyc8 := c.map fun x => (x.1, x.2.1.eval, x.2.2)

theorem evalCirc_eq (n : Nat) (c : Circ) : evalCirc n c = evalLayers n c.layers :=
  evalCircFrom_eq _ c

/-- The evaluation of the gate is a `2^dom × 2^cod` matrix of normalised values. -/
def Gate.shapeOK (g : Gate) : Bool := isMatB (pow2 g.dom) (pow2 g.cod) g.eval && allNormalB g.eval
/-- `⟦g⟧·⟦g⟧† = 1`. -/
def Gate.isoOK (g : Gate) : Bool := g.shapeOK && mul g.eval (Gates.dagger g.eval) == idQ g.dom
/-- `⟦g⟧†·⟦g⟧ = 1`. -/
def Gate.coisoOK (g : Gate) : Bool := g.shapeOK && mul (Gates.dagger g.eval) g.eval == idQ g.cod
theorem Circ.codFrom_induction {P : Gate → Prop} {C : Nat → Circ → Nat → Prop}
    (nil : ∀ n, C n [] n)
    (cons : ∀ l g r rest m, P g → C (l + g.cod + r) rest m → C (l + g.dom + r) ((l, g, r) :: rest) m)
    {n m : Nat} {c : Circ} (ht : Circ.codFrom n c = some m) (hg : ∀ x ∈ c, P x.2.1) : C n c m := by
  induction c generalizing n with
  | nil => simp only [Circ.codFrom, Option.some.injEq] at ht; subst ht; exact nil _
  | cons x rest ih =>
    obtain ⟨l, g, r⟩ := x
    simp only [Circ.codFrom] at ht
    split at ht
    · rename_i hw
      subst hw
      exact cons l g r rest m (hg (l, g, r) List.mem_cons_self)
        (ih ht fun y hy => hg y (List.mem_cons_of_mem _ hy))
    · cases ht

/-- `⟦g†⟧ = ⟦g⟧†`. -/
def Gate.dagOK (g : Gate) : Bool := g.shapeOK && g.dagger.eval == Gates.dagger g.eval

theorem Gate.shapeOK_spec {g : Gate} (h : g.shapeOK = true) :
    IsMat (pow2 g.dom) (pow2 g.cod) g.eval ∧ AllEnt Nrm g.eval := by
  simp only [Gate.shapeOK, Bool.and_eq_true] at h
  exact ⟨isMat_of_isMatB h.1, allEnt_of_allNormalB h.2⟩

theorem layers_typed {n m : Nat} {c : Circ} (ht : Circ.codFrom n c = some m)
    (hg : ∀ x ∈ c, x.2.1.shapeOK = true) : LTyped n (mapL Cyc8.val c.layers) m := by
  refine Circ.codFrom_induction (P := fun g => g.shapeOK = true)
    (C := fun n c m => LTyped n (mapL Cyc8.val c.layers) m)
    (fun n => LTyped.nil n) (fun l g r rest m hgs ih => ?_) ht hg
  exact LTyped.cons (Gate.shapeOK_spec hgs).1.mapM ih

theorem layers_allEnt {c : Circ} (hg : ∀ x ∈ c, x.2.1.shapeOK = true) :
    ∀ x ∈ c.layers, AllEnt Nrm x.2.1 := by
  intro x hx
  simp only [Circ.layers, List.mem_map] at hx
  obtain ⟨y, hy, rfl⟩ := hx
  exact (Gate.shapeOK_spec (hg y hy)).2

theorem evalCirc_allEnt (n : Nat) {c : Circ} (hg : ∀ x ∈ c, x.2.1.shapeOK = true) :
    AllEnt Nrm (evalCirc n c) := by
  rw [evalCirc_eq]; exact AllEnt.evalLayers nrm_closed n (layers_allEnt hg)

theorem evalCirc_isMat {n m : Nat} {c : Circ} (ht : Circ.codFrom n c = some m)
    (hg : ∀ x ∈ c, x.2.1.shapeOK = true) : IsMat (pow2 n) (pow2 m) (evalCirc n c) := by
  have := evalLayers_isMat (layers_typed ht hg)
  rw [← mapM_evalLayers val_isHom, ← evalCirc_eq] at this
  refine ⟨by simpa [mapM] using this.1, ?_⟩
  intro r hr
  have := this.2 (r.map Cyc8.val) (by simp only [mapM, List.mem_map]; exact ⟨r, hr, rfl⟩)
  simpa using this

/-- **C11, whole circuits**: a well-typed circuit of gates with `⟦g⟧⟦g⟧† = 1` satisfies `⟦c⟧⟦c⟧† = 1`. -/
theorem evalCirc_isometry {n m : Nat} {c : Circ} (ht : Circ.codFrom n c = some m)
    (hg : ∀ x ∈ c, x.2.1.isoOK = true) :
    mul (evalCirc n c) (dagger (evalCirc n c)) = idQ n := by
  have hs : ∀ x ∈ c, x.2.1.shapeOK = true := fun x hx => by
    have := hg x hx; simp only [Gate.isoOK, Bool.and_eq_true] at this; exact this.1
  have hiso : LIsometric n (mapL Cyc8.val c.layers) m := by
    refine Circ.codFrom_induction (P := fun g => g.isoOK = true)
      (C := fun n c m => LIsometric n (mapL Cyc8.val c.layers) m)
      (fun n => LIsometric.nil n) (fun l g r rest m h1 ih => ?_) ht hg
    simp only [Gate.isoOK, Bool.and_eq_true, beq_iff_eq] at h1
    refine LIsometric.cons (Gate.shapeOK_spec h1.1).1.mapM ?_ ih
    rw [← mapM_dagger val_isHom, ← mapM_mul val_isHom, h1.2, mapM_idQ val_isHom]
  have hE := evalCirc_allEnt n hs
  apply eq_of_val (hE.mul nrm_closed (hE.dagger nrm_closed)) (AllEnt.idQ nrm_closed n)
  rw [mapM_mul val_isHom, mapM_dagger val_isHom, mapM_idQ val_isHom, evalCirc_eq,
    mapM_evalLayers val_isHom]
  exact evalLayers_isometry hiso

/-- … and of gates with `⟦g⟧†⟦g⟧ = 1` satisfies `⟦c⟧†⟦c⟧ = 1`. -/
theorem evalCirc_coisometry {n m : Nat} {c : Circ} (ht : Circ.codFrom n c = some m)
    (hg : ∀ x ∈ c, x.2.1.coisoOK = true) :
    mul (dagger (evalCirc n c)) (evalCirc n c) = idQ m := by
  have hs : ∀ x ∈ c, x.2.1.shapeOK = true := fun x hx => by
    have := hg x hx; simp only [Gate.coisoOK, Bool.and_eq_true] at this; exact this.1
  have hiso : LCoisometric n (mapL Cyc8.val c.layers) m := by
    refine Circ.codFrom_induction (P := fun g => g.coisoOK = true)
      (C := fun n c m => LCoisometric n (mapL Cyc8.val c.layers) m)
      (fun n => LCoisometric.nil n) (fun l g r rest m h1 ih => ?_) ht hg
    simp only [Gate.coisoOK, Bool.and_eq_true, beq_iff_eq] at h1
    refine LCoisometric.cons (Gate.shapeOK_spec h1.1).1.mapM ?_ ih
    rw [← mapM_dagger val_isHom, ← mapM_mul val_isHom, h1.2, mapM_idQ val_isHom]
  have hE := evalCirc_allEnt n hs
  apply eq_of_val ((hE.dagger nrm_closed).mul nrm_closed hE) (AllEnt.idQ nrm_closed m)
  rw [mapM_mul val_isHom, mapM_dagger val_isHom, mapM_idQ val_isHom, evalCirc_eq,
    mapM_evalLayers val_isHom]
  exact evalLayers_coisometry hiso

theorem Gate.dagger_dom : ∀ g : Gate, g.dagger.dom = g.cod
  | .q _ | .rot _ _ | .ket _ | .bra _ | .swap | .scalar _ => rfl
  | .sqrt z r => by simp only [Gate.dagger, sqrtDaggerW]; split <;> rfl
  | .ctrl g => by simp [Gate.dagger, Gate.dom, Gate.cod, Gate.dagger_dom g]

theorem Gate.dagger_cod : ∀ g : Gate, g.dagger.cod = g.dom
  | .q _ | .rot _ _ | .ket _ | .bra _ | .swap | .scalar _ => rfl
  | .sqrt z r => by simp only [Gate.dagger, sqrtDaggerW]; split <;> rfl
  | .ctrl g => by simp [Gate.dagger, Gate.dom, Gate.cod, Gate.dagger_cod g]

theorem Circ.codFrom_append (c c' : Circ) (w : Nat) :
    Circ.codFrom w (c ++ c') = (Circ.codFrom w c).bind fun k => Circ.codFrom k c' := by
  induction c generalizing w with
  | nil => rfl
  | cons x rest ih =>
    obtain ⟨l, g, r⟩ := x
    simp only [List.cons_append, Circ.codFrom]
    split
    · exact ih _
    · rfl

/-- The dagger of a well-typed circuit is well typed the other way round. -/
theorem Circ.dagger_codFrom {n m : Nat} {c : Circ} (ht : Circ.codFrom n c = some m) :
    Circ.codFrom m (Circ.dagger c) = some n := by
  have app := Circ.codFrom_append
  induction c generalizing n with
  | nil => simpa [Circ.dagger, Circ.codFrom] using ht.symm
  | cons x rest ih =>
    obtain ⟨l, g, r⟩ := x
    simp only [Circ.codFrom] at ht
    split at ht
    · rename_i hw
      have e : Circ.dagger ((l, g, r) :: rest) = Circ.dagger rest ++ [(l, g.dagger, r)] := by
        simp [Circ.dagger]
      rw [e, app, ih ht]
      simp [Circ.codFrom, Gate.dagger_dom, Gate.dagger_cod, hw]
    · cases ht

/-- **C11, whole circuits**: `⟦c†⟧ = ⟦c⟧†` for a well-typed circuit of gates with `⟦g†⟧ = ⟦g⟧†`. -/
theorem evalCirc_dagger {n m : Nat} {c : Circ} (ht : Circ.codFrom n c = some m)
    (hg : ∀ x ∈ c, x.2.1.dagOK = true) :
    evalCirc m (Circ.dagger c) = dagger (evalCirc n c) := by
  have hs : ∀ x ∈ c, x.2.1.shapeOK = true := fun x hx => by
    have := hg x hx; simp only [Gate.dagOK, Bool.and_eq_true] at this; exact this.1
  have hl : (Circ.dagger c).layers = Ldagger c.layers := by
    simp only [Circ.dagger, Circ.layers, Ldagger, List.map_map, List.map_reverse]
    congr 1
    apply List.map_congr_left
    intro x hx
    have := hg x hx
    simp only [Gate.dagOK, Bool.and_eq_true, beq_iff_eq] at this
    simp [this.2]
  have hE := evalCirc_allEnt n hs
  have hD : AllEnt Nrm (evalCirc m (Circ.dagger c)) := by
    rw [evalCirc_eq, hl]
    apply AllEnt.evalLayers nrm_closed
    intro x hx
    simp only [Ldagger, List.mem_map, List.mem_reverse] at hx
    obtain ⟨y, hy, rfl⟩ := hx
    exact (layers_allEnt hs y hy).dagger nrm_closed
  apply eq_of_val hD (hE.dagger nrm_closed)
  rw [mapM_dagger val_isHom, evalCirc_eq, evalCirc_eq, mapM_evalLayers val_isHom,
    mapM_evalLayers val_isHom, hl, mapL_Ldagger]
  exact evalLayers_dagger (layers_typed ht hs)

/-! ### ZX diagrams -/

theorem Cyc8.zetaPow_neg (p : Int) : Cyc8.zetaPow (-p) = (Cyc8.zetaPow p).conj := by
  have tab : ∀ j : Fin 8, Cyc8.zetaPowNat ((8 - j.val) % 8) = (Cyc8.zetaPowNat j.val).conj := by decide
  unfold Cyc8.zetaPow
  have hj : (p % 8).toNat < 8 := by omega
  have := tab ⟨(p % 8).toNat, hj⟩
  simp only at this
  rw [← this]
  congr 1
  omega

theorem star_val_invSqrt2 : star (Cyc8.val Cyc8.invSqrt2) = Cyc8.val Cyc8.invSqrt2 := by
  rw [← Cyc8.val_conj]; rfl

def ZXBox.normal : ZXBox → Bool
  | .scalar s => s.isNormal
  | _ => true

/-- Every scalar box of the diagram carries a normalised value (what the driver's parser produces). -/
def ZXDiag.normal (d : ZXDiag) : Bool := d.all (·.1.normal)

theorem ZXBox.paramOK_of_normal {b : ZXBox} (h : b.normal = true) : b.sem.paramOK Nrm := by
  cases b with
  | z n m p => exact Cyc8.isNormal_zetaPow p
  | x n m p => exact Cyc8.isNormal_zetaPow p
  | h => trivial
  | swap => trivial
  | scalar s => exact h

theorem ZXBox.dagger_normal {b : ZXBox} (h : b.normal = true) : b.dagger.normal = true := by
  cases b with
  | scalar s => exact Cyc8.isNormal_conj h
  | _ => rfl

/-- zx.py's dagger on the syntax (phase negated, scalar conjugated) is the dagger on the values. -/
theorem ZXBox.sem_dagger_map (b : ZXBox) : (b.dagger.sem).map Cyc8.val = ((b.sem).map Cyc8.val).daggerS := by
  cases b <;> simp [ZXBox.dagger, ZXBox.sem, ZXB.map, ZXB.daggerS, Cyc8.zetaPow_neg, Cyc8.val_conj]

/-- **C16, generators**: `⟦b†⟧ = ⟦b⟧ᴴ` for every box of the executable syntax: every arity, every phase
    `p/8`, every normalised scalar. -/
theorem ZXBox.dagger_mat {b : ZXBox} (h : b.normal = true) :
    b.dagger.sem.mat Cyc8.invSqrt2 = Gates.dagger (b.sem.mat Cyc8.invSqrt2) := by
  apply eq_of_val (AllEnt.zxb nrm_closed (by rfl) (ZXBox.paramOK_of_normal (ZXBox.dagger_normal h)))
    ((AllEnt.zxb nrm_closed (by rfl) (ZXBox.paramOK_of_normal h)).dagger nrm_closed)
  rw [mapM_dagger val_isHom, mapM_zxb val_isHom, mapM_zxb val_isHom, ZXBox.sem_dagger_map]
  exact zxb_dagger _ star_val_invSqrt2 _

theorem ZXDiag.paramOK_of_normal {d : ZXDiag} (h : d.normal = true) :
    ∀ x ∈ d.sem, x.1.paramOK Nrm := by
  intro x hx
  simp only [ZXDiag.sem, List.mem_map] at hx
  obtain ⟨y, hy, rfl⟩ := hx
  simp only [ZXDiag.normal, List.all_eq_true] at h
  exact ZXBox.paramOK_of_normal (h y hy)

theorem ZXDiag.eval_allEnt (w : Nat) {d : ZXDiag} (h : d.normal = true) :
    AllEnt Nrm (ZXDiag.eval w d) :=
  AllEnt.evalZX nrm_closed (ρ := Cyc8.invSqrt2) (by rfl) w (ZXDiag.paramOK_of_normal h)

theorem ZXDiag.dagger_normal {d : ZXDiag} (h : d.normal = true) : d.dagger.normal = true := by
  simp only [ZXDiag.normal, ZXDiag.dagger, List.all_eq_true, List.mem_map, List.mem_reverse] at h ⊢
  rintro x ⟨y, hy, rfl⟩
  exact ZXBox.dagger_normal (h y hy)

theorem sem_dagger_map (d : ZXDiag) :
    (d.dagger.sem).mapD Cyc8.val = ((d.sem).mapD Cyc8.val).daggerS := by
  simp only [ZXDiag.dagger, ZXDiag.sem, ZXD.mapD, ZXD.daggerS, List.map_map, List.map_reverse]
  congr 1
  apply List.map_congr_left
  intro x _
  simp [Function.comp_def, ZXBox.sem_dagger_map]

/-- **C16, whole diagrams**: `⟦d†⟧ = ⟦d⟧ᴴ` for every well-typed ZX diagram (normalised scalars). -/
theorem ZXDiag.eval_dagger {n m : Nat} {d : ZXDiag} (ht : ZXDiag.codFrom n d = some m)
    (hn : d.normal = true) : ZXDiag.eval m d.dagger = Gates.dagger (ZXDiag.eval n d) := by
  apply eq_of_val (ZXDiag.eval_allEnt m (ZXDiag.dagger_normal hn))
    ((ZXDiag.eval_allEnt n hn).dagger nrm_closed)
  rw [mapM_dagger val_isHom]
  unfold ZXDiag.eval
  rw [mapM_evalZX val_isHom, mapM_evalZX val_isHom, sem_dagger_map]
  apply evalZX_dagger _ star_val_invSqrt2
  rw [codFrom_map, ← codFrom_sem]; exact ht

/-- The image of a gate under the corrected `gate2zx` is a well-typed diagram with normalised
    scalars denoting `k • ⟦g⟧`, and `k` has the inverse `k'`. -/
def Gate.zxOK (g : Gate) (k k' : Cyc8) : Bool :=
  match gate2zx true g with
  | .ok d => g.shapeOK && d.normal && ZXDiag.codFrom g.dom d == some g.cod &&
      ZXDiag.eval g.dom d == msmul k g.eval && k.isNormal && k'.isNormal && k * k' == 1
  | .error _ => false

theorem Gate.zxOK_iff {g : Gate} {k k' : Cyc8} :
    g.zxOK k k' = true ↔ ∃ d, gate2zx true g = .ok d ∧ g.shapeOK = true ∧ d.normal = true ∧
      ZXDiag.codFrom g.dom d = some g.cod ∧ ZXDiag.eval g.dom d = msmul k g.eval ∧
      k.isNormal = true ∧ k'.isNormal = true ∧ k * k' = 1 := by
  unfold Gate.zxOK
  cases gate2zx true g <;> simp [and_assoc]

/-- The conjuncts of `Gate.zxOK` that need no evaluation of the image. -/
def Gate.zxTyped (g : Gate) (k k' : Cyc8) : Bool :=
  match gate2zx true g with
  | .ok d => g.shapeOK && d.normal && ZXDiag.codFrom g.dom d == some g.cod &&
      k.isNormal && k'.isNormal && k * k' == 1
  | .error _ => false

/-- `Gate.zxOK` from the evaluation of the image (as the tables of Proofs/ZXTable.lean state it). -/
theorem Gate.zxOK_of_eval {g : Gate} {k k' : Cyc8} (ht : g.zxTyped k k' = true)
    (he : zxEvalOf true g = .ok (msmul k g.eval)) : g.zxOK k k' = true := by
  unfold Gate.zxTyped at ht
  unfold zxEvalOf at he
  rw [Gate.zxOK_iff]
  cases hd : gate2zx true g with
  | error e => simp [hd] at ht
  | ok d =>
    simp only [hd, Bool.and_eq_true, beq_iff_eq, Except.ok.injEq] at ht he
    obtain ⟨⟨⟨⟨⟨hsh, hn⟩, hcod⟩, hk⟩, hk'⟩, hkk⟩ := ht
    exact ⟨d, rfl, hsh, hn, hcod, he, hk, hk', hkk⟩

theorem sem_shift_map (l : Nat) (d : ZXDiag) :
    (ZXDiag.sem (d.map fun x => (x.1, x.2 + l))).mapD Cyc8.val = zxShift l ((d.sem).mapD Cyc8.val) := by
  simp [ZXDiag.sem, ZXD.mapD, zxShift, List.map_map, Function.comp_def]

/-- **C16, whole circuits**: the image of a well-typed circuit under the corrected `circuit2zx` denotes
    `K • ⟦c⟧` for ONE scalar `K` (the product of the scalars of the gates), which is invertible, hence
    non-zero. -/
theorem circuit2zx_sound_of {n m : Nat} {c : Circ} {d : ZXDiag} (ht : Circ.codFrom n c = some m)
    (hg : ∀ x ∈ c, ∃ k k', x.2.1.zxOK k k' = true) (h : circuit2zx true c = .ok d) :
    ∃ K K' : Cyc8, K ≠ 0 ∧ Cyc8.val K * Cyc8.val K' = 1 ∧ ZXDiag.codFrom n d = some m ∧
      ZXDiag.eval n d = msmul K (evalCirc n c) := by
  have hs : ∀ x ∈ c, x.2.1.shapeOK = true := fun x hx => by
    obtain ⟨k, k', hk⟩ := hg x hx
    obtain ⟨_, _, hsh, _⟩ := Gate.zxOK_iff.1 hk
    exact hsh
  have key : ∃ K K' : Cyc8, Nrm K ∧ Cyc8.val K * Cyc8.val K' = 1 ∧ d.normal = true ∧
      ∃ ks : List Q8, ks.prod = Cyc8.val K ∧
        ZXImage (Cyc8.val Cyc8.invSqrt2) n (mapL Cyc8.val c.layers) ((d.sem).mapD Cyc8.val) ks m := by
    clear hs
    induction c generalizing n d with
    | nil =>
      simp only [Circ.codFrom, Option.some.injEq] at ht; subst ht
      simp only [circuit2zx, Except.ok.injEq] at h; subst h
      exact ⟨1, 1, rfl, by rw [Cyc8.val_one, mul_one], rfl, [], by simp [Cyc8.val_one], ZXImage.nil _⟩
    | cons x rest ih =>
      obtain ⟨l, g, r⟩ := x
      simp only [Circ.codFrom] at ht
      split at ht
      · rename_i hw
        subst hw
        obtain ⟨k, k', hk⟩ := hg (l, g, r) (by simp)
        obtain ⟨dg, hdg, hsh, hnd, hcod, hev, hkn, _, hkk⟩ := Gate.zxOK_iff.1 hk
        simp only [circuit2zx, hdg] at h
        split at h
        · rename_i dg' ds hdg' hds
          cases hdg'
          simp only [Except.ok.injEq] at h; subst h
          obtain ⟨K, K', hK, hKK, hdn, ks, hks, himg⟩ := ih ht (fun y hy => hg y (by simp [hy])) hds
          refine ⟨k * K, k' * K', Cyc8.isNormal_mul hkn hK, ?_, ?_, Cyc8.val k :: ks, ?_, ?_⟩
          · rw [Cyc8.val_mul, Cyc8.val_mul]
            have : Cyc8.val k * Cyc8.val k' = 1 := by rw [← Cyc8.val_mul, hkk, Cyc8.val_one]
            calc Cyc8.val k * Cyc8.val K * (Cyc8.val k' * Cyc8.val K')
                = (Cyc8.val k * Cyc8.val k') * (Cyc8.val K * Cyc8.val K') := by ring
              _ = 1 := by rw [this, hKK, mul_one]
          · simp only [ZXDiag.normal, List.all_append, List.all_map, Bool.and_eq_true] at hnd hdn ⊢
            exact ⟨by simpa [Function.comp_def] using hnd, hdn⟩
          · rw [List.prod_cons, hks, Cyc8.val_mul]
          · have e : ((ZXDiag.sem ((dg.map fun x => (x.1, x.2 + l)) ++ ds)).mapD Cyc8.val) =
                zxShift l ((dg.sem).mapD Cyc8.val) ++ (ds.sem).mapD Cyc8.val := by
              rw [← sem_shift_map]; simp [ZXDiag.sem, ZXD.mapD]
            simp only [Circ.layers, mapL, List.map_cons] at himg ⊢
            rw [e]
            refine ZXImage.cons (Gate.shapeOK_spec hsh).1.mapM ?_ ?_ himg
            · rw [codFrom_map, ← codFrom_sem]; exact hcod
            · rw [← mapM_evalZX val_isHom, ← mapM_msmul val_isHom]
              exact congrArg _ hev
        · cases h
        · cases h
      · cases ht
  obtain ⟨K, K', hK, hKK, hdn, ks, hks, himg⟩ := key
  obtain ⟨_, hcod, hev⟩ := evalZX_image _ himg
  refine ⟨K, K', Cyc8.val_ne_zero_of_unit hKK, hKK, ?_, ?_⟩
  · rw [codFrom_map, ← codFrom_sem] at hcod; exact hcod
  · apply eq_of_val (ZXDiag.eval_allEnt n hdn) ((evalCirc_allEnt n hs).msmul nrm_closed hK)
    rw [mapM_msmul val_isHom, evalCirc_eq, mapM_evalLayers val_isHom, ← hks, ← hev]
    unfold ZXDiag.eval
    rw [mapM_evalZX val_isHom]

end DV.Gates
