/-
  Proofs/ParamGates.lean — the arrays of the parametrised gates and the lemmas behind the
  per-gate gradient rules of C15 (Props/C15.lean), symbolic in the phase.

  A rotation of phase φ = p(x) enters its array only through ν = e^{iπφ} and ν' = e^{-iπφ}
  (gates.py:381-445: half_theta = π·phase).  Everything is stated over an arbitrary commutative
  ring `K` with a derivation `d` and elements
      I (I·I = −1),  pi,  p' (the derivative of the phase),  ν, ν' (ν·ν' = 1),
      d.D ν = I·pi·p'·ν,   I and pi constants,
  so that instantiating K = ℂ-valued smooth functions of the parameters gives "for all phases
  p, all parameter values".  Shifting the phase by 1/2 multiplies ν by I (and ν' by −I);
  shifting it by ±1/4 multiplies ν by ζ^{±1} with ζ·ζ = I.
-/
import Proofs.Param

set_option linter.unusedSectionVars false

namespace DV.Param

section Phase
variable {K : Type} [CommRing K] (d : Deriv K)
variable (I pi p' ν ν' : K)

/-- Hypotheses on the phase ring, bundled. -/
structure PhaseHyp : Prop where
  I_sq : I * I = -1
  inv : ν * ν' = 1
  D_nu : d.D ν = I * pi * p' * ν
  cI : d.D I = 0
  cpi : d.D pi = 0

variable {d I pi p' ν ν'}

theorem PhaseHyp.D_nu' (H : PhaseHyp d I pi p' ν ν') : d.D ν' = -(I * pi * p' * ν') := by
  -- differentiate ν · ν' = 1, then solve for D ν' using ν · ν' = 1 once more
  have h : d.D ν * ν' + ν * d.D ν' = 0 := by
    rw [← d.mul, H.inv, d.one]
  linear_combination ν' * h - d.D ν' * H.inv - ν' ^ 2 * H.D_nu - I * pi * p' * ν' * H.inv

/-- Derivative of a form linear in ν, ν' with constant coefficients. -/
theorem D_lin (H : PhaseHyp d I pi p' ν ν') (a b : K) (ha : d.D a = 0) (hb : d.D b = 0) :
    d.D (a * ν + b * ν') = I * pi * p' * (a * ν - b * ν') := by
  rw [d.add, d.const_mul a ν ha, d.const_mul b ν' hb, H.D_nu, H.D_nu']
  ring

/-- A matrix whose entries are linear in ν, ν'. -/
def Ulin (A B : Mat K) (x y : K) : Mat K := fun i j => A i j * x + B i j * y

/-- **Pure rotation rule** (gates.py:378): `Rotation.grad(mixed=False)` is
    `scalar(π p') @ R(φ + 1/2)`, and φ + 1/2 is ν ↦ I·ν, ν' ↦ −I·ν'. -/
theorem rotation_pure_rule (H : PhaseHyp d I pi p' ν ν') (A B : Mat K)
    (hA : ∀ i j, d.D (A i j) = 0) (hB : ∀ i j, d.D (B i j) = 0) (i j : Nat) :
    d.D (Ulin A B ν ν' i j) = pi * p' * Ulin A B (I * ν) (-I * ν') i j := by
  unfold Ulin
  rw [D_lin H _ _ (hA i j) (hB i j)]
  ring

/-- Derivative of a product of two linear forms = the parameter-shift difference. -/
theorem shift_rule_product (H : PhaseHyp d I pi p' ν ν') (ζ ζ' : K)
    (hζ : ζ * ζ = I) (hζ' : ζ' * ζ' = -I)
    (a1 a2 b1 b2 : K) (h1 : d.D a1 = 0) (h2 : d.D a2 = 0) (h3 : d.D b1 = 0) (h4 : d.D b2 = 0) :
    d.D ((a2 * ν + a1 * ν') * (b1 * ν + b2 * ν'))
      = pi * p' * ((a2 * (ζ * ν) + a1 * (ζ' * ν')) * (b1 * (ζ * ν) + b2 * (ζ' * ν'))
                 - (a2 * (ζ' * ν) + a1 * (ζ * ν')) * (b1 * (ζ' * ν) + b2 * (ζ * ν'))) := by
  rw [d.mul, D_lin H _ _ h2 h1, D_lin H _ _ h3 h4]
  linear_combination (pi * p' * (a1 * b2 * ν' ^ 2 - a2 * b1 * ν ^ 2)) * hζ
    + (pi * p' * (a2 * b1 * ν ^ 2 - a1 * b2 * ν' ^ 2)) * hζ'

/-- **Mixed parameter-shift rule** on the doubled map (gates.py:370-376, cqmap.py:224-227:
    `CQMap.pure(U) = conj(U) ⊗ U`): for a single-qubit rotation
    `d/dx 𝒰(φ) = π p' (𝒰(φ + 1/4) − 𝒰(φ − 1/4))`.  `A' B'` are the coefficient matrices of the
    conjugated array (conj(Aν + Bν') = conj(B)·ν + conj(A)·ν'), any constants. -/
theorem rotation_mixed_rule (H : PhaseHyp d I pi p' ν ν') (ζ ζ' : K)
    (hζ : ζ * ζ = I) (hζ' : ζ' * ζ' = -I) (n : Nat) (A B A' B' : Mat K)
    (hA : ∀ i j, d.D (A i j) = 0) (hB : ∀ i j, d.D (B i j) = 0)
    (hA' : ∀ i j, d.D (A' i j) = 0) (hB' : ∀ i j, d.D (B' i j) = 0) (r c : Nat) :
    d.D (kron n n (Ulin A' B' ν ν') (Ulin A B ν ν') r c)
      = pi * p' * (kron n n (Ulin A' B' (ζ * ν) (ζ' * ν')) (Ulin A B (ζ * ν) (ζ' * ν')) r c
                 - kron n n (Ulin A' B' (ζ' * ν) (ζ * ν')) (Ulin A B (ζ' * ν) (ζ * ν')) r c) := by
  unfold kron Ulin
  exact shift_rule_product H ζ ζ' hζ hζ' _ _ _ _ (hB' _ _) (hA' _ _) (hA _ _) (hB _ _)

/-! ### the arrays of gates.py as linear forms -/

def mat2 (a b c e : K) : Mat K := fun i j =>
  if i = 0 then (if j = 0 then a else b) else (if j = 0 then c else e)

/-- cos(πφ) = (ν + ν')/2, with h = 1/2. -/
def cosν (h x y : K) : K := h * (x + y)
/-- sin(πφ) = (ν − ν')/(2i) = −(i/2)(ν − ν'). -/
def sinν (I h x y : K) : K := -(I * h) * (x - y)

/-- gates.py:386-390 `[[cos, -1j*sin], [-1j*sin, cos]]`. -/
def RxArr (I h x y : K) : Mat K :=
  mat2 (cosν h x y) (-I * sinν I h x y) (-I * sinν I h x y) (cosν h x y)
/-- gates.py:398-402 `[[cos, -sin], [sin, cos]]`. -/
def RyArr (I h x y : K) : Mat K :=
  mat2 (cosν h x y) (-sinν I h x y) (sinν I h x y) (cosν h x y)
/-- gates.py:410-415 `[[exp(-1j*half_theta), 0], [0, exp(1j*half_theta)]]`. -/
def RzArr (x y : K) : Mat K := mat2 y 0 0 x

theorem mat2_00 (a b c e : K) : mat2 a b c e 0 0 = a := rfl
theorem mat2_01 (a b c e : K) : mat2 a b c e 0 1 = b := rfl
theorem mat2_10 (a b c e : K) : mat2 a b c e 1 0 = c := rfl
theorem mat2_11 (a b c e : K) : mat2 a b c e 1 1 = e := rfl

theorem mat2_const (a b c e : K) (ha : d.D a = 0) (hb : d.D b = 0) (hc : d.D c = 0)
    (he : d.D e = 0) (i j : Nat) : d.D (mat2 a b c e i j) = 0 := by
  unfold mat2
  split <;> split <;> assumption

theorem mat2_rule {s a b c e a' b' c' e' : K} (ha : d.D a = s * a') (hb : d.D b = s * b')
    (hc : d.D c = s * c') (he : d.D e = s * e') (i j : Nat) :
    d.D (mat2 a b c e i j) = s * mat2 a' b' c' e' i j := by
  unfold mat2
  split <;> split <;> assumption

variable (h : K)

theorem D_half (hh : 2 * h = 1) : d.D h = 0 := by
  have c2 : d.D (2 : K) = 0 := by rw [← one_add_one_eq_two, d.add, d.one, add_zero]
  have e : 2 * d.D h = 0 := by rw [← d.const_mul 2 h c2, hh, d.one]
  linear_combination h * e - d.D h * hh

theorem D_cos (H : PhaseHyp d I pi p' ν ν') (hh : 2 * h = 1) :
    d.D (cosν h ν ν') = pi * p' * cosν h (I * ν) (-I * ν') := by
  unfold cosν
  rw [d.const_mul _ _ (D_half (d := d) h hh), d.add, H.D_nu, H.D_nu']
  ring

theorem D_sin (H : PhaseHyp d I pi p' ν ν') (hh : 2 * h = 1) :
    d.D (sinν I h ν ν') = pi * p' * sinν I h (I * ν) (-I * ν') := by
  unfold sinν
  have c : d.D (-(I * h)) = 0 := by
    rw [d.neg, d.const_mul I h H.cI, D_half (d := d) h hh, mul_zero, neg_zero]
  rw [d.const_mul _ _ c, d.sub, H.D_nu, H.D_nu']
  ring

-- `cos_shift` does not need I² = −1; it takes `H` only to have the shape of `sin_shift`
set_option linter.unusedVariables false in
/-- sin(π(φ+½)) = cos(πφ), cos(π(φ+½)) = −sin(πφ): the shift really is a quarter turn. -/
theorem cos_shift (H : PhaseHyp d I pi p' ν ν') : cosν h (I * ν) (-I * ν') = -(sinν I h ν ν') := by
  unfold cosν sinν
  ring

theorem sin_shift (H : PhaseHyp d I pi p' ν ν') : sinν I h (I * ν) (-I * ν') = cosν h ν ν' := by
  unfold cosν sinν
  linear_combination (-(h * (ν + ν'))) * H.I_sq

/-! ### controlled rotations, pure rules (gates.py:436-502) -/

/-- CU1 (gates.py:425-434): diag(1, 1, 1, e^{2πiφ}) = diag(1,1,1,ν²); its pure gradient is
    `|11⟩⟨11| ⊗ scalar(2πi p' e^{2πiφ})` (444-446). -/
def CU1Diag (x : K) : Nat → K := fun k => if k = 3 then x * x else 1
def CU1GradDiag (I pi p' x : K) : Nat → K := fun k => if k = 3 then I * 2 * pi * p' * (x * x) else 0

/-- CRz (454-462): diag(1, 1, ν', ν); pure gradient `CRz >> (Z⊗Z·c + 1⊗Z·(−c))`, c = iπp'/2
    (470-474).  Diagonal matrices: the product is entrywise. -/
def CRzDiag (x y : K) : Nat → K := fun k => if k = 2 then y else if k = 3 then x else 1
def ZZ : Nat → K := fun k => if k = 0 ∨ k = 3 then 1 else -1
def IZ : Nat → K := fun k => if k = 0 ∨ k = 2 then 1 else -1

/-- `1·(1·xc + 1·x(−c)) = 0`: an entry `x` times the two coefficients `c`, `−c` of the gradient of
    CRx on its upper-left block. -/
theorem CRx_pure_rule_upper (c x : K) : 1 * (1 * (x * c) + 1 * (x * (-c))) = (0 : K) := by ring

theorem matMul_two (A B : Mat K) (i j : Nat) :
    matMul 2 A B i j = A i 0 * B 0 j + A i 1 * B 1 j := by
  show A i 0 * B 0 j + (A i 1 * B 1 j + 0) = _
  rw [add_zero]

/-! ### scalars and spiders -/

/-- `Scalar.grad` (gates.py:524-527): the amplitude of `Scalar(s.diff(x))` is `D s`. -/
theorem scalar_pure_rule (s : K) : d.D s = d.D s := rfl

/-- zx.Spider.grad (zx.py:289-295), symmetric phase convention (the Z spider of phase φ has
    entries ν' on |0…0⟩⟨0…0| and ν on |1…1⟩⟨1…1|, like Rz): `scalar(π p') @ Z(φ + 1/2)`. -/
theorem spider_rule (H : PhaseHyp d I pi p' ν ν') :
    d.D ν' = pi * p' * (-I * ν') ∧ d.D ν = pi * p' * (I * ν) ∧ d.D (0 : K) = pi * p' * 0 := by
  refine ⟨?_, ?_, ?_⟩
  · rw [H.D_nu']; ring
  · rw [H.D_nu]; ring
  · rw [d.zero]; ring

end Phase

end DV.Param
