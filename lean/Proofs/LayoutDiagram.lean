/-
  Proofs/LayoutDiagram.lean — ties the layout model's input (`Shape`) to the core `Diagram`:
  a well-typed diagram has an in-range shape, and the `downgrade()` re-scan at the top of
  `diagram2nx` (drawing.py:100) accepts every well-typed diagram and refuses every shape out of
  range.  Then the layout clauses in the form the property states them: `Graph.Left` (strictly
  left of), distinct open wires at every height, and the structure `Faithful` collecting all
  clauses for one graph, with `layout_faithful`.
-/
import Proofs.Layout
import Proofs.WFOps

namespace DV.Layout
open DV

/-- The shape read off the layer view. -/
def stepOfLayer (l : Layer) : Step := ⟨l.box.dom.length, l.box.cod.length, l.left.length⟩

theorem stepsOK_of_chain {s c : Ty} {ls : List Layer} (h : Chain s ls c) :
    StepsOK s.length (ls.map stepOfLayer) c.length := by
  induction ls generalizing s with
  | nil => simp only [Chain] at h; subst h; simp [StepsOK]
  | cons l ls ih =>
    obtain ⟨h1, h2⟩ := h
    have := ih h2
    subst h1
    simp only [List.map_cons, StepsOK, stepOfLayer, Layer.dom, Layer.cod, List.length_append] at this ⊢
    refine ⟨by omega, ?_⟩
    have e : l.left.length + l.box.dom.length + l.right.length - l.box.dom.length + l.box.cod.length
        = l.left.length + l.box.cod.length + l.right.length := by omega
    rw [e]; exact this

theorem shapeOf_steps {d : Diagram} (h : d.WF) :
    (shapeOf d).steps = d.layers.boxes.map stepOfLayer := by
  simp only [shapeOf, h.boxes, h.offsets, List.zipWith_map, List.zipWith_self]
  apply List.map_congr_left
  intro l _
  simp [stepOf, stepOfLayer]

/-- A well-typed diagram has all its offsets in range. -/
theorem shapeOf_wf {d : Diagram} (h : d.WF) : (shapeOf d).WF := by
  unfold Shape.WF
  rw [shapeOf_steps h]
  have := stepsOK_of_chain h.chain
  rw [h.ldom, h.lcod] at this
  exact this

theorem shapeOf_congr {d d' : Diagram} (h1 : d'.dom = d.dom) (h2 : d'.cod = d.cod)
    (h3 : d'.boxes = d.boxes) (h4 : d'.offsets = d.offsets) : shapeOf d' = shapeOf d := by
  simp [shapeOf, h1, h2, h3, h4]

/-- Whatever `diagram2nx` returns is the layout of the diagram's own shape, and that shape is
    in range (the `downgrade()` scan refused everything else). -/
theorem diagram2nx_ok {d : Diagram} {g : Graph} (h : diagram2nx d = .ok g) :
    g = layout (shapeOf d) ∧ (shapeOf d).WF := by
  unfold diagram2nx at h
  split at h
  · cases h
  · rename_i d' hd'
    cases h
    obtain ⟨hw, h1, h2, h3, h4⟩ := Diagram.mk?_ok hd'
    rw [← shapeOf_congr h1 h2 h3 h4]
    exact ⟨rfl, shapeOf_wf hw⟩

/-- The scan of the public constructor accepts the layers of a chain. -/
theorem scanLayers_of_chain {acc : LArrow} {ls : List Layer} {c : Ty} (h : Chain acc.cod ls c) :
    ∃ r, scanLayers acc (ls.map (·.box)) (ls.map (fun l => (l.left.length : Int))) = .ok r
      ∧ r.cod = c := by
  induction ls generalizing acc with
  | nil => exact ⟨acc, rfl, h⟩
  | cons l ls ih =>
    obtain ⟨h1, h2⟩ := h
    simp only [List.map_cons, scanLayers]
    have hleft : pySlice acc.cod none (some (l.left.length : Int)) = l.left := by
      rw [pySlice_take, h1]; simp [Layer.dom]
    have hright : pySlice acc.cod (some ((l.left.length : Int) + (l.box.dom.length : Int))) none
        = l.right := by
      have e : ((l.left.length : Int) + (l.box.dom.length : Int))
          = ((l.left.length + l.box.dom.length : Nat) : Int) := by simp
      rw [e, pySlice_drop, h1]; simp [Layer.dom]
    have hthen : acc.thenLayer ⟨l.left, l.box, l.right⟩ = .ok ⟨acc.dom, l.cod, acc.boxes ++ [l]⟩ := by
      have : (⟨l.left, l.box, l.right⟩ : Layer) = l := rfl
      rw [this]
      simp [LArrow.thenLayer, LArrow.then, Layer.arrow, h1]
    rw [hleft, hright]
    simp only [ne_eq, not_true_eq_false, if_false, hthen]
    exact ih (acc := ⟨acc.dom, l.cod, acc.boxes ++ [l]⟩) h2

/-- The re-scan at the top of `diagram2nx` accepts every well-typed diagram. -/
theorem mk?_of_wf {d : Diagram} (h : d.WF) :
    ∃ d', Diagram.mk? d.dom d.cod d.boxes d.offsets = .ok d' := by
  unfold Diagram.mk?
  have hlen : d.boxes.length = d.offsets.length := by rw [h.boxes, h.offsets]; simp
  rw [if_neg (by simpa using hlen)]
  have hc : Chain (LArrow.id d.dom).cod d.layers.boxes d.cod := by
    have := h.chain; unfold LArrow.WF at this; rw [h.ldom, h.lcod] at this; exact this
  obtain ⟨r, hr, hrc⟩ := scanLayers_of_chain hc
  rw [h.boxes, h.offsets, hr]
  simp [LArrow.then, LArrow.id, hrc]

/-- `diagram2nx` succeeds on every well-typed diagram and returns the layout of its shape. -/
theorem diagram2nx_of_wf {d : Diagram} (h : d.WF) : diagram2nx d = .ok (layout (shapeOf d)) := by
  obtain ⟨d', hd'⟩ := mk?_of_wf h
  have : diagram2nx d = .ok (layout (shapeOf d')) := by simp [diagram2nx, hd']
  rw [this]
  obtain ⟨-, h1, h2, h3, h4⟩ := Diagram.mk?_ok hd'
  rw [shapeOf_congr h1 h2 h3 h4]

/-! ### Corollaries in the form the property states them -/

/-- `a` is strictly left of `b` in the graph (both placed). -/
def Graph.Left (g : Graph) (a b : Node) : Prop :=
  ∃ xa xb, g.nodes.x? a = some xa ∧ g.nodes.x? b = some xb ∧ xa < xb

theorem left_of_sep {g : Graph} {a b : Node} (h : g.nodes.sep 1 a b) : g.Left a b := by
  obtain ⟨xa, xb, ha, hb, hab⟩ := h
  exact ⟨xa, xb, ha, hb, lt_of_add_one_le hab⟩

theorem sep_irrefl {p : Pos} {a : Node} : ¬ p.sep 1 a a := by
  rintro ⟨xa, xb, ha, hb, hab⟩
  rw [ha] at hb; cases hb; exact Rat.lt_irrefl (lt_of_add_one_le hab)

/-- The open wires at one height are pairwise different nodes. -/
theorem layout_scans_nodup (sh : Shape) (h : sh.WF) : ∀ s ∈ (layout sh).scans, s.Nodup := by
  intro s hs
  refine (layout_scans_sorted sh h s hs).imp ?_
  intro a b hab e
  subst e; exact sep_irrefl hab

/-- All layout clauses of the property, for one graph. -/
structure Faithful (sh : Shape) (g : Graph) : Prop where
  /-- exactly one node per input, box, box port and output -/
  nodes_are : keys g.nodes = allNodes sh
  nodes_distinct : (keys g.nodes).Nodup
  /-- the edges are the wiring (and nothing else, with no repetition) -/
  edges_are : ∀ e, e ∈ g.edges ↔ Wiring sh e
  edges_count : g.edges.length = (sh.steps.map (fun st => 2 * st.m + st.c)).sum + sh.nOut
  /-- `g.scans` are the open wires at each height … -/
  scans_are : ∀ k sc, g.scans[k]? = some sc → ∀ p, p < sc.length →
      sc[p]? = some (follow ((sh.steps.take k).reverse) p)
  scans_count : g.scans.length = sh.steps.length + 1
  /-- … in strictly increasing horizontal order (indeed at least one unit apart) -/
  increasing : ∀ s ∈ g.scans, s.Pairwise (g.nodes.sep 1)
  /-- box centre and ports strictly between the neighbouring wires (at least one unit) -/
  between : ∀ k st sc, sh.steps[k]? = some st → g.scans[k]? = some sc →
      (∀ a ∈ sc.take st.off, ∀ v ∈ stepNodes st k, g.nodes.sep 1 a v)
      ∧ (∀ b ∈ sc.drop (st.off + st.m), ∀ v ∈ stepNodes st k, g.nodes.sep 1 v b)
  /-- wires are vertical -/
  vertical : ∀ e ∈ g.edges, (e.2.kind = .dom ∨ e.2.kind = .output) → g.nodes.eqx e.1 e.2
  /-- every edge points down -/
  down : ∀ e ∈ g.edges, ∃ ya yb, g.nodes.y? e.1 = some ya ∧ g.nodes.y? e.2 = some yb ∧ yb < ya

theorem layout_faithful (sh : Shape) (h : sh.WF) : Faithful sh (layout sh) where
  nodes_are := layout_keys sh
  nodes_distinct := layout_nodup sh h
  edges_are := layout_edges_wiring sh h
  edges_count := layout_edges_length sh
  scans_are := scans_follow sh h
  scans_count := by rw [layout_scans, scansFrom_length]
  increasing := layout_scans_sorted sh h
  between := fun k st sc h1 h2 =>
    ⟨(layout_box_between sh h k st sc h1 h2).2.left, (layout_box_between sh h k st sc h1 h2).2.right⟩
  vertical := layout_wires_vertical sh h
  down := layout_edges_down sh h

end DV.Layout
