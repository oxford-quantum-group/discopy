/-
  Proofs/TensorOps.lean — entrywise specifications of `Tensor.then/tensor/dagger/id/swap`
  (Model/Tensor.lean, transcribing tensor.py:177-237) and of `Tensor.map`, for every choice of
  dimension tuples, including the scalar case where the code's arrays have shape `(1,)`.
-/
import Proofs.TensorArray
import Model.TensorBubble
import Mathlib.Algebra.Star.Basic

namespace DV
open NDArray

/-! ### trailing / leading axes of size one -/

def padShape (m : Nat) : List Nat := List.replicate m 1
def padIdx (m : Nat) : List Nat := List.replicate m 0

@[simp] theorem padShape_length (m : Nat) : (padShape m).length = m := by simp [padShape]
@[simp] theorem padIdx_length (m : Nat) : (padIdx m).length = m := by simp [padIdx]
@[simp] theorem padShape_zero : padShape 0 = [] := rfl
@[simp] theorem padIdx_zero : padIdx 0 = [] := rfl

theorem prod_padShape : ∀ m, prod (padShape m) = 1
  | 0 => rfl
  | m + 1 => by
    have := prod_padShape m
    simp only [padShape] at this
    simp [padShape, List.replicate_succ, prod, this]

theorem inRange_padShape : ∀ m, InRange (padShape m) (padIdx m)
  | 0 => trivial
  | m + 1 => by
    have := inRange_padShape m
    simp only [padShape, padIdx] at this
    simp [padShape, padIdx, List.replicate_succ, this]

theorem flatIdx_padShape : ∀ m, flatIdx (padShape m) (padIdx m) = 0
  | 0 => rfl
  | m + 1 => by
    have := flatIdx_padShape m
    simp only [padShape, padIdx] at this
    simp [padShape, padIdx, List.replicate_succ, flatIdx, this]

/-- Padding a shape with axes of size one (and the index with padIdx) does not move the
    flat position. -/
theorem flatIdx_pad (m n : Nat) {s i : List Nat} (h : i.length = s.length) :
    flatIdx (padShape m ++ s ++ padShape n) (padIdx m ++ i ++ padIdx n) = flatIdx s i := by
  rw [flatIdx_append _ _ (by simp [h]), flatIdx_append _ _ (by simp), prod_padShape, flatIdx_padShape,
    flatIdx_padShape]
  simp

theorem inRange_pad (m n : Nat) {s i : List Nat} (h : InRange s i) :
    InRange (padShape m ++ s ++ padShape n) (padIdx m ++ i ++ padIdx n) :=
  inRange_append (inRange_append (inRange_padShape m) h) (inRange_padShape n)

theorem prod_pad (m n : Nat) (s : List Nat) : prod (padShape m ++ s ++ padShape n) = prod s := by
  simp [prod_append, prod_padShape]

/-- `1` if the tensor is a scalar (its array then has shape `(1,)`), else `0`. -/
def spad (dom cod : List Nat) : Nat := if dom ++ cod = [] then 1 else 0

theorem ashape_eq_padL (dom cod : List Nat) : ashape dom cod = padShape (spad dom cod) ++ (dom ++ cod) := by
  unfold ashape spad
  split <;> simp_all [padShape]

theorem ashape_eq_padR (dom cod : List Nat) : ashape dom cod = (dom ++ cod) ++ padShape (spad dom cod) := by
  unfold ashape spad
  split <;> simp_all [padShape]

/-- The axis of size one of a scalar, placed between domain and codomain (both empty then). -/
theorem ashape_eq_padM (dom cod : List Nat) :
    ashape dom cod = dom ++ padShape (spad dom cod) ++ cod := by
  unfold ashape spad
  split <;> simp_all [padShape]

namespace Tensor
variable {R : Type}

theorem WF.shape {t : Tensor R} (h : t.WF) : t.arr.shape = ashape t.dom t.cod := h.1

theorem entry_eq_get_padL [Zero R] {t : Tensor R} (h : t.WF) (i : List Nat) :
    t.entry i = t.arr.get (padIdx (spad t.dom t.cod) ++ i) := by
  unfold Tensor.entry NDArray.get
  rw [h.shape, ashape_eq_padL]
  have := flatIdx_append (s := padShape (spad t.dom t.cod)) (i := padIdx (spad t.dom t.cod))
    (t.dom ++ t.cod) i (by simp)
  rw [this, flatIdx_padShape]
  simp

theorem entry_eq_get_padR [Zero R] {t : Tensor R} (h : t.WF) {i : List Nat}
    (hi : i.length = (t.dom ++ t.cod).length) :
    t.entry i = t.arr.get (i ++ padIdx (spad t.dom t.cod)) := by
  unfold Tensor.entry NDArray.get
  rw [h.shape, ashape_eq_padR, flatIdx_append _ _ hi, prod_padShape, flatIdx_padShape]
  simp

theorem entry_eq_get_padM [Zero R] {t : Tensor R} (h : t.WF) {i : List Nat} (hi : InRange t.dom i)
    (k : List Nat) : t.entry (i ++ k) = t.arr.get (i ++ padIdx (spad t.dom t.cod) ++ k) := by
  by_cases hs : t.dom ++ t.cod = []
  · have hd : t.dom = [] := (List.append_eq_nil_iff.1 hs).1
    rw [hd] at hi
    rw [inRange_nil_iff.1 hi, entry_eq_get_padL h]
    rfl
  · rw [entry_eq_get_padL h, show spad t.dom t.cod = 0 by simp [spad, hs], padIdx_zero,
      List.append_nil, List.nil_append]

/-- Entries of a freshly constructed tensor whose array carries extra axes of size one. -/
theorem entry_mk'_pad [Zero R] (dom cod : List Nat) (a : NDArray R) (m n : Nat)
    (hs : a.shape = padShape m ++ (dom ++ cod) ++ padShape n) {i : List Nat}
    (hi : i.length = (dom ++ cod).length) :
    (mk' dom cod a).entry i = a.get (padIdx m ++ i ++ padIdx n) := by
  unfold Tensor.entry NDArray.get mk' NDArray.reshape
  simp only
  rw [hs, flatIdx_pad m n hi]

theorem prod_ashape (dom cod : List Nat) : prod (ashape dom cod) = prod (dom ++ cod) := by
  rw [ashape_eq_padR, prod_append, prod_padShape, Nat.mul_one]

theorem WF.arr_wf {t : Tensor R} (h : t.WF) : t.arr.WF := by
  unfold NDArray.WF
  rw [h.1, h.2, prod_ashape]

theorem mk'_wf (dom cod : List Nat) (a : NDArray R) (ha : a.WF)
    (hs : prod a.shape = prod (dom ++ cod)) : (mk' dom cod a).WF := by
  refine ⟨rfl, ?_⟩
  simp only [mk', NDArray.reshape]
  rw [ha, hs]

theorem mk'_wf_pad (dom cod : List Nat) (a : NDArray R) (m n : Nat) (ha : a.WF)
    (hs : a.shape = padShape m ++ (dom ++ cod) ++ padShape n) : (mk' dom cod a).WF :=
  mk'_wf dom cod a ha (by rw [hs, prod_pad])

@[simp] theorem mk'_dom (dom cod : List Nat) (a : NDArray R) : (mk' dom cod a).dom = dom := rfl
@[simp] theorem mk'_cod (dom cod : List Nat) (a : NDArray R) : (mk' dom cod a).cod = cod := rfl

/-- Two well-formed tensors with the same type and the same entries are equal. -/
theorem ext_entry [Zero R] {s t : Tensor R} (hs : s.WF) (ht : t.WF) (hd : s.dom = t.dom)
    (hc : s.cod = t.cod)
    (h : ∀ i, InRange (s.dom ++ s.cod) i → s.entry i = t.entry i) : s = t := by
  obtain ⟨sd, sc, ⟨ss, sdata⟩⟩ := s
  obtain ⟨td, tc, ⟨ts, tdata⟩⟩ := t
  simp only at hd hc
  subst hd hc
  have e1 : ss = ts := hs.1.trans ht.1.symm
  subst e1
  have e2 : sdata = tdata := by
    apply Array.ext
    · rw [hs.2, ht.2]
    · intro k hk1 hk2
      have hk : k < (idxs (sd ++ sc)).length := by
        rw [idxs_length]; have := hs.2; simp only at this; omega
      have := h _ (mem_idxs.1 (List.getElem_mem hk))
      simp only [Tensor.entry, flatIdx_getElem_idxs hk, Array.getD_eq_getD_getElem?,
        Array.getElem?_eq_getElem hk1, Array.getElem?_eq_getElem hk2, Option.getD_some] at this
      exact this
  subst e2
  rfl

@[simp] theorem map_dom (f : R → R) (t : Tensor R) : (t.map f).dom = t.dom := rfl
@[simp] theorem map_cod (f : R → R) (t : Tensor R) : (t.map f).cod = t.cod := rfl

/-- `Tensor.map` keeps the type: the reshape of tensor.py:128 in the constructor succeeds. -/
theorem map_wf (f : R → R) (t : Tensor R) (h : t.WF) : (t.map f).WF := by
  refine ⟨rfl, ?_⟩
  simp only [Tensor.map, mk', NDArray.reshape, Array.size_map]
  exact h.2

theorem entry_map [Zero R] (f : R → R) (t : Tensor R) (h : t.WF) {i : List Nat}
    (hi : InRange (t.dom ++ t.cod) i) : (t.map f).entry i = f (t.entry i) := by
  have hlt : flatIdx (t.dom ++ t.cod) i < t.arr.data.size := by
    rw [h.2]; exact flatIdx_lt hi
  simp [Tensor.entry, Tensor.map, mk', NDArray.reshape, Array.getD, hlt]

end Tensor

/-! ### the list comprehensions of tensor.py as block patterns -/

theorem map_range'_eq {f : Nat → Nat} {s l t : Nat} (h : ∀ j, j < l → f (s + j) = t + j) :
    (List.range' s l).map f = List.range' t l := by
  apply List.ext_getElem
  · simp
  · intro i h1 h2
    simp only [List.length_map, List.length_range'] at h1
    simp [h i h1]

/-- tensor.py:201-204 is the pattern `[A, B, C, D] ↦ [A, C, B, D]`. -/
theorem tensorTarget_eq (a b c d : Nat) :
    Tensor.tensorTarget a b c d = swapTargets 0 a b c d := by
  unfold Tensor.tensorTarget pyRange swapTargets
  have e : a + c + (b + d) - 0 = a + b + c + d := by omega
  rw [e, range'_split4, List.map_append, List.map_append, List.map_append]
  congr 1
  · congr 1
    · congr 1
      · apply map_range'_eq; intro j hj
        rw [if_pos (Or.inl (by omega))]
      · apply map_range'_eq; intro j hj
        rw [if_neg (by omega), if_neg (by omega)]; omega
    · apply map_range'_eq; intro j hj
      rw [if_neg (by omega), if_pos (by omega)]; omega
  · apply map_range'_eq; intro j hj
    rw [if_pos (Or.inr (by omega))]

/-- Adding `y` to the first `x` positions of a window and subtracting `x` from the next `y` is
    the pattern `[X, Y] ↦ [Y, X]`. -/
theorem swapMap_eq (p x y : Nat) :
    (List.range' p (x + y)).map (fun i => if i < p + x then i + y else i - x)
      = swapTargets p 0 x y 0 := by
  unfold swapTargets
  rw [range'_split, List.map_append]
  simp only [List.range'_zero, List.nil_append, List.append_nil, Nat.add_zero]
  congr 1
  · apply map_range'_eq; intro j hj
    rw [if_pos (Nat.add_lt_add_left hj p), Nat.add_right_comm]
  · apply map_range'_eq; intro j hj
    rw [if_neg (Nat.not_lt.2 (Nat.le_add_right _ _)), Nat.add_right_comm, Nat.add_sub_cancel]

/-- tensor.py:210-211 is the pattern `[A, B] ↦ [B, A]`. -/
theorem daggerTarget_eq (a b : Nat) : Tensor.daggerTarget a b = swapTargets 0 0 a b 0 := by
  have := swapMap_eq 0 a b
  rwa [Nat.zero_add] at this

/-- tensor.py:233-235 is the pattern `[L, R, L', R'] ↦ [L, R, R', L']`. -/
theorem swapTarget_eq (l r : Nat) :
    Tensor.swapTarget l r = swapTargets (l + r) 0 l r 0 := by
  unfold Tensor.swapTarget pyRange
  rw [Nat.two_mul, Nat.add_sub_cancel]
  exact swapMap_eq (l + r) l r

/-! ### `tensordot` for a contiguous block of contracted axes -/

section
variable {R : Type} [CommSemiring R]

theorem isPermOf_range (n : Nat) : IsPermOf n (List.range n) := List.Perm.refl _

theorem transpose_range_shape (a : NDArray R) : (a.transpose (List.range a.ndim)).shape = a.shape := by
  rw [transpose_shape]; exact permuteBy_range a.shape

theorem transpose_range_get (a : NDArray R) {y : List Nat} (hy : InRange a.shape y) :
    (a.transpose (List.range a.ndim)).get y = a.get y := by
  have e : permuteBy (List.range a.ndim) y = y := by
    rw [NDArray.ndim, ← hy.length_eq, permuteBy_range]
  exact (congrArg _ e).symm.trans (transpose_get a (isPermOf_range a.ndim) hy)

/-- `numpy.tensordot(a, b, (range(|P|, |P|+|C|), range(|C|)))` for `a : P ++ C ++ Q`,
    `b : C ++ D`: the result has axes `P ++ Q ++ D` and contracts the block `C`. -/
theorem tensordotAxes_block (a b : NDArray R) {P C Q D : List Nat}
    (ha : a.shape = P ++ C ++ Q) (hb : b.shape = C ++ D) :
    (tensordotAxes a b (List.range' P.length C.length) (List.range' 0 C.length)).shape
        = P ++ Q ++ D ∧
    ∀ {p q d : List Nat}, InRange P p → InRange Q q → InRange D d →
      (tensordotAxes a b (List.range' P.length C.length) (List.range' 0 C.length)).get
          (p ++ q ++ d)
        = sumOver C (fun j => a.get (p ++ j ++ q) * b.get (j ++ d)) := by
  have hna : a.ndim = P.length + C.length + Q.length := by simp [NDArray.ndim, ha, Nat.add_assoc]
  have hnb : b.ndim = 0 + C.length + D.length := by simp [NDArray.ndim, hb]
  have oa : notin a.ndim (List.range' P.length C.length) ++ List.range' P.length C.length
      = swapOrder P.length C.length Q.length ([] : List Nat).length := by
    unfold notin
    rw [hna, filter_notin_range']
    simp [swapOrder]
  have ob : List.range' 0 C.length ++ notin b.ndim (List.range' 0 C.length)
      = List.range b.ndim := by
    unfold notin
    rw [hnb, filter_notin_range']
    simp only [List.range_eq_range', List.range'_zero, List.nil_append, Nat.zero_add]
    rw [range'_split 0 C.length D.length, Nat.zero_add]
  -- `transpose_swapOrder_*` speak of four blocks: the fourth is empty here
  have ha' : a.shape = P ++ C ++ Q ++ [] := by simpa using ha
  have hsa : (a.transpose (swapOrder P.length C.length Q.length ([] : List Nat).length)).shape
      = (P ++ Q) ++ C := by
    have := transpose_swapOrder_shape a ha'
    simpa using this
  have hsb : (b.transpose (List.range b.ndim)).shape = C ++ D := by
    rw [transpose_range_shape, hb]
  unfold tensordotAxes
  rw [oa, ob, List.length_range']
  refine ⟨?_, ?_⟩
  · rw [contract_shape _ _ _ hsa hsb rfl]
  · intro p q d hp hq hd
    rw [List.append_assoc p q d, ← List.append_assoc p q d,
      contract_get _ _ _ hsa hsb rfl (inRange_append hp hq) hd]
    apply sumOver_congr
    intro j hj
    have h1 := transpose_swapOrder_get a ha' hp hj hq (q := []) trivial
    simp only [List.append_nil] at h1
    rw [h1, transpose_range_get b (by rw [hb]; exact inRange_append hj hd)]

end

/-! ### entries of `then`, `tensor`, `dagger`, `id`, `swap` -/

namespace Tensor
variable {R : Type} [CommSemiring R]

/-- The array of `f >> g`: shape and entries, pads included. -/
theorem tensordot_then (f g : Tensor R) (hf : f.WF) (hg : g.WF) (h : f.cod = g.dom) :
    (NDArray.tensordot f.arr g.arr f.cod.length).shape
        = padShape (spad f.dom f.cod) ++ (f.dom ++ g.cod) ++ padShape (spad g.dom g.cod) ∧
    ∀ {i k : List Nat}, InRange f.dom i → InRange g.cod k →
      (NDArray.tensordot f.arr g.arr f.cod.length).get
          (padIdx (spad f.dom f.cod) ++ (i ++ k) ++ padIdx (spad g.dom g.cod))
        = sumOver f.cod (fun j => f.entry (i ++ j) * g.entry (j ++ k)) := by
  -- `tensordotAxes_block` at `P ++ C ++ Q` with `C = f.cod`, `Q = []`
  have hsa : f.arr.shape = (padShape (spad f.dom f.cod) ++ f.dom) ++ f.cod ++ [] := by
    rw [hf.shape, ashape_eq_padL]; simp
  have hsb : g.arr.shape = f.cod ++ (g.cod ++ padShape (spad g.dom g.cod)) := by
    rw [hg.shape, ashape_eq_padR, h]; simp
  have hnd : f.arr.ndim = (padShape (spad f.dom f.cod) ++ f.dom).length + f.cod.length := by
    simp [NDArray.ndim, hsa, Nat.add_assoc]
  have := tensordotAxes_block f.arr g.arr hsa hsb
  unfold NDArray.tensordot
  rw [hnd, Nat.add_sub_cancel, pyRange_add, pyRange_zero]
  refine ⟨by rw [this.1]; simp, ?_⟩
  intro i k hi hk
  have h2 := this.2 (p := padIdx (spad f.dom f.cod) ++ i) (q := []) (d := k ++ padIdx (spad g.dom g.cod))
    (inRange_append (inRange_padShape _) hi) trivial (inRange_append hk (inRange_padShape _))
  simp only [List.append_nil, List.append_assoc] at h2 ⊢
  rw [h2]
  apply sumOver_congr
  intro j hj
  rw [entry_eq_get_padL hf, entry_eq_get_padR hg (by simp [h, hj.length_eq, hk.length_eq])]
  simp [List.append_assoc]

theorem thenCore_wf (f g : Tensor R) (hf : f.WF) (hg : g.WF) (h : f.cod = g.dom) :
    (thenCore f g).WF :=
  mk'_wf_pad _ _ _ _ _ (ofFn_wf _ _) (tensordot_then f g hf hg h).1

/-- **Composition is matrix multiplication on multi-indices** (tensor.py:177-188). -/
theorem then_entry (f g : Tensor R) (hf : f.WF) (hg : g.WF) (h : f.cod = g.dom)
    {i k : List Nat} (hi : InRange f.dom i) (hk : InRange g.cod k) :
    (thenCore f g).entry (i ++ k)
      = sumOver f.cod (fun j => f.entry (i ++ j) * g.entry (j ++ k)) := by
  unfold thenCore
  rw [entry_mk'_pad _ _ _ _ _ (tensordot_then f g hf hg h).1
    (by simp [hi.length_eq, hk.length_eq])]
  exact (tensordot_then f g hf hg h).2 hi hk

/-! #### moveaxis for the block-exchange pattern -/

theorem moveaxis_wf (a : NDArray R) (s t : List Nat) : (a.moveaxis s t).WF := ofFn_wf _ _

theorem moveaxis_blockswap (a : NDArray R) {P W X Y Z Q : List Nat}
    (hs : a.shape = P ++ W ++ X ++ Y ++ Z ++ Q) :
    (a.moveaxis (List.range' P.length (W.length + X.length + Y.length + Z.length))
        (swapTargets P.length W.length X.length Y.length Z.length)).shape
        = (P ++ W) ++ Y ++ X ++ (Z ++ Q) ∧
    ∀ {pw x y zq : List Nat}, InRange (P ++ W) pw → InRange X x → InRange Y y →
      InRange (Z ++ Q) zq →
      (a.moveaxis (List.range' P.length (W.length + X.length + Y.length + Z.length))
        (swapTargets P.length W.length X.length Y.length Z.length)).get (pw ++ y ++ x ++ zq)
        = a.get (pw ++ x ++ y ++ zq) := by
  have hn : a.ndim = P.length + W.length + X.length + Y.length + Z.length + Q.length := by
    simp [NDArray.ndim, hs, Nat.add_assoc]
  have hs' : a.shape = (P ++ W) ++ X ++ Y ++ (Z ++ Q) := by simp [hs, List.append_assoc]
  unfold NDArray.moveaxis
  rw [hn, moveaxisOrder_blockswap]
  have e1 : P.length + W.length = (P ++ W).length := by simp
  have e2 : Z.length + Q.length = (Z ++ Q).length := by simp
  rw [e1, e2]
  exact ⟨transpose_swapOrder_shape a hs', fun hpw hx hy hzq =>
    transpose_swapOrder_get a hs' hpw hx hy hzq⟩

/-- The window `[X, Y]` alone: `[P, X, Y, Q] ↦ [P, Y, X, Q]`. -/
theorem moveaxis_swap (a : NDArray R) {P X Y Q : List Nat} (hs : a.shape = P ++ X ++ Y ++ Q) :
    (a.moveaxis (List.range' P.length (X.length + Y.length))
        (swapTargets P.length 0 X.length Y.length 0)).shape = P ++ Y ++ X ++ Q ∧
    ∀ {p x y q : List Nat}, InRange P p → InRange X x → InRange Y y → InRange Q q →
      (a.moveaxis (List.range' P.length (X.length + Y.length))
        (swapTargets P.length 0 X.length Y.length 0)).get (p ++ y ++ x ++ q)
        = a.get (p ++ x ++ y ++ q) := by
  have hm := moveaxis_blockswap a (P := P) (W := []) (X := X) (Y := Y) (Z := []) (Q := Q)
    (by rw [hs, List.append_nil, List.append_nil])
  simp only [List.length_nil, List.append_nil, List.nil_append, Nat.zero_add, Nat.add_zero] at hm
  exact hm

theorem swapOrder_x_zero (p y q : Nat) : swapOrder p 0 y q = List.range (p + y + q) := by
  simp only [swapOrder, List.range'_zero, List.append_nil, Nat.add_zero, List.range_eq_range']
  rw [range'_split 0 (p + y) q, range'_split 0 p y]
  simp

/-- With an empty block `X` the pattern is the identity.  Stated with `P = W = X = []` and the
    lengths `y`, `z` of the other two blocks, as `tensor_array` meets it when `f` is a scalar: the
    blocks `Y`, `Z` are then not aligned with the axes of the array. -/
theorem moveaxis_blockswap_trivial (a : NDArray R) (y z : Nat) (h : y + z ≤ a.ndim) :
    (a.moveaxis (List.range' 0 (0 + 0 + y + z)) (swapTargets 0 0 0 y z)).shape = a.shape ∧
    ∀ {i : List Nat}, InRange a.shape i →
      (a.moveaxis (List.range' 0 (0 + 0 + y + z)) (swapTargets 0 0 0 y z)).get i = a.get i := by
  have hn : a.ndim = 0 + 0 + 0 + y + z + (a.ndim - y - z) := by omega
  unfold NDArray.moveaxis
  have := moveaxisOrder_blockswap 0 0 0 y z (a.ndim - y - z)
  rw [← hn] at this
  rw [this, swapOrder_x_zero]
  have e : 0 + 0 + y + (z + (a.ndim - y - z)) = a.ndim := by omega
  rw [e]
  exact ⟨transpose_range_shape a, fun hi => transpose_range_get a hi⟩

/-- `tensordot(a, b, 0)`: the outer product. -/
theorem tensordot_zero (a b : NDArray R) :
    (NDArray.tensordot a b 0).shape = a.shape ++ b.shape ∧
    ∀ {x y : List Nat}, InRange a.shape x → InRange b.shape y →
      (NDArray.tensordot a b 0).get (x ++ y) = a.get x * b.get y := by
  -- `tensordotAxes_block` at `P ++ C ++ Q`, `C ++ D` with nothing contracted: `C = Q = []`
  have ha : a.shape = a.shape ++ [] ++ [] := by simp
  have hb : b.shape = [] ++ b.shape := by simp
  have := tensordotAxes_block a b (P := a.shape) (C := []) (Q := []) (D := b.shape) ha hb
  unfold NDArray.tensordot
  have e1 : pyRange (a.ndim - 0) a.ndim = List.range' a.shape.length ([] : List Nat).length := by
    simp [pyRange]
  have e2 : pyRange 0 0 = List.range' 0 ([] : List Nat).length := by simp [pyRange]
  rw [e1, e2]
  refine ⟨by rw [this.1]; simp, ?_⟩
  intro x y hx hy
  have h2 := this.2 (p := x) (q := []) (d := y) hx trivial hy
  simp only [List.append_nil, sumOver_nil, List.nil_append] at h2
  exact h2

theorem tensor_pyRange (f g : Tensor R) :
    pyRange 0 ((f.dom ++ g.dom) ++ (f.cod ++ g.cod)).length
      = List.range' 0 (f.dom.length + f.cod.length + g.dom.length + g.cod.length) := by
  rw [pyRange_zero]
  congr 1
  simp only [List.length_append]; omega

/-- The array of `f @ g` before the final reshape. -/
theorem tensor_array (f g : Tensor R) (hf : f.WF) (hg : g.WF) :
    ((NDArray.tensordot f.arr g.arr 0).moveaxis
      (pyRange 0 ((f.dom ++ g.dom) ++ (f.cod ++ g.cod)).length)
      (tensorTarget f.dom.length f.cod.length g.dom.length g.cod.length)).shape
      = padShape (spad f.dom f.cod) ++ ((f.dom ++ g.dom) ++ (f.cod ++ g.cod))
          ++ padShape (spad g.dom g.cod) ∧
    ∀ {a b c d : List Nat}, InRange f.dom a → InRange f.cod b → InRange g.dom c →
      InRange g.cod d →
      ((NDArray.tensordot f.arr g.arr 0).moveaxis
        (pyRange 0 ((f.dom ++ g.dom) ++ (f.cod ++ g.cod)).length)
        (tensorTarget f.dom.length f.cod.length g.dom.length g.cod.length)).get
        (padIdx (spad f.dom f.cod) ++ ((a ++ c) ++ (b ++ d)) ++ padIdx (spad g.dom g.cod))
        = f.entry (a ++ b) * g.entry (c ++ d) := by
  rw [tensor_pyRange, tensorTarget_eq]
  have htd := tensordot_zero f.arr g.arr
  have hgs : g.arr.shape = g.dom ++ g.cod ++ padShape (spad g.dom g.cod) := by
    rw [hg.shape, ashape_eq_padR]
  by_cases hsc : f.dom ++ f.cod = []
  · -- `f` is a scalar: its array has shape `[1]`, and the moveaxis is the identity
    have hd : f.dom = [] := (List.append_eq_nil_iff.1 hsc).1
    have hc : f.cod = [] := (List.append_eq_nil_iff.1 hsc).2
    have hfs : f.arr.shape = [1] := by rw [hf.shape]; simp [ashape, hsc]
    have hts : (NDArray.tensordot f.arr g.arr 0).shape
        = [1] ++ (g.dom ++ g.cod ++ padShape (spad g.dom g.cod)) := by
      rw [htd.1, hfs, hgs]
    have hnd : g.dom.length + g.cod.length ≤ (NDArray.tensordot f.arr g.arr 0).ndim := by
      simp [NDArray.ndim, hts]; omega
    have hm := moveaxis_blockswap_trivial (NDArray.tensordot f.arr g.arr 0) g.dom.length
      g.cod.length hnd
    have hsp' : spad [] [] = 1 := rfl
    simp only [hd, hc, hsp', List.length_nil, List.nil_append] at hm ⊢
    refine ⟨by rw [hm.1, hts]; simp [padShape, List.append_assoc], ?_⟩
    intro a b c d ha hb hc' hd'
    have ha' : a = [] := inRange_nil_iff.1 ha
    have hb' : b = [] := inRange_nil_iff.1 hb
    subst ha' hb'
    have hin : InRange (NDArray.tensordot f.arr g.arr 0).shape
        (padIdx 1 ++ (c ++ d) ++ padIdx (spad g.dom g.cod)) := by
      rw [hts]
      have := inRange_pad 1 (spad g.dom g.cod) (inRange_append hc' hd')
      simpa [padShape, List.append_assoc] using this
    simp only [List.nil_append]
    rw [hm.2 hin]
    have hx : InRange f.arr.shape (padIdx 1) := by rw [hfs]; exact inRange_padShape 1
    have hy : InRange g.arr.shape ((c ++ d) ++ padIdx (spad g.dom g.cod)) := by
      rw [hgs]; exact inRange_append (inRange_append hc' hd') (inRange_padShape _)
    have := htd.2 hx hy
    simp only [List.append_assoc] at this ⊢
    rw [this, entry_eq_get_padL hf, entry_eq_get_padR hg (by simp [hc'.length_eq, hd'.length_eq])]
    simp [hsp', hd, hc, List.append_assoc]
  · have hsp : spad f.dom f.cod = 0 := by simp [spad, hsc]
    have hfs : f.arr.shape = f.dom ++ f.cod := by rw [hf.shape]; simp [ashape, hsc]
    have hts : (NDArray.tensordot f.arr g.arr 0).shape
        = [] ++ f.dom ++ f.cod ++ g.dom ++ g.cod ++ padShape (spad g.dom g.cod) := by
      rw [htd.1, hfs, hgs]; simp [List.append_assoc]
    have hm := moveaxis_blockswap (NDArray.tensordot f.arr g.arr 0) hts
    simp only [List.length_nil, List.nil_append] at hm
    simp only [hsp, padShape_zero, padIdx_zero, List.nil_append]
    refine ⟨by rw [hm.1]; simp [List.append_assoc], ?_⟩
    intro a b c d ha hb hc hd
    have := hm.2 ha hb hc (inRange_append hd (inRange_padShape (spad g.dom g.cod)))
    simp only [List.append_assoc] at this ⊢
    rw [this]
    have hx : InRange f.arr.shape (a ++ b) := by rw [hfs]; exact inRange_append ha hb
    have hy : InRange g.arr.shape ((c ++ d) ++ padIdx (spad g.dom g.cod)) := by
      rw [hgs]; exact inRange_append (inRange_append hc hd) (inRange_padShape _)
    have h2 := htd.2 hx hy
    simp only [List.append_assoc] at h2
    rw [h2, entry_eq_get_padL hf, entry_eq_get_padR hg (by simp [hc.length_eq, hd.length_eq])]
    simp [hsp, List.append_assoc]

theorem tensor_wf (f g : Tensor R) (hf : f.WF) (hg : g.WF) : (f.tensor g).WF :=
  mk'_wf_pad _ _ _ _ _ (moveaxis_wf _ _ _) (tensor_array f g hf hg).1

/-- **Tensor is the Kronecker product** (tensor.py:190-205): the `target` list realises
    `[A, B, C, D] ↦ [A, C, B, D]` for all block lengths. -/
theorem tensor_entry (f g : Tensor R) (hf : f.WF) (hg : g.WF) {a b c d : List Nat}
    (ha : InRange f.dom a) (hb : InRange f.cod b) (hc : InRange g.dom c) (hd : InRange g.cod d) :
    (f.tensor g).entry ((a ++ c) ++ (b ++ d)) = f.entry (a ++ b) * g.entry (c ++ d) := by
  unfold Tensor.tensor
  rw [entry_mk'_pad _ _ _ _ _ (tensor_array f g hf hg).1
    (by simp [ha.length_eq, hb.length_eq, hc.length_eq, hd.length_eq])]
  exact (tensor_array f g hf hg).2 ha hb hc hd

/-! #### identity -/

theorem id_wf (d : List Nat) : (Tensor.id (R := R) d).WF := by
  apply mk'_wf
  · exact ofFn_wf _ _
  · simp [NDArray.identity, ofFn, prod, prod_append]

/-- **Identities are identity matrices** (tensor.py:214-217). -/
theorem id_entry (d : List Nat) {i j : List Nat} (hi : InRange d i) (hj : InRange d j) :
    (Tensor.id (R := R) d).entry (i ++ j) = if i = j then 1 else 0 := by
  -- the entry is that of `numpy.identity(prod d)` at row `flatIdx d i`, column `flatIdx d j`
  have hin : InRange [prod d, prod d] [flatIdx d i, flatIdx d j] := by
    simp [flatIdx_lt hi, flatIdx_lt hj]
  have hpos : flatIdx (d ++ d) (i ++ j) = flatIdx [prod d, prod d] [flatIdx d i, flatIdx d j] := by
    rw [flatIdx_append _ _ hi.length_eq]
    show _ = flatIdx d i * (prod d * 1) + (flatIdx d j * 1 + 0)
    rw [Nat.mul_one, Nat.mul_one, Nat.add_zero]
  have hget : (Tensor.id (R := R) d).entry (i ++ j)
      = (NDArray.identity (prod d)).get [flatIdx d i, flatIdx d j] :=
    congrArg (fun k => (NDArray.identity (R := R) (prod d)).data.getD k 0) hpos
  rw [hget, NDArray.identity, ofFn_get _ _ hin]
  exact if_congr ⟨flatIdx_inj hi hj, congrArg _⟩ rfl rfl

end Tensor

/-- Conjugation of a star ring, as the model's `Conj`. -/
instance starConj {R : Type} [Star R] : Conj R := ⟨star⟩

namespace Tensor
variable {R : Type} [CommSemiring R] [StarRing R]

theorem conj_get (a : NDArray R) (i : List Nat) : a.conj.get i = star (a.get i) := by
  unfold NDArray.conj NDArray.get
  simp only [Array.getD_eq_getD_getElem?, Array.getElem?_map]
  cases a.data[flatIdx a.shape i]? <;> simp [Conj.conj]

theorem conj_wf (a : NDArray R) (h : a.WF) : a.conj.WF := by
  simpa [NDArray.WF, NDArray.conj] using h

theorem dagger_array (f : Tensor R) (hf : f.WF) :
    (f.arr.moveaxis (pyRange 0 (f.dom ++ f.cod).length)
      (daggerTarget f.dom.length f.cod.length)).shape
      = padShape 0 ++ (f.cod ++ f.dom) ++ padShape (spad f.dom f.cod) ∧
    ∀ {i k : List Nat}, InRange f.dom i → InRange f.cod k →
      (f.arr.moveaxis (pyRange 0 (f.dom ++ f.cod).length)
        (daggerTarget f.dom.length f.cod.length)).get
        (padIdx 0 ++ (k ++ i) ++ padIdx (spad f.dom f.cod)) = f.entry (i ++ k) := by
  have hs : f.arr.shape = [] ++ f.dom ++ f.cod ++ padShape (spad f.dom f.cod) := by
    rw [hf.shape, ashape_eq_padR]; rfl
  have hm := moveaxis_swap f.arr hs
  rw [pyRange_zero, List.length_append, daggerTarget_eq]
  simp only [List.length_nil, List.nil_append, padShape_zero, padIdx_zero] at hm ⊢
  refine ⟨hm.1, ?_⟩
  intro i k hi hk
  have := hm.2 (p := []) trivial hi hk (inRange_padShape (spad f.dom f.cod))
  simp only [List.nil_append] at this
  rw [this, entry_eq_get_padR hf (by simp [hi.length_eq, hk.length_eq])]

theorem dagger_wf (f : Tensor R) (hf : f.WF) : f.dagger.WF :=
  mk'_wf_pad _ _ _ _ _ (conj_wf _ (moveaxis_wf _ _ _)) (dagger_array f hf).1

/-- **Dagger is the conjugate transpose** (tensor.py:207-212). -/
theorem dagger_entry (f : Tensor R) (hf : f.WF) {i k : List Nat}
    (hi : InRange f.dom i) (hk : InRange f.cod k) :
    f.dagger.entry (k ++ i) = star (f.entry (i ++ k)) := by
  unfold Tensor.dagger
  have hs : (NDArray.conj (f.arr.moveaxis (pyRange 0 (f.dom ++ f.cod).length)
      (daggerTarget f.dom.length f.cod.length))).shape
      = padShape 0 ++ (f.cod ++ f.dom) ++ padShape (spad f.dom f.cod) := (dagger_array f hf).1
  rw [entry_mk'_pad _ _ _ _ _ hs (by simp [hi.length_eq, hk.length_eq]), conj_get,
    (dagger_array f hf).2 hi hk]

end Tensor

namespace Tensor
variable {R : Type} [CommSemiring R]

theorem swap_array (l r : List Nat) :
    ((Tensor.id (R := R) (l ++ r)).arr.moveaxis (pyRange (l ++ r).length (2 * (l ++ r).length))
      (swapTarget l.length r.length)).shape
      = padShape 0 ++ ((l ++ r) ++ (r ++ l)) ++ padShape (spad (l ++ r) (l ++ r)) ∧
    ∀ {i j i' j' : List Nat}, InRange l i → InRange r j → InRange r j' → InRange l i' →
      ((Tensor.id (R := R) (l ++ r)).arr.moveaxis (pyRange (l ++ r).length (2 * (l ++ r).length))
        (swapTarget l.length r.length)).get
        (padIdx 0 ++ ((i ++ j) ++ (j' ++ i')) ++ padIdx (spad (l ++ r) (l ++ r)))
        = (Tensor.id (R := R) (l ++ r)).entry ((i ++ j) ++ (i' ++ j')) := by
  have hwf := id_wf (R := R) (l ++ r)
  have hs : (Tensor.id (R := R) (l ++ r)).arr.shape
      = (l ++ r) ++ l ++ r ++ padShape (spad (l ++ r) (l ++ r)) := by
    rw [hwf.shape, ashape_eq_padR]; simp [Tensor.id, List.append_assoc]
  have hm := moveaxis_swap _ hs
  rw [Nat.two_mul, pyRange_add, swapTarget_eq]
  simp only [List.length_append] at hm ⊢
  refine ⟨by rw [hm.1]; simp [List.append_assoc], ?_⟩
  intro i j i' j' hi hj hj' hi'
  have := hm.2 (inRange_append hi hj) hi' hj' (inRange_padShape _)
  have h2 := entry_eq_get_padR hwf (i := (i ++ j) ++ (i' ++ j'))
    (by simp [Tensor.id, hi.length_eq, hj.length_eq, hi'.length_eq, hj'.length_eq])
  simp only [padIdx_zero, List.nil_append, List.append_assoc] at this h2 ⊢
  rw [this, h2]
  rfl

theorem swap_wf (l r : List Nat) : (Tensor.swap (R := R) l r).WF :=
  mk'_wf_pad _ _ _ _ _ (moveaxis_wf _ _ _) (swap_array l r).1

theorem swap_entry_block (l r : List Nat) {x j' i' : List Nat}
    (hx : InRange (l ++ r) x) (hj' : InRange r j') (hi' : InRange l i') :
    (Tensor.swap (R := R) l r).entry (x ++ (j' ++ i')) = if x = i' ++ j' then 1 else 0 := by
  obtain ⟨i, j, rfl, hi, hj⟩ := hx.split
  unfold Tensor.swap
  rw [entry_mk'_pad _ _ _ _ _ (swap_array l r).1
    (by simp [hi.length_eq, hj.length_eq, hi'.length_eq, hj'.length_eq]),
    (swap_array l r).2 hi hj hj' hi', id_entry _ (inRange_append hi hj) (inRange_append hi' hj')]

/-- **Swaps are the permutation matrices exchanging the two blocks** (tensor.py:230-237). -/
theorem swap_entry (l r : List Nat) {i j j' i' : List Nat}
    (hi : InRange l i) (hj : InRange r j) (hj' : InRange r j') (hi' : InRange l i') :
    (Tensor.swap (R := R) l r).entry ((i ++ j) ++ (j' ++ i'))
      = if i = i' ∧ j = j' then 1 else 0 := by
  rw [swap_entry_block l r (inRange_append hi hj) hj' hi']
  simp only [append_eq_append_of_inRange j j' hi hi']

end Tensor

end DV
