/-
  Proofs/CircuitBox.lean — every box class of quantum/circuit.py and quantum/gates.py has a
  `dagger()` that exchanges dom and cod, hence the dagger of a well-typed circuit (reversed layers,
  class-specific box daggers spliced in unscanned) is well-typed.
-/
import Model.CircuitBox
import Proofs.WF

namespace DV.CB
open DV

theorem CBox.dagger_dom (b : CBox) : b.dagger.dom = b.cod := by
  cases b with
  | digits dim n dg => cases dg <;> rfl
  | _ => rfl

theorem CBox.dagger_cod (b : CBox) : b.dagger.cod = b.dom := by
  cases b with
  | digits dim n dg => cases dg <;> rfl
  | _ => rfl

/-- Daggering twice gives back a box of the original type. -/
theorem CBox.dagger_dagger_type (b : CBox) :
    b.dagger.dagger.dom = b.dom ∧ b.dagger.dagger.cod = b.cod := by
  rw [CBox.dagger_dom, CBox.dagger_cod, CBox.dagger_cod, CBox.dagger_dom]; exact ⟨rfl, rfl⟩

@[simp] theorem CLayer.dag_dom (l : CLayer) : l.dag.toLayer.dom = l.toLayer.cod := by
  simp [CLayer.dag, CLayer.toLayer, Layer.dom, Layer.cod, CBox.toBox, CBox.dagger_dom]

@[simp] theorem CLayer.dag_cod (l : CLayer) : l.dag.toLayer.cod = l.toLayer.dom := by
  simp [CLayer.dag, CLayer.toLayer, Layer.dom, Layer.cod, CBox.toBox, CBox.dagger_cod]

/-- Reading the daggered layers from the old codomain reaches the old domain. -/
theorem chain_cdagger {s c : Ty} {ls : List CLayer} (h : Chain s (ls.map CLayer.toLayer) c) :
    Chain c ((cdagger ls).map CLayer.toLayer) s := by
  rw [cdagger, List.map_map]
  exact chain_reverse CLayer.dag_dom CLayer.dag_cod h

/-- The dagger of a circuit as the library computes it: `d.cod → d.dom`, the reversed layers with
    each box replaced by its own class's dagger. -/
def circuitDagger (d : Diagram) (ls : List CLayer) : Diagram :=
  Diagram.ofLayers ⟨d.cod, d.dom, (cdagger ls).map CLayer.toLayer⟩

theorem circuitDagger_wf {d : Diagram} {ls : List CLayer} (hd : d.WF)
    (hl : d.layers.boxes = ls.map CLayer.toLayer) : (circuitDagger d ls).WF := by
  exact Diagram.ofLayers_wf (chain_cdagger (hl ▸ hd.chain'))

end DV.CB
