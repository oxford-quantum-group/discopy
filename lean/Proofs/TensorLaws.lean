/-
  Proofs/TensorLaws.lean — consequences of the entrywise specifications, as equalities of
  tensors: unit laws, associativity of `>>` and `@`, interchange law, naturality of swaps,
  dagger is a contravariant monoidal involution.  (Snake equations: Proofs/TensorSnake.lean.)
-/
import Proofs.TensorOps

namespace DV
namespace Tensor
open NDArray

section semiring
variable {R : Type} [CommSemiring R]

theorem then_ok {f g : Tensor R} (h : f.cod = g.dom) : f.then g = .ok (thenCore f g) := by
  simp [Tensor.then, h]

theorem then_eq_ok {f g t : Tensor R} (h : f.then g = .ok t) : f.cod = g.dom ∧ t = thenCore f g := by
  unfold Tensor.then at h
  split at h
  · cases h
  · rename_i hc
    simp only [ne_eq, Decidable.not_not] at hc
    exact ⟨hc, by cases h; rfl⟩

@[simp] theorem thenCore_dom (f g : Tensor R) : (thenCore f g).dom = f.dom := rfl
@[simp] theorem thenCore_cod (f g : Tensor R) : (thenCore f g).cod = g.cod := rfl
@[simp] theorem tensor_dom (f g : Tensor R) : (f.tensor g).dom = f.dom ++ g.dom := rfl
@[simp] theorem tensor_cod (f g : Tensor R) : (f.tensor g).cod = f.cod ++ g.cod := rfl
@[simp] theorem id_dom (d : List Nat) : (Tensor.id (R := R) d).dom = d := rfl
@[simp] theorem id_cod (d : List Nat) : (Tensor.id (R := R) d).cod = d := rfl
@[simp] theorem swap_dom (l r : List Nat) : (Tensor.swap (R := R) l r).dom = l ++ r := rfl
@[simp] theorem swap_cod (l r : List Nat) : (Tensor.swap (R := R) l r).cod = r ++ l := rfl

theorem ite_comm' {α : Type} [DecidableEq α] (x y : α) :
    (if x = y then (1 : R) else 0) = if y = x then 1 else 0 := by
  by_cases h : x = y
  · subst h; simp
  · have : ¬ y = x := fun e => h e.symm
    simp [h, this]

/-! ### unit laws -/

theorem then_id (f : Tensor R) (hf : f.WF) : thenCore f (Tensor.id f.cod) = f := by
  apply ext_entry (thenCore_wf f _ hf (id_wf _) rfl) hf rfl rfl
  intro x hx
  obtain ⟨i, k, rfl, hi, hk⟩ := hx.split
  have hk' : InRange f.cod k := hk
  rw [then_entry f _ hf (id_wf _) rfl hi hk]
  rw [sumOver_congr (g := fun j => f.entry (i ++ j) * (if j = k then 1 else 0))
    (fun j hj => by rw [id_entry f.cod hj hk'])]
  exact sumOver_delta' hk' _

theorem id_then (f : Tensor R) (hf : f.WF) : thenCore (Tensor.id f.dom) f = f := by
  apply ext_entry (thenCore_wf _ f (id_wf _) hf rfl) hf rfl rfl
  intro x hx
  obtain ⟨i, k, rfl, hi, hk⟩ := hx.split
  have hi' : InRange f.dom i := hi
  rw [then_entry _ f (id_wf _) hf rfl hi hk]
  rw [sumOver_congr (g := fun j => (if i = j then 1 else 0) * f.entry (j ++ k))
    (fun j hj => by rw [id_entry f.dom hi' hj])]
  exact sumOver_delta hi' _

theorem tensor_id_nil (f : Tensor R) (hf : f.WF) : f.tensor (Tensor.id []) = f := by
  apply ext_entry (tensor_wf f _ hf (id_wf _)) hf (by simp) (by simp)
  intro x hx
  obtain ⟨a, c, b, d, rfl, ha, hc, hb, hd⟩ := hx.split4
  have hc' : c = [] := inRange_nil_iff.1 hc
  have hd' : d = [] := inRange_nil_iff.1 hd
  subst hc' hd'
  rw [tensor_entry f _ hf (id_wf _) ha hb hc hd, id_entry [] (i := []) (j := []) trivial trivial]
  simp

theorem id_nil_tensor (f : Tensor R) (hf : f.WF) : (Tensor.id []).tensor f = f := by
  apply ext_entry (tensor_wf _ f (id_wf _) hf) hf rfl rfl
  intro x hx
  obtain ⟨a, c, b, d, rfl, ha, hc, hb, hd⟩ := hx.split4
  have ha' : a = [] := inRange_nil_iff.1 ha
  have hb' : b = [] := inRange_nil_iff.1 hb
  subst ha' hb'
  rw [tensor_entry _ f (id_wf _) hf ha hb hc hd, id_entry [] (i := []) (j := []) trivial trivial]
  simp

/-! ### interchange law -/

theorem sumOver_mul_sumOver (s t : List Nat) (u v : List Nat → R) :
    sumOver s u * sumOver t v = sumOver s (fun i => sumOver t (fun j => u i * v j)) := by
  rw [← sumOver_mul_right]
  apply sumOver_congr
  intro i _
  rw [sumOver_mul_left]

/-- `(f ≫ f') ⊗ (g ≫ g') = (f ⊗ g) ≫ (f' ⊗ g')`. -/
theorem interchange_law (f f' g g' : Tensor R) (hf : f.WF) (hf' : f'.WF) (hg : g.WF)
    (hg' : g'.WF) (h1 : f.cod = f'.dom) (h2 : g.cod = g'.dom) :
    (thenCore f f').tensor (thenCore g g') = thenCore (f.tensor g) (f'.tensor g') := by
  have hc : (f.tensor g).cod = (f'.tensor g').dom := by simp [h1, h2]
  apply ext_entry (tensor_wf _ _ (thenCore_wf f f' hf hf' h1) (thenCore_wf g g' hg hg' h2))
    (thenCore_wf _ _ (tensor_wf f g hf hg) (tensor_wf f' g' hf' hg') hc) (by simp) (by simp)
  intro x hx
  obtain ⟨a, d, c, e, rfl, ha, hd, hc', he⟩ := hx.split4
  rw [tensor_entry _ _ (thenCore_wf f f' hf hf' h1) (thenCore_wf g g' hg hg' h2) ha hc' hd he,
    then_entry f f' hf hf' h1 ha hc', then_entry g g' hg hg' h2 hd he,
    then_entry _ _ (tensor_wf f g hf hg) (tensor_wf f' g' hf' hg') hc
      (inRange_append ha hd) (inRange_append hc' he)]
  simp only [tensor_cod]
  rw [sumOver_append, sumOver_mul_sumOver]
  apply sumOver_congr
  intro b hb
  apply sumOver_congr
  intro j hj
  rw [tensor_entry f g hf hg ha hb hd hj,
    tensor_entry f' g' hf' hg' (h1 ▸ hb) hc' (h2 ▸ hj) he]
  ring

/-! ### naturality of swaps -/

theorem then_swap_entry (t : Tensor R) (l r : List Nat) (ht : t.WF) (hc : t.cod = l ++ r)
    {i b d : List Nat} (hi : InRange t.dom i) (hb : InRange l b) (hd : InRange r d) :
    (thenCore t (Tensor.swap l r)).entry (i ++ (d ++ b)) = t.entry (i ++ (b ++ d)) := by
  rw [then_entry t _ ht (swap_wf l r) hc hi (inRange_append hd hb), hc]
  rw [sumOver_congr (g := fun x => t.entry (i ++ x) * (if x = b ++ d then 1 else 0))
    (fun x hx => by rw [swap_entry_block l r hx hd hb])]
  exact sumOver_delta' (inRange_append hb hd) _

theorem swap_then_entry (t : Tensor R) (l r : List Nat) (ht : t.WF) (hd : r ++ l = t.dom)
    {a c k : List Nat} (ha : InRange l a) (hc : InRange r c) (hk : InRange t.cod k) :
    (thenCore (Tensor.swap l r) t).entry ((a ++ c) ++ k) = t.entry ((c ++ a) ++ k) := by
  rw [then_entry _ t (swap_wf l r) ht hd (inRange_append ha hc) hk, swap_cod]
  rw [sumOver_congr (g := fun y => (if c ++ a = y then 1 else 0) * t.entry (y ++ k))
    (fun y hy => by
      obtain ⟨c', a', rfl, hc', ha'⟩ := hy.split
      rw [swap_entry l r ha hc hc' ha']
      simp only [append_eq_append_of_inRange a a' hc hc', and_comm (a := c = c')])]
  exact sumOver_delta (inRange_append hc ha) _

/-- `(f ⊗ g) ≫ swap(cod f, cod g) = swap(dom f, dom g) ≫ (g ⊗ f)`. -/
theorem swap_natural (f g : Tensor R) (hf : f.WF) (hg : g.WF) :
    thenCore (f.tensor g) (Tensor.swap f.cod g.cod)
      = thenCore (Tensor.swap f.dom g.dom) (g.tensor f) := by
  apply ext_entry (thenCore_wf _ _ (tensor_wf f g hf hg) (swap_wf _ _) (tensor_cod f g))
    (thenCore_wf _ _ (swap_wf _ _) (tensor_wf g f hg hf) (swap_cod _ _))
    (by simp only [thenCore_dom, tensor_dom, swap_dom])
    (by simp only [thenCore_cod, tensor_cod, swap_cod])
  intro x hx
  simp only [thenCore_dom, thenCore_cod, tensor_dom, swap_cod] at hx
  obtain ⟨a, c, d, b, rfl, ha, hc, hd, hb⟩ := hx.split4
  rw [then_swap_entry _ _ _ (tensor_wf f g hf hg) (tensor_cod f g) (inRange_append ha hc) hb hd,
    swap_then_entry _ _ _ (tensor_wf g f hg hf) (tensor_dom g f).symm ha hc (inRange_append hd hb),
    tensor_entry f g hf hg ha hb hc hd, tensor_entry g f hg hf hc hd ha hb, mul_comm]

/-! ### associativity, identities of tensor products (the remaining strict-monoidal laws) -/

theorem then_assoc (f g h : Tensor R) (hf : f.WF) (hg : g.WF) (hh : h.WF)
    (h1 : f.cod = g.dom) (h2 : g.cod = h.dom) :
    thenCore (thenCore f g) h = thenCore f (thenCore g h) := by
  apply ext_entry (thenCore_wf _ _ (thenCore_wf f g hf hg h1) hh h2)
    (thenCore_wf _ _ hf (thenCore_wf g h hg hh h2) h1) (by simp) (by simp)
  intro x hx
  obtain ⟨i, l, rfl, hi, hl⟩ := hx.split
  rw [then_entry _ _ (thenCore_wf f g hf hg h1) hh h2 hi hl,
    then_entry _ _ hf (thenCore_wf g h hg hh h2) h1 hi hl]
  simp only [thenCore_cod]
  rw [sumOver_congr (g := fun k => sumOver f.cod (fun j => f.entry (i ++ j)
      * (g.entry (j ++ k) * h.entry (k ++ l)))) (fun k hk => ?_)]
  · rw [sumOver_comm]
    apply sumOver_congr
    intro j hj
    rw [then_entry g h hg hh h2 (h1 ▸ hj) hl, ← sumOver_mul_left]
  · rw [then_entry f g hf hg h1 hi hk, ← sumOver_mul_right]
    apply sumOver_congr
    intro j _
    ring

theorem tensor_assoc (f g h : Tensor R) (hf : f.WF) (hg : g.WF) (hh : h.WF) :
    (f.tensor g).tensor h = f.tensor (g.tensor h) := by
  apply ext_entry (tensor_wf _ _ (tensor_wf f g hf hg) hh) (tensor_wf _ _ hf (tensor_wf g h hg hh))
    (by simp [List.append_assoc]) (by simp [List.append_assoc])
  intro x hx
  obtain ⟨ab, c, ab', c', rfl, hab, hc, hab', hc'⟩ := hx.split4
  obtain ⟨a, b, rfl, ha, hb⟩ := hab.split
  obtain ⟨a', b', rfl, ha', hb'⟩ := hab'.split
  rw [tensor_entry _ _ (tensor_wf f g hf hg) hh (inRange_append ha hb) (inRange_append ha' hb') hc hc',
    tensor_entry f g hf hg ha ha' hb hb']
  have e : ((a ++ b) ++ c) ++ ((a' ++ b') ++ c') = (a ++ (b ++ c)) ++ (a' ++ (b' ++ c')) := by
    simp [List.append_assoc]
  rw [e, tensor_entry f _ hf (tensor_wf g h hg hh) ha ha' (inRange_append hb hc)
    (inRange_append hb' hc'), tensor_entry g h hg hh hb hb' hc hc']
  ring

theorem ite_and_mul (p q : Prop) [Decidable p] [Decidable q] :
    (if p ∧ q then (1 : R) else 0) = (if p then 1 else 0) * (if q then 1 else 0) := by
  by_cases hp : p <;> by_cases hq : q <;> simp [hp, hq]

theorem id_tensor_id (a b : List Nat) :
    (Tensor.id (R := R) a).tensor (Tensor.id b) = Tensor.id (a ++ b) := by
  apply ext_entry (s := (Tensor.id (R := R) a).tensor (Tensor.id b)) (t := Tensor.id (a ++ b))
    (tensor_wf _ _ (id_wf a) (id_wf b)) (id_wf (a ++ b)) (by simp) (by simp)
  intro x hx
  obtain ⟨i, j, i', j', rfl, hi, hj, hi', hj'⟩ := hx.split4
  rw [tensor_entry _ _ (id_wf a) (id_wf b) hi hi' hj hj', id_entry a hi hi', id_entry b hj hj',
    id_entry (a ++ b) (inRange_append hi hj) (inRange_append hi' hj')]
  have hi0 : InRange a i := hi
  simp only [append_eq_append_of_inRange j j' hi0 hi', ite_and_mul]

end semiring

/-! ### dagger -/

section star
variable {R : Type} [CommSemiring R] [StarRing R]

@[simp] theorem dagger_dom (f : Tensor R) : f.dagger.dom = f.cod := rfl
@[simp] theorem dagger_cod (f : Tensor R) : f.dagger.cod = f.dom := rfl

theorem star_sumOver (s : List Nat) (u : List Nat → R) :
    star (sumOver s u) = sumOver s (fun i => star (u i)) := by
  unfold sumOver
  induction idxs s with
  | nil => simp
  | cons a l ih => simp [ih]

theorem dagger_dagger (f : Tensor R) (hf : f.WF) : f.dagger.dagger = f := by
  apply ext_entry (dagger_wf _ (dagger_wf f hf)) hf (by simp) (by simp)
  intro x hx
  obtain ⟨i, k, rfl, hi, hk⟩ := hx.split
  rw [dagger_entry _ (dagger_wf f hf) (i := k) (k := i) hk hi, dagger_entry f hf hi hk, star_star]

/-- `(f ≫ g)† = g† ≫ f†`. -/
theorem dagger_then (f g : Tensor R) (hf : f.WF) (hg : g.WF) (h : f.cod = g.dom) :
    (thenCore f g).dagger = thenCore g.dagger f.dagger := by
  have hw := thenCore_wf f g hf hg h
  apply ext_entry (dagger_wf _ hw) (thenCore_wf _ _ (dagger_wf g hg) (dagger_wf f hf) h.symm)
    (by simp) (by simp)
  intro x hx
  obtain ⟨k, i, rfl, hk, hi⟩ := hx.split
  rw [dagger_entry _ hw (i := i) (k := k) hi hk, then_entry f g hf hg h hi hk,
    then_entry _ _ (dagger_wf g hg) (dagger_wf f hf) h.symm hk hi, star_sumOver]
  simp only [dagger_cod]
  rw [← h]
  apply sumOver_congr
  intro j hj
  rw [dagger_entry g hg (h ▸ hj) hk, dagger_entry f hf hi hj, star_mul']
  ring

/-- `(f ⊗ g)† = f† ⊗ g†`. -/
theorem dagger_tensor (f g : Tensor R) (hf : f.WF) (hg : g.WF) :
    (f.tensor g).dagger = f.dagger.tensor g.dagger := by
  have hw := tensor_wf f g hf hg
  apply ext_entry (dagger_wf _ hw) (tensor_wf _ _ (dagger_wf f hf) (dagger_wf g hg)) (by simp) (by simp)
  intro x hx
  obtain ⟨b, d, a, c, rfl, hb, hd, ha, hc⟩ := hx.split4
  rw [dagger_entry _ hw (i := a ++ c) (k := b ++ d) (inRange_append ha hc) (inRange_append hb hd),
    tensor_entry f g hf hg ha hb hc hd,
    tensor_entry _ _ (dagger_wf f hf) (dagger_wf g hg) hb ha hd hc,
    dagger_entry f hf ha hb, dagger_entry g hg hc hd, star_mul']

theorem dagger_id (d : List Nat) : (Tensor.id (R := R) d).dagger = Tensor.id d := by
  apply ext_entry (dagger_wf _ (id_wf d)) (id_wf d) (by simp) (by simp)
  intro x hx
  obtain ⟨i, k, rfl, hi, hk⟩ := hx.split
  rw [dagger_entry _ (id_wf d) (i := k) (k := i) hk hi, id_entry d hk hi, id_entry d hi hk]
  by_cases e : i = k
  · subst e; simp
  · have : ¬ k = i := fun h => e h.symm
    simp [e, this]

end star

end Tensor
end DV
