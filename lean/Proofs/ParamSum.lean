/-
  Proofs/ParamSum.lean — the gradient of a formal sum is the sum of the gradients of its terms,
  with multiplicity; hence higher-order gradients.
-/
import Model.ParamSum
import Proofs.PolyDiagram

namespace DV.Param

/-! ### multiplicity: `gradSum` is a list homomorphism -/

theorem gradSum_nil {T : Type} (g : T → List T) : gradSum g [] = [] := rfl

theorem gradSum_cons {T : Type} (g : T → List T) (t : T) (ts : List T) :
    gradSum g (t :: ts) = g t ++ gradSum g ts := by
  simp [gradSum]

theorem gradSum_append {T : Type} (g : T → List T) (as bs : List T) :
    gradSum g (as ++ bs) = gradSum g as ++ gradSum g bs := by
  simp [gradSum]

/-- A term occurring `n` times contributes its gradient `n` times. -/
theorem gradSum_replicate_length {T : Type} (g : T → List T) (t : T) (n : Nat) :
    (gradSum g (List.replicate n t)).length = n * (g t).length := by
  induction n with
  | zero => simp [gradSum]
  | succ n ih =>
    rw [List.replicate_succ, gradSum_cons, List.length_append, ih]
    ring

theorem gradSum_length {T : Type} (g : T → List T) (ts : List T) :
    (gradSum g ts).length = (ts.map (fun t => (g t).length)).sum := by
  induction ts with
  | nil => rfl
  | cons t ts ih => rw [gradSum_cons, List.length_append, ih]; simp

section Abstract
variable {R : Type} [CommRing R] (d : Deriv R)

/-- **Gradient of a formal sum.**  Terms of any kind `T` (tensor diagrams, circuits) with an
    evaluation `ev` into a commutative ring; if the gradient `g t` of every term evaluates to the
    derivative of the term, the concatenation of the gradients of the terms — one per occurrence —
    evaluates to the derivative of the evaluation of the sum. -/
theorem grad_sum {T : Type} (ev : T → R) (g : T → List T)
    (hg : ∀ t, ((g t).map ev).sum = d.D (ev t)) (ts : List T) :
    ((gradSum g ts).map ev).sum = d.D ((ts.map ev).sum) := by
  induction ts with
  | nil => simpa [gradSum] using d.zero.symm
  | cons t ts ih =>
    rw [gradSum_cons, List.map_append, List.sum_append, ih, hg, List.map_cons, List.sum_cons, d.add]

/-- Formal sums of tensor diagrams (lists of layer lists), under the hypotheses of the product
    rule: `evalSum (Σ terms).grad = D (evalSum terms)`. -/
theorem grad_sum_layers [HasConj R] (dep : PBox R → Bool) (G : PBox R → List (PBox R))
    (hdims : ∀ b, ∀ b' ∈ G b, b'.dom = b.dom ∧ b'.cod = b.cod)
    (hG : ∀ b i j, ((G b).map (fun b' => b'.arr i j)).sum = d.D (b.arr i j))
    (hdep : ∀ b, dep b = false → ∀ i j, d.D (b.arr i j) = 0)
    (ts : List (List (PLayer R))) (i k : Nat) :
    evalSum (gradSum (gradLayers dep G) ts) i k = d.D (evalSum ts i k) := by
  unfold evalSum
  exact grad_sum d (fun t => evalLayers t i k) (gradLayers dep G)
    (fun t => grad_product_rule d dep G hdims hG hdep t i k) ts

end Abstract

theorem polySumGrad_wf (f g : Bool) (v : Nat) (ts : List (List (PLayer Poly))) (i k : Nat) :
    (evalSum (polySumGrad f g v ts) i k).WF := Poly.evalSum_wf _ i k

/-- The repaired gradient of a formal sum of polynomial tensor diagrams evaluates to the formal
    derivative of the evaluation of the sum (data in normal form or not). -/
theorem grad_poly_sum_proof (checksFS : Bool) (v : Nat) (ts : List (List (PLayer Poly))) (i k : Nat) :
    evalSum (polySumGrad true checksFS v ts) i k = Poly.deriv v (evalSum ts i k) := by
  apply eq_of_norm_eq (Poly.evalSum_wf _ i k) (Poly.deriv_wf v _)
  rw [norm_deriv]
  unfold polySumGrad evalSum
  rw [if_pos rfl, norm_opHom.map_sum, norm_opHom.map_sum, List.map_map, List.map_map]
  refine grad_sum (NPoly.derivN v) (fun t => norm (evalLayers t i k)) (polyGradLayers checksFS v) ?_ ts
  intro t
  have h := grad_poly_layers checksFS v t i k
  rw [← norm_deriv, ← h]
  unfold evalSum polyGradLayers
  rw [norm_opHom.map_sum, List.map_map]
  rfl

end DV.Param
