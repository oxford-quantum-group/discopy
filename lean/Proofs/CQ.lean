/-
  Proofs/CQ.lean — lemmas about the classical-quantum model (Model/CQ.lean), for every
  commutative star-ring `R` (conjugation := `star`).
-/
import Model.CQ
import Mathlib.Algebra.Star.Basic
import Mathlib.Algebra.Ring.Basic
import Mathlib.Tactic.Ring

namespace DV.CQ

set_option linter.unusedSectionVars false

variable {R : Type} [CommRing R] [StarRing R]

/-- Conjugation of the model := the star of the ring. -/
instance (priority := low) starConj : Conj R := ⟨star⟩

@[simp] theorem conj_eq_star (x : R) : (conj x : R) = star x := rfl

/-! ### finite sums -/

@[simp] theorem sumN_zero_n (g : Nat → R) : sumN 0 g = 0 := rfl
theorem sumN_succ (n : Nat) (g : Nat → R) : sumN (n + 1) g = sumN n g + g n := rfl
theorem sumN_one (g : Nat → R) : sumN 1 g = g 0 := zero_add _

theorem sumN_congr {n : Nat} {f g : Nat → R} (h : ∀ i, i < n → f i = g i) : sumN n f = sumN n g := by
  induction n with
  | zero => rfl
  | succ n ih =>
    rw [sumN_succ, sumN_succ, ih (fun i hi => h i (Nat.lt_succ_of_lt hi)), h n (Nat.lt_succ_self n)]

@[simp] theorem sumN_const_zero (n : Nat) : sumN n (fun _ => (0 : R)) = 0 := by
  induction n with
  | zero => rfl
  | succ n ih => rw [sumN_succ, ih, add_zero]

theorem sumN_eq_zero {n : Nat} {f : Nat → R} (h : ∀ i, i < n → f i = 0) : sumN n f = 0 := by
  rw [sumN_congr h, sumN_const_zero]

theorem sumN_add (n : Nat) (f g : Nat → R) :
    sumN n (fun i => f i + g i) = sumN n f + sumN n g := by
  induction n with
  | zero => exact (add_zero _).symm
  | succ n ih => rw [sumN_succ, sumN_succ, sumN_succ, ih]; ring

theorem mul_sumN (n : Nat) (a : R) (f : Nat → R) : a * sumN n f = sumN n (fun i => a * f i) := by
  induction n with
  | zero => exact mul_zero a
  | succ n ih => rw [sumN_succ, sumN_succ, mul_add, ih]

theorem sumN_mul (n : Nat) (a : R) (f : Nat → R) : sumN n f * a = sumN n (fun i => f i * a) := by
  induction n with
  | zero => exact zero_mul a
  | succ n ih => rw [sumN_succ, sumN_succ, add_mul, ih]

theorem star_sumN (n : Nat) (f : Nat → R) : star (sumN n f) = sumN n (fun i => star (f i)) := by
  induction n with
  | zero => exact star_zero R
  | succ n ih => rw [sumN_succ, sumN_succ, star_add, ih]

theorem sumN_comm (n m : Nat) (f : Nat → Nat → R) :
    sumN n (fun i => sumN m (fun j => f i j)) = sumN m (fun j => sumN n (fun i => f i j)) := by
  induction n with
  | zero => exact (sumN_const_zero m).symm
  | succ n ih => simp only [sumN_succ]; rw [ih, sumN_add]

theorem sumN_ite_eq_zero {n k : Nat} (hk : n ≤ k) (f : Nat → R) :
    sumN n (fun i => if i = k then f i else 0) = 0 :=
  sumN_eq_zero fun i hi => if_neg (by omega)

theorem sumN_single {n k : Nat} (hk : k < n) {f : Nat → R} (h : ∀ i, i < n → i ≠ k → f i = 0) :
    sumN n f = f k := by
  induction n with
  | zero => omega
  | succ n ih =>
    rw [sumN_succ]
    by_cases e : k = n
    · subst e
      rw [sumN_eq_zero fun i hi => h i (Nat.lt_succ_of_lt hi) (Nat.ne_of_lt hi), zero_add]
    · rw [ih (Nat.lt_of_le_of_ne (Nat.le_of_lt_succ hk) e) fun i hi => h i (Nat.lt_succ_of_lt hi),
        h n (Nat.lt_succ_self n) (Ne.symm e), add_zero]

theorem sumN_append (n m : Nat) (f : Nat → R) :
    sumN (n + m) f = sumN n f + sumN m (fun j => f (n + j)) := by
  induction m with
  | zero => exact (add_zero _).symm
  | succ m ih => rw [← Nat.add_assoc, sumN_succ, sumN_succ, ih]; ring

/-- Fubini over a flattened pair index. -/
theorem sumN_divmod (a b : Nat) (g : Nat → R) :
    sumN (a * b) g = sumN a (fun i => sumN b (fun j => g (i * b + j))) := by
  induction a with
  | zero => rw [Nat.zero_mul]; rfl
  | succ a ih => rw [Nat.succ_mul, sumN_append, ih, sumN_succ]

theorem sumN_mul_sumN (n m : Nat) (f g : Nat → R) :
    sumN n f * sumN m g = sumN n (fun i => sumN m (fun j => f i * g j)) := by
  rw [sumN_mul]; apply sumN_congr; intro i _; rw [mul_sumN]

/-! ### Iverson brackets -/

theorem iv_def (p : Prop) [Decidable p] : (iv p : R) = if p then 1 else 0 := rfl
@[simp] theorem iv_pos {p : Prop} [Decidable p] (h : p) : (iv p : R) = 1 := if_pos h
@[simp] theorem iv_neg {p : Prop} [Decidable p] (h : ¬p) : (iv p : R) = 0 := if_neg h
theorem iv_and (p q : Prop) [Decidable p] [Decidable q] : (iv (p ∧ q) : R) = iv p * iv q := by
  by_cases hp : p
  · by_cases hq : q
    · rw [iv_pos hp, iv_pos hq, iv_pos ⟨hp, hq⟩, one_mul]
    · rw [iv_neg hq, iv_neg fun h => hq h.2, mul_zero]
  · rw [iv_neg hp, iv_neg fun h => hp h.1, zero_mul]
theorem iv_congr {p q : Prop} [Decidable p] [Decidable q] (h : p ↔ q) : (iv p : R) = iv q := by
  by_cases hp : p
  · rw [iv_pos hp, iv_pos (h.mp hp)]
  · rw [iv_neg hp, iv_neg (fun hq => hp (h.mpr hq))]
@[simp] theorem star_iv (p : Prop) [Decidable p] : star (iv p : R) = iv p := by
  by_cases hp : p
  · rw [iv_pos hp, star_one]
  · rw [iv_neg hp, star_zero]

theorem pair_lt {a A b B : Nat} (ha : a < A) (hb : b < B) : a * B + b < A * B := by
  calc a * B + b < a * B + B := by omega
    _ = (a + 1) * B := by rw [Nat.add_mul, Nat.one_mul]
    _ ≤ A * B := Nat.mul_le_mul_right B ha

theorem pair_div {a b B : Nat} (hb : b < B) : (a * B + b) / B = a := by
  rw [Nat.mul_comm a B, Nat.mul_add_div (Nat.zero_lt_of_lt hb), Nat.div_eq_of_lt hb, Nat.add_zero]

theorem pair_mod {a b B : Nat} (hb : b < B) : (a * B + b) % B = b := by
  rw [Nat.mul_comm a B, Nat.mul_add_mod, Nat.mod_eq_of_lt hb]

theorem div_lt_of_lt_mul' {x A B : Nat} (h : x < A * B) : x / B < A :=
  Nat.div_lt_of_lt_mul (by rwa [Nat.mul_comm] at h)

theorem mod_lt_of_lt_mul {x A B : Nat} (h : x < A * B) : x % B < B :=
  Nat.mod_lt _ (Nat.pos_of_ne_zero fun h0 => by simp [h0] at h)

theorem eq_iff_divmod (x y B : Nat) : x = y ↔ x / B = y / B ∧ x % B = y % B := by
  constructor
  · rintro rfl; exact ⟨rfl, rfl⟩
  · rintro ⟨h1, h2⟩
    rw [← Nat.div_add_mod x B, ← Nat.div_add_mod y B, h1, h2]

theorem iv_eq_divmod (x y B : Nat) : (iv (x = y) : R) = iv (x / B = y / B) * iv (x % B = y % B) := by
  rw [← iv_and]
  exact iv_congr (eq_iff_divmod x y B)

theorem flat_lt {C Q c q p : Nat} (hc : c < C) (hq : q < Q) (hp : p < Q) :
    CQMap.flat Q c q p < C * Q * Q := pair_lt (pair_lt hc hq) hp

theorem flat_div2 {Q c q p : Nat} (hq : q < Q) (hp : p < Q) : CQMap.flat Q c q p / (Q * Q) = c := by
  unfold CQMap.flat
  rw [← Nat.div_div_eq_div_mul, pair_div hp, pair_div hq]

theorem flat_div1 {Q c q p : Nat} (hq : q < Q) (hp : p < Q) : CQMap.flat Q c q p / Q % Q = q := by
  unfold CQMap.flat
  rw [pair_div hp, pair_mod hq]

theorem flat_mod {Q c q p : Nat} (hp : p < Q) : CQMap.flat Q c q p % Q = p := by
  unfold CQMap.flat
  rw [pair_mod hp]

/-! ### sums over a classical-quantum index -/

theorem sum3_congr {C Q : Nat} {f g : Nat → Nat → Nat → R}
    (h : ∀ x y z, x < C → y < Q → z < Q → f x y z = g x y z) : sum3 C Q f = sum3 C Q g := by
  unfold sum3
  exact sumN_congr fun x hx => sumN_congr fun y hy => sumN_congr fun z hz => h x y z hx hy hz

theorem sum3_eq_zero {C Q : Nat} {f : Nat → Nat → Nat → R}
    (h : ∀ x y z, x < C → y < Q → z < Q → f x y z = 0) : sum3 C Q f = 0 := by
  unfold sum3
  exact sumN_eq_zero fun x hx => sumN_eq_zero fun y hy => sumN_eq_zero fun z hz => h x y z hx hy hz

theorem sum3_one (f : Nat → Nat → Nat → R) : sum3 1 1 f = f 0 0 0 := by
  unfold sum3; rw [sumN_one, sumN_one, sumN_one]

theorem mul_sum3 (C Q : Nat) (a : R) (f : Nat → Nat → Nat → R) :
    a * sum3 C Q f = sum3 C Q (fun x y z => a * f x y z) := by
  unfold sum3; simp only [mul_sumN]

theorem sum3_mul (C Q : Nat) (a : R) (f : Nat → Nat → Nat → R) :
    sum3 C Q f * a = sum3 C Q (fun x y z => f x y z * a) := by
  unfold sum3; simp only [sumN_mul]

theorem star_sum3 (C Q : Nat) (f : Nat → Nat → Nat → R) :
    star (sum3 C Q f) = sum3 C Q (fun x y z => star (f x y z)) := by
  unfold sum3; simp only [star_sumN]

theorem sumN_sum3_comm (n C Q : Nat) (f : Nat → Nat → Nat → Nat → R) :
    sumN n (fun i => sum3 C Q (f i)) = sum3 C Q (fun x y z => sumN n (fun i => f i x y z)) := by
  unfold sum3
  exact (sumN_comm _ _ _).trans (sumN_congr fun x _ =>
    (sumN_comm _ _ _).trans (sumN_congr fun y _ => sumN_comm _ _ _))

theorem sum3_comm (C Q C' Q' : Nat) (f : Nat → Nat → Nat → Nat → Nat → Nat → R) :
    sum3 C Q (fun x y z => sum3 C' Q' (f x y z)) =
    sum3 C' Q' (fun x' y' z' => sum3 C Q (fun x y z => f x y z x' y' z')) := by
  show sumN C (fun x => sumN Q fun y => sumN Q fun z => sum3 C' Q' (f x y z)) = _
  simp only [sumN_sum3_comm]
  rfl

/-- exactly one summand may be non-zero. -/
theorem sum3_single {C Q c q p : Nat} (hc : c < C) (hq : q < Q) (hp : p < Q)
    {f : Nat → Nat → Nat → R}
    (h : ∀ x y z, x < C → y < Q → z < Q → ¬(x = c ∧ y = q ∧ z = p) → f x y z = 0) :
    sum3 C Q f = f c q p := by
  unfold sum3
  rw [sumN_single hc (f := fun x => sumN Q fun y => sumN Q fun z => f x y z)]
  · rw [sumN_single hq (f := fun y => sumN Q fun z => f c y z)]
    · exact sumN_single hp fun z hz hne => h c q z hc hq hz fun e => hne e.2.2
    · intro y hy hne
      exact sumN_eq_zero fun z hz => h c y z hc hy hz fun e => hne e.2.1
  · intro x hx hne
    exact sumN_eq_zero fun y hy => sumN_eq_zero fun z hz => h x y z hx hy hz fun e => hne e.1

theorem sum3_iv_mul {C Q c q p : Nat} (hc : c < C) (hq : q < Q) (hp : p < Q)
    (P : Nat → Nat → Nat → Prop) [∀ x y z, Decidable (P x y z)] (g : Nat → Nat → Nat → R)
    (h : ∀ x y z, x < C → y < Q → z < Q → P x y z → x = c ∧ y = q ∧ z = p) :
    sum3 C Q (fun x y z => iv (P x y z) * g x y z) = iv (P c q p) * g c q p :=
  sum3_single hc hq hp fun x y z hx hy hz hne => by
    rw [iv_neg fun hP => hne (h x y z hx hy hz hP), zero_mul]

theorem sum3_mul_iv {C Q c q p : Nat} (hc : c < C) (hq : q < Q) (hp : p < Q)
    (P : Nat → Nat → Nat → Prop) [∀ x y z, Decidable (P x y z)] (g : Nat → Nat → Nat → R)
    (h : ∀ x y z, x < C → y < Q → z < Q → P x y z → x = c ∧ y = q ∧ z = p) :
    sum3 C Q (fun x y z => g x y z * iv (P x y z)) = g c q p * iv (P c q p) :=
  sum3_single hc hq hp fun x y z hx hy hz hne => by
    rw [iv_neg fun hP => hne (h x y z hx hy hz hP), mul_zero]

theorem sum3_split (C Q C' Q' : Nat) (g : Nat → Nat → Nat → R) :
    sum3 (C * C') (Q * Q') g =
      sum3 C Q fun x y z => sum3 C' Q' fun x' y' z' => g (x * C' + x') (y * Q' + y') (z * Q' + z') := by
  unfold sum3
  simp only [sumN_divmod]
  -- `Σx Σx' Σy Σy' Σz Σz'`: move `Σx'` inside `Σy`, then `Σy'` and `Σx'` inside `Σz`
  refine sumN_congr fun x _ => (sumN_comm _ _ _).trans (sumN_congr fun y _ => ?_)
  exact (sumN_congr fun x' _ => sumN_comm _ _ _).trans (sumN_comm _ _ _)

theorem sum3_prod (C Q C' Q' : Nat) (f g : Nat → Nat → Nat → R) :
    sum3 (C * C') (Q * Q') (fun x y z => f (x / C') (y / Q') (z / Q') * g (x % C') (y % Q') (z % Q')) =
    sum3 C Q f * sum3 C' Q' g := by
  rw [sum3_split, sum3_mul]
  refine sum3_congr fun x y z _ _ _ => ?_
  rw [mul_sum3]
  refine sum3_congr fun x' y' z' hx hy hz => ?_
  rw [pair_div hx, pair_div hy, pair_div hz, pair_mod hx, pair_mod hy, pair_mod hz]

/-! ### types -/

theorem prodL_append (a b : List Nat) : prodL (a ++ b) = prodL a * prodL b := by
  induction a with
  | nil => simp [prodL]
  | cons x xs ih => simp [prodL, ih, Nat.mul_assoc]

@[simp] theorem CQTy.tensor_C (s t : CQTy) : (s.tensor t).C = s.C * t.C := prodL_append _ _
@[simp] theorem CQTy.tensor_Q (s t : CQTy) : (s.tensor t).Q = s.Q * t.Q := prodL_append _ _
@[simp] theorem CQTy.unit_C : CQTy.unit.C = 1 := rfl
@[simp] theorem CQTy.unit_Q : CQTy.unit.Q = 1 := rfl
@[simp] theorem CQTy.ofC_C (d : List Nat) : (CQTy.ofC d).C = prodL d := rfl
@[simp] theorem CQTy.ofC_Q (d : List Nat) : (CQTy.ofC d).Q = 1 := rfl
@[simp] theorem CQTy.ofQ_C (d : List Nat) : (CQTy.ofQ d).C = 1 := rfl
@[simp] theorem CQTy.ofQ_Q (d : List Nat) : (CQTy.ofQ d).Q = prodL d := rfl
theorem CQTy.ofQ_q {t : CQTy} (h : t.c = []) : CQTy.ofQ t.q = t := by
  cases t; cases h; rfl
theorem CQTy.tensor_assoc (a b c : CQTy) : (a.tensor b).tensor c = a.tensor (b.tensor c) := by
  simp [CQTy.tensor, List.append_assoc]
@[simp] theorem CQTy.unit_tensor (a : CQTy) : CQTy.unit.tensor a = a := by
  cases a; simp [CQTy.tensor, CQTy.unit]
@[simp] theorem CQTy.tensor_unit (a : CQTy) : a.tensor CQTy.unit = a := by
  cases a; simp [CQTy.tensor, CQTy.unit]

/-! ### observable equality: same type, same entries in range -/

/-- Two matrices with the same shape and the same entries (what the driver prints). -/
def Mat.Eqv (A B : Mat R) : Prop :=
  A.r = B.r ∧ A.c = B.c ∧ ∀ i j, i < A.r → j < A.c → A.f i j = B.f i j

/-- Two classical-quantum maps with the same type and the same entries. -/
def CQMap.Eqv (A B : CQMap R) : Prop :=
  A.dom = B.dom ∧ A.cod = B.cod ∧
  ∀ c q p c' q' p', c < A.dom.C → q < A.dom.Q → p < A.dom.Q →
    c' < A.cod.C → q' < A.cod.Q → p' < A.cod.Q → A.f c q p c' q' p' = B.f c q p c' q' p'

infix:50 " ≈ₘ " => Mat.Eqv
infix:50 " ≈ " => CQMap.Eqv

theorem Mat.Eqv.rfl' (A : Mat R) : A ≈ₘ A := ⟨rfl, rfl, fun _ _ _ _ => rfl⟩
theorem Mat.Eqv.symm {A B : Mat R} (h : A ≈ₘ B) : B ≈ₘ A :=
  ⟨h.1.symm, h.2.1.symm, fun i j hi hj => (h.2.2 i j (h.1 ▸ hi) (h.2.1 ▸ hj)).symm⟩
theorem Mat.Eqv.trans {A B C : Mat R} (h : A ≈ₘ B) (k : B ≈ₘ C) : A ≈ₘ C :=
  ⟨h.1.trans k.1, h.2.1.trans k.2.1, fun i j hi hj =>
    (h.2.2 i j hi hj).trans (k.2.2 i j (h.1 ▸ hi) (h.2.1 ▸ hj))⟩

theorem CQMap.Eqv.rfl' (A : CQMap R) : A ≈ A := ⟨rfl, rfl, fun _ _ _ _ _ _ _ _ _ _ _ _ => rfl⟩
theorem CQMap.Eqv.symm {A B : CQMap R} (h : A ≈ B) : B ≈ A :=
  ⟨h.1.symm, h.2.1.symm, fun c q p c' q' p' h1 h2 h3 h4 h5 h6 =>
    (h.2.2 c q p c' q' p' (h.1 ▸ h1) (h.1 ▸ h2) (h.1 ▸ h3) (h.2.1 ▸ h4) (h.2.1 ▸ h5) (h.2.1 ▸ h6)).symm⟩
theorem CQMap.Eqv.trans {A B C : CQMap R} (h : A ≈ B) (k : B ≈ C) : A ≈ C :=
  ⟨h.1.trans k.1, h.2.1.trans k.2.1, fun c q p c' q' p' h1 h2 h3 h4 h5 h6 =>
    (h.2.2 c q p c' q' p' h1 h2 h3 h4 h5 h6).trans
      (k.2.2 c q p c' q' p' (h.1 ▸ h1) (h.1 ▸ h2) (h.1 ▸ h3) (h.2.1 ▸ h4) (h.2.1 ▸ h5) (h.2.1 ▸ h6))⟩

/-! ### tabulation does not change a map -/

theorem table_getD {n k : Nat} (g : Nat → R) (d : R) (hk : k < n) : (table n g).getD k d = g k := by
  simp [table, Array.getD, hk]

@[simp] theorem Mat.memo_r (A : Mat R) : A.memo.r = A.r := by simp only [Mat.memo, Mat.ofList]
@[simp] theorem Mat.memo_c (A : Mat R) : A.memo.c = A.c := by simp only [Mat.memo, Mat.ofList]

theorem Mat.memo_f (A : Mat R) {i j : Nat} (hi : i < A.r) (hj : j < A.c) :
    A.memo.f i j = A.f i j := by
  show (table (A.r * A.c) fun k => A.f (k / A.c) (k % A.c)).getD (i * A.c + j) 0 = A.f i j
  rw [table_getD _ _ (pair_lt hi hj), pair_div hj, pair_mod hj]

@[simp] theorem CQMap.memo_dom (A : CQMap R) : A.memo.dom = A.dom := by
  simp only [CQMap.memo, CQMap.ofMat]
@[simp] theorem CQMap.memo_cod (A : CQMap R) : A.memo.cod = A.cod := by
  simp only [CQMap.memo, CQMap.ofMat]

theorem CQMap.ofMat_f (d e : CQTy) (u : Mat R) (c q p c' q' p' : Nat) :
    (CQMap.ofMat d e u).f c q p c' q' p' = u.f (CQMap.flat d.Q c q p) (CQMap.flat e.Q c' q' p') := rfl

theorem CQMap.toMat_f (A : CQMap R) {c q p c' q' p' : Nat} (hq : q < A.dom.Q) (hp : p < A.dom.Q)
    (hq' : q' < A.cod.Q) (hp' : p' < A.cod.Q) :
    A.toMat.f (flat A.dom.Q c q p) (flat A.cod.Q c' q' p') = A.f c q p c' q' p' := by
  show A.f _ _ _ _ _ _ = _
  rw [flat_div2 hq hp, flat_div1 hq hp, flat_mod hp, flat_div2 hq' hp', flat_div1 hq' hp', flat_mod hp']

theorem CQMap.memo_f (A : CQMap R) {c q p c' q' p' : Nat} (hc : c < A.dom.C) (hq : q < A.dom.Q)
    (hp : p < A.dom.Q) (hc' : c' < A.cod.C) (hq' : q' < A.cod.Q) (hp' : p' < A.cod.Q) :
    A.memo.f c q p c' q' p' = A.f c q p c' q' p' := by
  rw [CQMap.memo, CQMap.ofMat_f, Mat.memo_f _ (flat_lt hc hq hp) (flat_lt hc' hq' hp'),
    A.toMat_f hq hp hq' hp']

theorem Mat.memo_eqv (A : Mat R) : A.memo ≈ₘ A :=
  Mat.Eqv.symm ⟨A.memo_r.symm, A.memo_c.symm, fun _ _ hi hj => (A.memo_f hi hj).symm⟩

theorem CQMap.memo_eqv (A : CQMap R) : A.memo ≈ A :=
  CQMap.Eqv.symm ⟨A.memo_dom.symm, A.memo_cod.symm,
    fun _ _ _ _ _ _ h1 h2 h3 h4 h5 h6 => (A.memo_f h1 h2 h3 h4 h5 h6).symm⟩

/-! ### the category of classical-quantum maps -/

namespace CQMap

@[simp] theorem comp_dom (A B : CQMap R) : (A.comp B).dom = A.dom := rfl
@[simp] theorem comp_cod (A B : CQMap R) : (A.comp B).cod = B.cod := rfl
@[simp] theorem tensor_dom (A B : CQMap R) : (A.tensor B).dom = A.dom.tensor B.dom := rfl
@[simp] theorem tensor_cod (A B : CQMap R) : (A.tensor B).cod = A.cod.tensor B.cod := rfl
@[simp] theorem dagger_dom (A : CQMap R) : A.dagger.dom = A.cod := rfl
@[simp] theorem dagger_cod (A : CQMap R) : A.dagger.cod = A.dom := rfl
@[simp] theorem id_dom (t : CQTy) : (CQMap.id t : CQMap R).dom = t := rfl
@[simp] theorem id_cod (t : CQTy) : (CQMap.id t : CQMap R).cod = t := rfl
@[simp] theorem discard_dom (t : CQTy) : (CQMap.discard t : CQMap R).dom = t := rfl
@[simp] theorem discard_cod (t : CQTy) : (CQMap.discard t : CQMap R).cod = .unit := rfl
@[simp] theorem pure_dom (d e : List Nat) (u : Mat R) : (CQMap.pure d e u).dom = .ofQ d := rfl
@[simp] theorem pure_cod (d e : List Nat) (u : Mat R) : (CQMap.pure d e u).cod = .ofQ e := rfl
@[simp] theorem ofMat_dom (d e : CQTy) (u : Mat R) : (CQMap.ofMat d e u).dom = d := rfl
@[simp] theorem ofMat_cod (d e : CQTy) (u : Mat R) : (CQMap.ofMat d e u).cod = e := rfl

theorem comp_f (A B : CQMap R) (c q p c' q' p' : Nat) :
    (A.comp B).f c q p c' q' p' =
      sum3 A.cod.C A.cod.Q fun x y z => A.f c q p x y z * B.f x y z c' q' p' := rfl

theorem tensor_f (A B : CQMap R) (c q p c' q' p' : Nat) :
    (A.tensor B).f c q p c' q' p' =
      A.f (c / B.dom.C) (q / B.dom.Q) (p / B.dom.Q) (c' / B.cod.C) (q' / B.cod.Q) (p' / B.cod.Q) *
      B.f (c % B.dom.C) (q % B.dom.Q) (p % B.dom.Q) (c' % B.cod.C) (q' % B.cod.Q) (p' % B.cod.Q) := rfl

theorem dagger_f (A : CQMap R) (c q p c' q' p' : Nat) :
    A.dagger.f c q p c' q' p' = star (A.f c' q' p' c q p) := rfl

theorem ext {A B : CQMap R} (hd : A.dom = B.dom) (hc : A.cod = B.cod)
    (hf : ∀ c q p c' q' p', A.f c q p c' q' p' = B.f c q p c' q' p') : A = B := by
  cases A; cases B; cases hd; cases hc
  congr 1
  funext c q p c' q' p'
  exact hf c q p c' q' p'

theorem comp_congr {A A' B B' : CQMap R} (hA : A ≈ A') (hB : B ≈ B') (h : A.cod = B.dom) :
    A.comp B ≈ A'.comp B' := by
  refine ⟨hA.1, hB.2.1, ?_⟩
  intro c q p c' q' p' h1 h2 h3 h4 h5 h6
  rw [comp_f, comp_f, ← hA.2.1]
  refine sum3_congr fun x y z hx hy hz => ?_
  rw [hA.2.2 c q p x y z h1 h2 h3 hx hy hz,
    hB.2.2 x y z c' q' p' (h ▸ hx) (h ▸ hy) (h ▸ hz) h4 h5 h6]

theorem tensor_congr {A A' B B' : CQMap R} (hA : A ≈ A') (hB : B ≈ B') :
    A.tensor B ≈ A'.tensor B' := by
  refine ⟨by simp [hA.1, hB.1], by simp [hA.2.1, hB.2.1], ?_⟩
  intro c q p c' q' p' h1 h2 h3 h4 h5 h6
  simp only [tensor_dom, tensor_cod, CQTy.tensor_C, CQTy.tensor_Q] at h1 h2 h3 h4 h5 h6
  rw [tensor_f, tensor_f, ← hB.1, ← hB.2.1]
  rw [hA.2.2 _ _ _ _ _ _ (div_lt_of_lt_mul' h1) (div_lt_of_lt_mul' h2) (div_lt_of_lt_mul' h3)
        (div_lt_of_lt_mul' h4) (div_lt_of_lt_mul' h5) (div_lt_of_lt_mul' h6),
    hB.2.2 _ _ _ _ _ _ (mod_lt_of_lt_mul h1) (mod_lt_of_lt_mul h2) (mod_lt_of_lt_mul h3)
        (mod_lt_of_lt_mul h4) (mod_lt_of_lt_mul h5) (mod_lt_of_lt_mul h6)]

theorem dagger_congr {A A' : CQMap R} (hA : A ≈ A') : A.dagger ≈ A'.dagger :=
  ⟨hA.2.1, hA.1, fun c q p c' q' p' h1 h2 h3 h4 h5 h6 => by
    rw [dagger_f, dagger_f, hA.2.2 c' q' p' c q p h4 h5 h6 h1 h2 h3]⟩

theorem id_comp (A : CQMap R) : (CQMap.id A.dom).comp A ≈ A := by
  refine ⟨rfl, rfl, fun c q p c' q' p' h1 h2 h3 _ _ _ => ?_⟩
  show sum3 A.dom.C A.dom.Q (fun x y z => iv (c = x ∧ q = y ∧ p = z) * A.f x y z c' q' p') = _
  rw [sum3_iv_mul (C := A.dom.C) (Q := A.dom.Q) h1 h2 h3 _ _
      fun x y z _ _ _ h => ⟨h.1.symm, h.2.1.symm, h.2.2.symm⟩,
    iv_pos ⟨rfl, rfl, rfl⟩, one_mul]

theorem comp_id (A : CQMap R) : A.comp (CQMap.id A.cod) ≈ A := by
  refine ⟨rfl, rfl, fun c q p c' q' p' _ _ _ h4 h5 h6 => ?_⟩
  show sum3 A.cod.C A.cod.Q (fun x y z => A.f c q p x y z * iv (x = c' ∧ y = q' ∧ z = p')) = _
  rw [sum3_mul_iv (C := A.cod.C) (Q := A.cod.Q) h4 h5 h6 _ _ fun x y z _ _ _ h => h,
    iv_pos ⟨rfl, rfl, rfl⟩, mul_one]

/-- Composition is associative (no side condition: the sums range over the codomains). -/
theorem comp_assoc (A B C : CQMap R) : (A.comp B).comp C = A.comp (B.comp C) := by
  refine ext rfl rfl fun c q p c' q' p' => ?_
  show sum3 B.cod.C B.cod.Q (fun x y z =>
      sum3 A.cod.C A.cod.Q (fun x' y' z' => A.f c q p x' y' z' * B.f x' y' z' x y z) * C.f x y z c' q' p')
    = sum3 A.cod.C A.cod.Q (fun x' y' z' => A.f c q p x' y' z' *
        sum3 B.cod.C B.cod.Q (fun x y z => B.f x' y' z' x y z * C.f x y z c' q' p'))
  simp only [sum3_mul, mul_sum3]
  rw [sum3_comm]
  refine sum3_congr fun _ _ _ _ _ _ => sum3_congr fun _ _ _ _ _ _ => ?_
  ring

/-- The interchange law of `⊗` and `≫` (mixed-product property of the block-wise Kronecker
    product); only the inner types of the right factors have to agree. -/
theorem interchange (A A' B B' : CQMap R) (h : B.cod = B'.dom) :
    (A.tensor B).comp (A'.tensor B') = (A.comp A').tensor (B.comp B') := by
  refine ext rfl rfl fun c q p c' q' p' => ?_
  simp only [tensor_cod, CQTy.tensor_C, CQTy.tensor_Q, tensor_f, comp_dom, comp_cod, comp_f, ← h]
  rw [← sum3_prod]
  refine sum3_congr fun _ _ _ _ _ _ => ?_
  ring

theorem dagger_dagger (A : CQMap R) : A.dagger.dagger = A := by
  refine ext rfl rfl fun c q p c' q' p' => ?_
  show star (star _) = _
  rw [star_star]

/-- `(A ⊗ B)† = A† ⊗ B†`. -/
theorem dagger_tensor (A B : CQMap R) : (A.tensor B).dagger = A.dagger.tensor B.dagger := by
  refine ext rfl rfl fun c q p c' q' p' => ?_
  exact star_mul' _ _

theorem dagger_id (t : CQTy) : (CQMap.id t : CQMap R).dagger = CQMap.id t := by
  refine ext rfl rfl fun c q p c' q' p' => ?_
  show star (iv _) = iv _
  rw [star_iv]
  exact iv_congr ⟨fun h => ⟨h.1.symm, h.2.1.symm, h.2.2.symm⟩, fun h => ⟨h.1.symm, h.2.1.symm, h.2.2.symm⟩⟩

/-! ### doubling -/

/-- **pure_then**: doubling is functorial, `pure (u ≫ v) = pure u ≫ pure v`. -/
theorem pure_comp (d m e : List Nat) (u v : Mat R) (h : u.c = prodL m) :
    CQMap.pure d e (u.comp v) = (CQMap.pure d m u).comp (CQMap.pure m e v) := by
  refine ext rfl rfl fun c q p c' q' p' => ?_
  show star (sumN u.c fun j => u.f q j * v.f j q') * (sumN u.c fun k => u.f p k * v.f k p') =
    sum3 1 (prodL m) fun x y z => (star (u.f q y) * u.f p z) * (star (v.f y q') * v.f z p')
  rw [star_sumN, sumN_mul_sumN, h]
  simp only [sum3, sumN_one]
  refine sumN_congr fun y _ => sumN_congr fun z _ => ?_
  rw [star_mul']
  ring

/-- **pure_tensor**: doubling is monoidal; the block permutation of `CQMap.tensor` is exactly
    what turns `(ū ⊗ u) ⊗ (v̄ ⊗ v)` into the doubled `u ⊗ v`. -/
theorem pure_tensor (d e d' e' : List Nat) (u v : Mat R) (hr : v.r = prodL d') (hc : v.c = prodL e') :
    CQMap.pure (d ++ d') (e ++ e') (u.kron v) = (CQMap.pure d e u).tensor (CQMap.pure d' e' v) := by
  refine ext rfl rfl fun c q p c' q' p' => ?_
  show star (u.f (q / v.r) (q' / v.c) * v.f (q % v.r) (q' % v.c)) *
      (u.f (p / v.r) (p' / v.c) * v.f (p % v.r) (p' % v.c)) =
    (star (u.f (q / prodL d') (q' / prodL e')) * u.f (p / prodL d') (p' / prodL e')) *
      (star (v.f (q % prodL d') (q' % prodL e')) * v.f (p % prodL d') (p' % prodL e'))
  rw [hr, hc, star_mul']
  ring

/-! ### measurement -/

@[simp] theorem measure1_dom (d : Nat) (b : Bool) : (measure1 d b : CQMap R).dom = .ofQ [d] := by
  cases b <;> rfl
theorem measure1_cod (d : Nat) (b : Bool) :
    (measure1 d b : CQMap R).cod = if b then .ofC [d] else ⟨[d], [d]⟩ := by
  cases b <;> rfl

@[simp] theorem measure_dom (ds : List Nat) (b : Bool) : (measure ds b : CQMap R).dom = .ofQ ds := by
  induction ds with
  | nil => rfl
  | cons d ds ih =>
    cases ds with
    | nil => simp [measure]
    | cons d' ds => simp [measure, ih, CQTy.tensor, CQTy.ofQ]

theorem measure_cod (ds : List Nat) (b : Bool) :
    (measure ds b : CQMap R).cod = if b then .ofC ds else ⟨ds, ds⟩ := by
  induction ds with
  | nil => cases b <;> rfl
  | cons d ds ih =>
    cases ds with
    | nil => simp [measure, measure1_cod]
    | cons d' ds => cases b <;> simp_all [measure, measure1_cod, CQTy.tensor, CQTy.ofC]

theorem measure_cod_C (ds : List Nat) (b : Bool) : (measure ds b : CQMap R).cod.C = prodL ds := by
  rw [measure_cod]; cases b <;> rfl

theorem measure_cod_Q (ds : List Nat) (b : Bool) :
    (measure ds b : CQMap R).cod.Q = if b then 1 else prodL ds := by
  rw [measure_cod]; cases b <;> rfl

/-- The multi-wire destructive measurement is the measurement of the flattened index. -/
theorem measure_flat_destructive (ds : List Nat) {q p k : Nat} (c q' p' : Nat)
    (hq : q < prodL ds) (hp : p < prodL ds) (hk : k < prodL ds) :
    (measure ds true : CQMap R).f c q p k q' p' = iv (q = p ∧ p = k) := by
  induction ds generalizing q p k c q' p' with
  | nil =>
    simp only [prodL, Nat.lt_one_iff] at hq hp hk
    subst hq hp hk
    exact (iv_pos ⟨rfl, rfl⟩).symm
  | cons d ds ih =>
    cases ds with
    | nil => rfl
    | cons d' ds =>
      show (measure1 d true : CQMap R).f _ _ _ _ _ _ * (measure (d' :: ds) true : CQMap R).f _ _ _ _ _ _ = _
      rw [measure_dom, measure_cod_C]
      simp only [CQTy.ofQ_Q]
      rw [ih _ _ _ (mod_lt_of_lt_mul hq) (mod_lt_of_lt_mul hp) (mod_lt_of_lt_mul hk)]
      show iv (_ ∧ _) * _ = _
      simp only [iv_and]
      rw [iv_eq_divmod q p (prodL (d' :: ds)), iv_eq_divmod p k (prodL (d' :: ds))]
      ring

/-- The multi-wire non-destructive measurement, likewise. -/
theorem measure_flat_nondestructive (ds : List Nat) {q p k l m : Nat} (c : Nat)
    (hq : q < prodL ds) (hp : p < prodL ds) (hk : k < prodL ds) (hl : l < prodL ds)
    (hm : m < prodL ds) :
    (measure ds false : CQMap R).f c q p k l m = iv (q = p ∧ p = k ∧ k = l ∧ l = m) := by
  induction ds generalizing q p k l m c with
  | nil =>
    simp only [prodL, Nat.lt_one_iff] at hq hp hk hl hm
    subst hq hp hk hl hm
    exact (iv_pos ⟨rfl, rfl, rfl, rfl⟩).symm
  | cons d ds ih =>
    cases ds with
    | nil => rfl
    | cons d' ds =>
      show (measure1 d false : CQMap R).f _ _ _ _ _ _ * (measure (d' :: ds) false : CQMap R).f _ _ _ _ _ _ = _
      rw [measure_dom, measure_cod_C, measure_cod_Q]
      simp only [CQTy.ofQ_Q, Bool.false_eq_true, if_false]
      rw [ih _ (mod_lt_of_lt_mul hq) (mod_lt_of_lt_mul hp) (mod_lt_of_lt_mul hk)
        (mod_lt_of_lt_mul hl) (mod_lt_of_lt_mul hm)]
      show iv (_ ∧ _ ∧ _ ∧ _) * _ = _
      simp only [iv_and]
      rw [iv_eq_divmod q p (prodL (d' :: ds)), iv_eq_divmod p k (prodL (d' :: ds)),
        iv_eq_divmod k l (prodL (d' :: ds)), iv_eq_divmod l m (prodL (d' :: ds))]
      ring

theorem pure_f (d e : List Nat) (u : Mat R) (c q p c' q' p' : Nat) :
    (CQMap.pure d e u).f c q p c' q' p' = star (u.f q q') * u.f p p' := rfl

theorem discard_f (t : CQTy) (c q p c' q' p' : Nat) :
    (CQMap.discard t : CQMap R).f c q p c' q' p' = iv (q = p) := rfl

/-- **discard_pure**: discarding after a pure map takes the trace: `Σₖ ūₖ uₖ` (for a state,
    `Σ |ψₖ|²`). -/
theorem discard_pure (d e : List Nat) (u : Mat R) (c q p c' q' p' : Nat) :
    ((CQMap.pure d e u).comp (CQMap.discard (.ofQ e))).f c q p c' q' p' =
      sumN (prodL e) fun k => star (u.f q k) * u.f p k := by
  rw [comp_f]
  show sum3 1 (prodL e) (fun x y z => (star (u.f q y) * u.f p z) * iv (y = z)) = _
  simp only [sum3, sumN_one]
  refine sumN_congr fun y hy => ?_
  rw [sumN_single hy]
  · rw [iv_pos rfl, mul_one]
  · intro z _ hne
    rw [iv_neg (fun h => hne h.symm), mul_zero]

/-- An isometry in the index convention of tensor.py (`array[input, output]`): `u ≫ u† = 1`. -/
def _root_.DV.CQ.Mat.Isometry (u : Mat R) : Prop := u.comp u.dagger ≈ₘ Mat.id u.r

/-- **discard_unitary**: pure isometries (unitaries, state preparations) are trace preserving:
    `pure U ≫ discard = discard`. -/
theorem discard_isometry (d e : List Nat) (u : Mat R) (hr : u.r = prodL d) (hc : u.c = prodL e)
    (hu : u.Isometry) :
    (CQMap.pure d e u).comp (CQMap.discard (.ofQ e)) ≈ CQMap.discard (.ofQ d) := by
  refine ⟨rfl, rfl, fun c q p c' q' p' _ hq hp _ _ _ => ?_⟩
  rw [discard_pure, discard_f, iv_congr (q := p = q) eq_comm, ← hc]
  -- entry `(p, q)` of `u ≫ u† = 1`
  exact (sumN_congr fun k _ => mul_comm _ _).trans (hu.2.2 p q (hr ▸ hp : p < u.r) (hr ▸ hq : q < u.r))

/-- **Discarding gives marginals**: discarding the right factor `B` of a map into `A ⊗ B` sums
    the classical index of `B` and traces its quantum index, leaving the `A` index alone. -/
theorem discard_marginal (ρ : CQMap R) (A B : CQTy) (h : ρ.cod = A.tensor B) {ca qa pa : Nat}
    (hc : ca < A.C) (hq : qa < A.Q) (hp : pa < A.Q) (c q p : Nat) :
    (ρ.comp ((CQMap.id A).tensor (CQMap.discard B))).f c q p ca qa pa =
      sum3 B.C B.Q fun x y z =>
        ρ.f c q p (ca * B.C + x) (qa * B.Q + y) (pa * B.Q + z) * iv (y = z) := by
  rw [comp_f, h]
  simp only [CQTy.tensor_C, CQTy.tensor_Q]
  rw [sum3_split, sum3_single hc hq hp]
  · refine sum3_congr fun x y z hx hy hz => ?_
    rw [tensor_f]
    show _ * (iv (_ ∧ _ ∧ _) * iv _) = _
    simp only [discard_dom, discard_cod, CQTy.unit_C, CQTy.unit_Q, Nat.div_one,
      pair_div hx, pair_div hy, pair_div hz, pair_mod hy, pair_mod hz]
    -- the identity factor now reads `iv (ca = ca ∧ qa = qa ∧ pa = pa)`, which `simp only` has
    -- turned into `iv (True ∧ True ∧ True)`; the discard factor is the `iv (y = z)` of the claim
    rw [iv_pos ⟨trivial, trivial, trivial⟩, one_mul]
  · intro x y z _ _ _ hne
    refine sum3_eq_zero fun x' y' z' hx' hy' hz' => ?_
    rw [tensor_f]
    show _ * (iv (_ ∧ _ ∧ _) * iv _) = _
    simp only [discard_dom, discard_cod, CQTy.unit_C, CQTy.unit_Q, Nat.div_one,
      pair_div hx', pair_div hy', pair_div hz', iv_neg hne]
    rw [zero_mul, mul_zero]

/-! ### trace preservation -/

/-- Trace preservation (causality): `A ≫ discard = discard`. -/
def TP (A : CQMap R) : Prop := A.comp (CQMap.discard A.cod) ≈ CQMap.discard A.dom

theorem TP_iff (A : CQMap R) : A.TP ↔ ∀ c q p, c < A.dom.C → q < A.dom.Q → p < A.dom.Q →
    sum3 A.cod.C A.cod.Q (fun x y z => A.f c q p x y z * iv (y = z)) = iv (q = p) := by
  constructor
  · intro h c q p hc hq hp
    exact h.2.2 c q p 0 0 0 hc hq hp Nat.one_pos Nat.one_pos Nat.one_pos
  · intro h
    exact ⟨rfl, rfl, fun c q p _ _ _ hc hq hp _ _ _ => h c q p hc hq hp⟩

theorem TP_normalised {m : CQMap R} (h : m.TP) (hd : m.dom = .unit) (hc : m.cod.Q = 1) :
    sumN m.cod.C (fun x => m.f 0 0 0 x 0 0) = 1 := by
  have h1 : 0 < m.dom.C := by rw [hd]; exact Nat.one_pos
  have h2 : 0 < m.dom.Q := by rw [hd]; exact Nat.one_pos
  have := (TP_iff m).mp h 0 0 0 h1 h2 h2
  rw [hc, iv_pos rfl] at this
  rw [← this]
  unfold sum3
  refine sumN_congr fun x _ => ?_
  rw [sumN_one, sumN_one]
  show _ = m.f 0 0 0 x 0 0 * iv (0 = 0)
  rw [iv_pos rfl, mul_one]

theorem TP_congr {A B : CQMap R} (h : A ≈ B) (hA : A.TP) : B.TP := by
  unfold TP
  rw [← h.1, ← h.2.1]
  exact (comp_congr h.symm (Eqv.rfl' _) h.2.1.symm).trans hA

theorem TP_id (t : CQTy) : (CQMap.id t : CQMap R).TP := id_comp (CQMap.discard t)

/-- The scalar 1 (the doubled value of a phase) is trace-preserving. -/
theorem TP_scalar_one : (CQMap.scalar 1 : CQMap R).TP := by
  rw [TP_iff]
  intro c q p _ hq hp
  obtain rfl : q = 0 := Nat.lt_one_iff.mp hq
  obtain rfl : p = 0 := Nat.lt_one_iff.mp hp
  show sum3 1 1 (fun x y z => (1 : R) * iv (y = z)) = _
  rw [sum3_one, iv_pos rfl, mul_one]

theorem TP_discard (t : CQTy) : (CQMap.discard t : CQMap R).TP := by
  rw [TP_iff]
  intro c q p _ _ _
  show sum3 1 1 (fun x y z => iv (q = p) * iv (y = z)) = _
  rw [sum3_one, iv_pos rfl, mul_one]

/-- `(A ≫ B) ≫ discard = A ≫ (B ≫ discard)`. -/
theorem TP_comp {A B : CQMap R} (h : A.cod = B.dom) (hA : A.TP) (hB : B.TP) : (A.comp B).TP := by
  unfold TP at hA ⊢
  rw [comp_assoc]
  refine (comp_congr (Eqv.rfl' A) hB h).trans ?_
  rw [← h]
  exact hA

theorem discard_tensor (s t : CQTy) :
    (CQMap.discard (s.tensor t) : CQMap R) ≈ (CQMap.discard s).tensor (CQMap.discard t) := by
  refine ⟨rfl, rfl, fun c q p c' q' p' _ _ _ _ _ _ => ?_⟩
  rw [tensor_f, discard_f, discard_f, discard_f]
  exact iv_eq_divmod q p t.Q

/-- By the interchange law. -/
theorem TP_tensor {A B : CQMap R} (hA : A.TP) (hB : B.TP) : (A.tensor B).TP := by
  unfold TP at hA hB ⊢
  refine (comp_congr (Eqv.rfl' _) (discard_tensor A.cod B.cod) rfl).trans ?_
  rw [interchange A (CQMap.discard A.cod) B (CQMap.discard B.cod) rfl]
  exact (tensor_congr hA hB).trans (discard_tensor A.dom B.dom).symm

/-- Measurements, destructive or not, are trace preserving. -/
theorem TP_measure (ds : List Nat) (b : Bool) : (measure ds b : CQMap R).TP := by
  rw [TP_iff]
  intro c q p _ hq hp
  simp only [measure_dom, CQTy.ofQ_Q] at hq hp
  rw [measure_cod_C, measure_cod_Q]
  cases b with
  | true =>
    simp only [if_true]
    rw [sum3_congr (g := fun x y z => iv (q = p ∧ p = x) * iv (y = z))
      (fun x y z hx _ _ => by rw [measure_flat_destructive ds c y z hq hp hx])]
    rw [sum3_iv_mul hp Nat.one_pos Nat.one_pos _ _ fun x y z _ hy hz h =>
        ⟨h.2.symm, Nat.lt_one_iff.mp hy, Nat.lt_one_iff.mp hz⟩, iv_pos rfl, mul_one]
    exact iv_congr ⟨fun h => h.1, fun h => ⟨h, rfl⟩⟩
  | false =>
    simp only [Bool.false_eq_true, if_false]
    rw [sum3_congr (g := fun x y z => iv (q = p ∧ p = x ∧ x = y ∧ y = z) * iv (y = z))
      (fun x y z hx hy hz => by rw [measure_flat_nondestructive ds c hq hp hx hy hz])]
    rw [sum3_iv_mul hp hp hp _ _ fun x y z _ _ _ h => by
        obtain ⟨_, rfl, rfl, rfl⟩ := h
        exact ⟨rfl, rfl, rfl⟩,
      iv_pos rfl, mul_one]
    exact iv_congr ⟨fun h => h.1, fun h => ⟨h, rfl, rfl, rfl⟩⟩

/-- A classical gate whose rows (`array[input, ·]`) sum to one — a stochastic map — is trace
    preserving. -/
theorem TP_classical (d e : CQTy) (u : Mat R) (hd : d.Q = 1) (he : e.Q = 1)
    (hu : ∀ i, i < d.C → sumN e.C (fun j => u.f i j) = 1) : (CQMap.ofMat d e u).TP := by
  rw [TP_iff]
  intro c q p hc hq hp
  simp only [ofMat_dom, ofMat_cod, hd, he, Nat.lt_one_iff] at hc hq hp ⊢
  subst hq hp
  show sum3 e.C 1 (fun x y z => u.f (flat d.Q c 0 0) (flat e.Q x y z) * iv (y = z)) = _
  -- both quantum sums have the single term `y = z = 0`, where `flat 1 x 0 0 = x` and the
  -- bracket is 1: what is left is the row sum of `u`
  simp only [sum3, sumN_one, hd, he, flat, Nat.add_zero, iv_pos, mul_one]
  exact hu c hc

theorem swap_f_eq {a b i : Nat} (hi : i < a * b) (j : Nat) :
    (Mat.swap a b : Mat R).f i j = iv (j = (i % b) * a + i / b) := by
  show iv _ = iv _
  apply iv_congr
  have ha : i / b < a := div_lt_of_lt_mul' hi
  constructor
  · rintro ⟨h1, h2⟩
    rw [h1, h2, Nat.div_add_mod']
  · rintro rfl
    rw [pair_mod ha, pair_div ha]
    exact ⟨rfl, rfl⟩

theorem swap_perm_inj {a b i j : Nat} (hi : i < a * b) (hj : j < a * b)
    (h : (i % b) * a + i / b = (j % b) * a + j / b) : i = j := by
  have h1 := congrArg (· / a) h
  have h2 := congrArg (· % a) h
  simp only [pair_div (div_lt_of_lt_mul' hi), pair_div (div_lt_of_lt_mul' hj),
    pair_mod (div_lt_of_lt_mul' hi), pair_mod (div_lt_of_lt_mul' hj)] at h1 h2
  exact (eq_iff_divmod i j b).mpr ⟨h2, h1⟩

/-- Swaps of classical-quantum types are trace preserving. -/
theorem TP_swap (l r : CQTy) : (CQMap.swap l r : CQMap R).TP := by
  rw [TP_iff]
  intro c q p (hc : c < (l.tensor r).C) (hq : q < (l.tensor r).Q) (hp : p < (l.tensor r).Q)
  show sum3 (r.tensor l).C (r.tensor l).Q _ = _
  simp only [CQTy.tensor_C, CQTy.tensor_Q] at hc hq hp ⊢
  have bound : ∀ {a b i : Nat}, i < a * b → (i % b) * a + i / b < b * a := fun h =>
    pair_lt (mod_lt_of_lt_mul h) (div_lt_of_lt_mul' h)
  rw [sum3_congr (g := fun x y z =>
      iv (x = (c % r.C) * l.C + c / r.C ∧ y = (q % r.Q) * l.Q + q / r.Q ∧
        z = (p % r.Q) * l.Q + p / r.Q) * iv (y = z))
    (fun x y z _ _ _ => by
      show (Mat.swap l.C r.C).f c x * (Mat.swap l.Q r.Q).f q y * (Mat.swap l.Q r.Q).f p z * _ = _
      rw [swap_f_eq hc, swap_f_eq hq, swap_f_eq hp, mul_assoc (iv _), ← iv_and, ← iv_and])]
  rw [sum3_iv_mul (bound hc) (bound hq) (bound hp) _ _ fun x y z _ _ _ h => h,
    iv_pos ⟨rfl, rfl, rfl⟩, one_mul]
  exact iv_congr ⟨fun h => swap_perm_inj hq hp h, fun h => by rw [h]⟩

theorem dagger_pure (d e : List Nat) (u : Mat R) :
    (CQMap.pure d e u).dagger = CQMap.pure e d u.dagger := by
  refine ext rfl rfl fun c q p c' q' p' => ?_
  show star (star (u.f q' q) * u.f p' p) = star (star (u.f q' q)) * star (u.f p' p)
  rw [star_mul', star_star]

end CQMap

/-! ### the functor on types and boxes -/

theorem F_append (s t : WTy) : F (s ++ t) = (F s).tensor (F t) := by
  induction s with
  | nil => simp [F]
  | cons w ws ih => simp [F, ih, CQTy.tensor_assoc]

def allQ (t : WTy) : Prop := ∀ w ∈ t, ∃ d, w = Wire.qubit d

theorem allQ_append {s t : WTy} : allQ (s ++ t) ↔ allQ s ∧ allQ t := List.forall_mem_append

theorem F_allQ {t : WTy} (h : allQ t) : F t = .ofQ (dims t) := by
  induction t with
  | nil => rfl
  | cons w ws ih =>
    obtain ⟨d, rfl⟩ := h w (List.mem_cons_self)
    have := ih (fun w hw => h w (List.mem_cons_of_mem _ hw))
    simp [F, this, CQTy.tensor, CQTy.ofQ, Wire.cdim, Wire.qdim, dims, Wire.dim]

/-- "On qudits only", in the terms of `CBox.Typed` / `CBox.Listed.isometry` (no classical wire,
    quantum size `(F t).Q`) and in the terms of `LBox.Pure.quantum` / `LBox.NonMixed.quantum`
    (`allQ t`, size `prodL (dims t)`): the second gives the first. -/
theorem allQ_shape {t : WTy} (h : allQ t) : (F t).c = [] ∧ (F t).Q = prodL (dims t) := by
  rw [F_allQ h]
  exact ⟨rfl, rfl⟩

theorem dims_append (s t : WTy) : dims (s ++ t) = dims s ++ dims t := List.map_append

def allB (t : WTy) : Prop := ∀ w ∈ t, ∃ d, w = Wire.bit d

theorem allB_append {s t : WTy} : allB (s ++ t) ↔ allB s ∧ allB t := List.forall_mem_append

theorem F_allB {t : WTy} (h : allB t) : F t = .ofC (dims t) := by
  induction t with
  | nil => rfl
  | cons w ws ih =>
    obtain ⟨d, rfl⟩ := h w (List.mem_cons_self)
    have := ih (fun w hw => h w (List.mem_cons_of_mem _ hw))
    simp [F, this, CQTy.tensor, CQTy.ofC, Wire.cdim, Wire.qdim, dims, Wire.dim]

theorem F_qubits (n : Nat) : F (qubits n) = .ofQ (List.replicate n 2) :=
  (F_allQ fun _ hw => ⟨2, List.eq_of_mem_replicate hw⟩).trans (congrArg CQTy.ofQ List.map_replicate)

theorem F_bits (n : Nat) : F (bits n) = .ofC (List.replicate n 2) :=
  (F_allB fun _ hw => ⟨2, List.eq_of_mem_replicate hw⟩).trans (congrArg CQTy.ofC List.map_replicate)

namespace CBox

/-- Shape conditions the Python classes guarantee: quantum boxes sit on qudits only. -/
def Typed : CBox R → Prop
  | quantum d c _ => (F d).c = [] ∧ (F c).c = []
  | _ => True

theorem arMeasure_dom (n : Nat) (d o : Bool) : (arMeasure n d o : CQMap R).dom = F (measureDom n o) := by
  cases o <;>
    simp [arMeasure, measureDom, F_append, F_qubits, F_bits, CQTy.tensor, CQTy.ofQ, CQTy.ofC]

theorem arMeasure_cod (n : Nat) (d o : Bool) : (arMeasure n d o : CQMap R).cod = F (measureCod n d) := by
  cases o <;> cases d <;>
    simp [arMeasure, measureDom, measureCod, F_append, F_qubits, F_bits, CQMap.measure_cod,
      CQTy.tensor, CQTy.ofQ, CQTy.ofC, CQTy.unit]

theorem ar_type (b : CBox R) (h : b.Typed) : b.ar.dom = F b.dom ∧ b.ar.cod = F b.cod := by
  cases b with
  | measure n d o => exact ⟨arMeasure_dom n d o, arMeasure_cod n d o⟩
  | encode n c r => exact ⟨arMeasure_cod n c r, arMeasure_dom n c r⟩
  | quantum d c u => exact ⟨CQTy.ofQ_q h.1, CQTy.ofQ_q h.2⟩
  | swap l r => exact ⟨(F_append l r).symm, (F_append r l).symm⟩
  | _ => exact ⟨rfl, rfl⟩

/-- The box kinds of the trace-preservation clause of C12: state preparations and unitaries
    (pure isometries), measurements (every variant), discards, stochastic classical gates, and
    swaps. -/
inductive Listed : CBox R → Prop
  | discard (d : WTy) : Listed (.discard d)
  | measure (n : Nat) (d o : Bool) : Listed (.measure n d o)
  | isometry (d c : WTy) (u : Mat R) : (F d).c = [] → (F c).c = [] → u.r = (F d).Q → u.c = (F c).Q →
      u.Isometry → Listed (.quantum d c u)
  | stochastic (d c : WTy) (u : Mat R) : (F d).Q = 1 → (F c).Q = 1 →
      (∀ i, i < (F d).C → sumN (F c).C (fun j => u.f i j) = 1) → Listed (.classical d c u)
  | swap (l r : WTy) : Listed (.swap l r)
  /-- a global phase: a pure scalar box of modulus one (`scalar(-1)`, `scalar(1j)`, `sqrt(-1)`, whose
      value is `i`): a unitary on no qubit. -/
  | phase (z : R) : star z * z = 1 → Listed (.scalar false z)

theorem Listed.typed {b : CBox R} (h : b.Listed) : b.Typed := by
  cases h with
  | isometry d c u h1 h2 => exact ⟨h1, h2⟩
  | _ => trivial

theorem Listed.tp {b : CBox R} (h : b.Listed) : b.ar.TP := by
  cases h with
  | discard d => exact CQMap.TP_discard _
  | measure n d o =>
    show (arMeasure n d o).TP
    unfold arMeasure
    split
    · exact CQMap.TP_tensor (CQMap.TP_measure _ _) (CQMap.TP_discard _)
    · exact CQMap.TP_measure _ _
  | isometry d c u _ _ hr hc hu => exact CQMap.discard_isometry _ _ u hr hc hu
  | stochastic d c u hd hc hu => exact CQMap.TP_classical _ _ u hd hc hu
  | swap l r => exact CQMap.TP_swap _ _
  | phase z hz =>
    show (CQMap.scalar (star z * z) : CQMap R).TP
    rw [hz]
    exact CQMap.TP_scalar_one

end CBox

namespace LBox

/-- Listed box occurrences: a listed box, or the dagger (`is_dagger` flag) of a unitary. -/
inductive Listed : LBox R → Prop
  | plain (b : CBox R) : b.Listed → Listed ⟨false, b⟩
  | unitaryDagger (d c : WTy) (u : Mat R) : (F d).c = [] → (F c).c = [] → u.r = (F d).Q →
      u.c = (F c).Q → u.dagger.Isometry → Listed ⟨true, .quantum d c u⟩

theorem Listed.typed {b : LBox R} (h : b.Listed) : b.box.Typed := by
  cases h with
  | plain b hb => exact hb.typed
  | unitaryDagger d c u h1 h2 => exact ⟨h1, h2⟩

theorem eval_type (b : LBox R) (h : b.box.Typed) : b.eval.dom = F b.dom ∧ b.eval.cod = F b.cod := by
  unfold eval dom cod
  split
  · exact (b.box.ar_type h).symm
  · exact b.box.ar_type h

theorem Listed.tp {b : LBox R} (h : b.Listed) : b.eval.TP := by
  cases h with
  | plain b hb => exact hb.tp
  | unitaryDagger d c u _ _ hr hc hu =>
    show (CQMap.pure (F d).q (F c).q u).dagger.TP
    rw [CQMap.dagger_pure]
    exact CQMap.discard_isometry _ _ _ hc hr hu

end LBox

/-! ### whole circuits -/

/-- Every box finds its domain at its offset (what the scanning constructor of circuits checks;
    property C01). -/
def WT : WTy → List (Nat × LBox R) → Prop
  | _, [] => True
  | scan, (off, b) :: rest =>
    (scan.drop off).take b.dom.length = b.dom ∧ WT (scanStep scan off b) rest

theorem scan_split {scan : WTy} {off : Nat} {b : LBox R}
    (h : (scan.drop off).take b.dom.length = b.dom) :
    scan = scan.take off ++ b.dom ++ scan.drop (off + b.dom.length) := by
  conv_lhs => rw [← List.take_append_drop off scan, ← List.take_append_drop b.dom.length (scan.drop off)]
  rw [h, List.drop_drop, List.append_assoc]

/-- A layer is `id ⊗ box ⊗ id`; the two tabulations do not change it. -/
theorem layerMap_eqv (l r : WTy) (b : LBox R) :
    layerMap l b r ≈ ((CQMap.id (F l)).tensor b.eval).tensor (CQMap.id (F r)) :=
  (CQMap.memo_eqv _).trans (CQMap.tensor_congr
    (CQMap.tensor_congr (CQMap.Eqv.rfl' _) (CQMap.memo_eqv _)) (CQMap.Eqv.rfl' _))

theorem layerMap_type (l r : WTy) (b : LBox R) (h : b.box.Typed) :
    (layerMap l b r).dom = F (l ++ b.dom ++ r) ∧ (layerMap l b r).cod = F (l ++ b.cod ++ r) := by
  rw [(layerMap_eqv l r b).1, (layerMap_eqv l r b).2.1, F_append, F_append, F_append, F_append,
    ← (b.eval_type h).1, ← (b.eval_type h).2]
  exact ⟨rfl, rfl⟩

theorem layerMap_TP (l r : WTy) (b : LBox R) (h : b.eval.TP) : (layerMap l b r).TP :=
  CQMap.TP_congr (layerMap_eqv l r b).symm
    (CQMap.TP_tensor (CQMap.TP_tensor (CQMap.TP_id _) h) (CQMap.TP_id _))

theorem evalMixedGo_cons {acc : CQMap R} {scan : WTy} {off : Nat} {b : LBox R}
    (rest : List (Nat × LBox R))
    (h : (layerMap (scan.take off) b (scan.drop (off + b.dom.length))).dom = acc.cod) :
    evalMixedGo acc scan ((off, b) :: rest) =
      evalMixedGo (acc.comp (layerMap (scan.take off) b (scan.drop (off + b.dom.length)))).memo
        (scanStep scan off b) rest := by
  rw [evalMixedGo, CQMap.comp?, h, if_pos rfl, if_pos rfl]

/-- **trace_preserving**, the induction over the boxes of a circuit: if the map accumulated so
    far is trace preserving and every remaining box occurrence is trace preserving (and typed),
    the evaluation succeeds and its result is trace preserving, with the expected type. -/
theorem evalMixedGo_TP (boxes : List (Nat × LBox R)) :
    ∀ (acc : CQMap R) (scan : WTy), acc.cod = F scan → acc.TP → WT scan boxes →
      (∀ ob ∈ boxes, ob.2.box.Typed ∧ ob.2.eval.TP) →
      ∃ m, evalMixedGo acc scan boxes = .ok m ∧ m.TP ∧ m.dom = acc.dom ∧
        m.cod = F (finalScan scan boxes) := by
  induction boxes with
  | nil => intro acc scan hcod hTP _ _; exact ⟨acc, rfl, hTP, rfl, hcod⟩
  | cons ob rest ih =>
    obtain ⟨off, b⟩ := ob
    intro acc scan hcod hTP hWT hb
    obtain ⟨hty, htp⟩ := hb (off, b) (List.mem_cons_self)
    have hdom : (layerMap (scan.take off) b (scan.drop (off + b.dom.length))).dom = acc.cod := by
      rw [(layerMap_type _ _ b hty).1, ← scan_split hWT.1, hcod]
    rw [evalMixedGo_cons rest hdom]
    exact ih _ (scanStep scan off b)
      (by rw [CQMap.memo_cod, CQMap.comp_cod]; exact (layerMap_type _ _ b hty).2)
      (CQMap.TP_congr (CQMap.memo_eqv _).symm (CQMap.TP_comp hdom.symm hTP (layerMap_TP _ _ b htp)))
      hWT.2 (fun ob hob => hb ob (List.mem_cons_of_mem _ hob))

/-- **trace_preserving** for circuits. -/
theorem Circuit.evalMixed_TP (c : Circuit R) (hWT : WT c.dom c.boxes)
    (hb : ∀ ob ∈ c.boxes, ob.2.box.Typed ∧ ob.2.eval.TP) :
    ∃ m, c.evalMixed = .ok m ∧ m.TP ∧ m.dom = F c.dom ∧ m.cod = F c.cod :=
  evalMixedGo_TP c.boxes (CQMap.id (F c.dom)) c.dom rfl (CQMap.TP_id _) hWT hb

namespace Mat

@[simp] theorem comp_r (A B : Mat R) : (A.comp B).r = A.r := rfl
@[simp] theorem comp_c (A B : Mat R) : (A.comp B).c = B.c := rfl
@[simp] theorem kron_r (A B : Mat R) : (A.kron B).r = A.r * B.r := rfl
@[simp] theorem kron_c (A B : Mat R) : (A.kron B).c = A.c * B.c := rfl

theorem comp_congr {A A' B B' : Mat R} (hA : A ≈ₘ A') (hB : B ≈ₘ B') (h : A.c = B.r) :
    A.comp B ≈ₘ A'.comp B' := by
  refine ⟨hA.1, hB.2.1, fun i k hi hk => ?_⟩
  show sumN A.c _ = sumN A'.c _
  rw [← hA.2.1]
  exact sumN_congr fun j hj => by rw [hA.2.2 i j hi hj, hB.2.2 j k (h ▸ hj) hk]

theorem kron_congr {A A' B B' : Mat R} (hA : A ≈ₘ A') (hB : B ≈ₘ B') : A.kron B ≈ₘ A'.kron B' := by
  refine ⟨by rw [kron_r, kron_r, hA.1, hB.1], by rw [kron_c, kron_c, hA.2.1, hB.2.1],
    fun i j hi hj => ?_⟩
  show A.f _ _ * B.f _ _ = A'.f _ _ * B'.f _ _
  rw [← hB.1, ← hB.2.1, hA.2.2 _ _ (div_lt_of_lt_mul' hi) (div_lt_of_lt_mul' hj),
    hB.2.2 _ _ (mod_lt_of_lt_mul hi) (mod_lt_of_lt_mul hj)]

theorem dagger_congr {A A' : Mat R} (hA : A ≈ₘ A') : A.dagger ≈ₘ A'.dagger :=
  ⟨hA.2.1, hA.1, fun i j hi hj => by
    show star _ = star _
    rw [hA.2.2 j i hj hi]⟩

/-- A layer `1 ⊗ M ⊗ 1` of a plain evaluation; the two tabulations do not change it. -/
theorem layer_eqv (n m : Nat) (M : Mat R) :
    (((Mat.id n).kron M.memo).kron (Mat.id m)).memo ≈ₘ ((Mat.id n).kron M).kron (Mat.id m) :=
  (memo_eqv _).trans (kron_congr (kron_congr (Eqv.rfl' _) (memo_eqv _)) (Eqv.rfl' _))

end Mat

/-! ### clause (a) for whole circuits: the mixed evaluation of a pure circuit is the doubled
    pure evaluation -/

namespace CQMap

theorem pure_congr (d e : List Nat) {u v : Mat R} (h : u ≈ₘ v) (hr : v.r = prodL d)
    (hc : v.c = prodL e) : CQMap.pure d e u ≈ CQMap.pure d e v := by
  refine ⟨rfl, rfl, fun c q p c' q' p' _ hq hp _ hq' hp' => ?_⟩
  rw [pure_dom, CQTy.ofQ_Q, ← hr, ← h.1] at hq hp
  rw [pure_cod, CQTy.ofQ_Q, ← hc, ← h.2.1] at hq' hp'
  rw [pure_f, pure_f, h.2.2 q q' hq hq', h.2.2 p p' hp hp']

theorem pure_id (d : List Nat) : CQMap.pure d d (Mat.id (prodL d) : Mat R) ≈ CQMap.id (.ofQ d) := by
  refine ⟨rfl, rfl, fun c q p c' q' p' hc _ _ hc' _ _ => ?_⟩
  obtain rfl : c = 0 := Nat.lt_one_iff.mp hc
  obtain rfl : c' = 0 := Nat.lt_one_iff.mp hc'
  show star (iv (q = q')) * iv (p = p') = iv (0 = 0 ∧ q = q' ∧ p = p')
  rw [star_iv, ← iv_and]
  exact iv_congr ⟨fun h => ⟨rfl, h⟩, fun h => h.2⟩

theorem _root_.DV.CQ.Mat.star_swap_f (a b i j : Nat) :
    star ((Mat.swap a b : Mat R).f i j) = (Mat.swap a b).f i j := star_iv _

theorem swap_pure (l r : List Nat) :
    (CQMap.swap (.ofQ l) (.ofQ r) : CQMap R) ≈
      CQMap.pure (l ++ r) (r ++ l) (Mat.swap (prodL l) (prodL r)) := by
  refine ⟨rfl, rfl, fun c q p c' q' p' hc _ _ hc' _ _ => ?_⟩
  obtain rfl : c = 0 := Nat.lt_one_iff.mp hc
  obtain rfl : c' = 0 := Nat.lt_one_iff.mp hc'
  have e : (Mat.swap (CQTy.ofQ l).C (CQTy.ofQ r).C : Mat R).f 0 0 = 1 :=
    iv_pos ⟨(Nat.zero_div _).trans (Nat.zero_mod _).symm, (Nat.zero_mod _).trans (Nat.zero_div _).symm⟩
  show (Mat.swap _ _).f 0 0 * (Mat.swap (prodL l) (prodL r)).f q q' * _ =
    star ((Mat.swap (prodL l) (prodL r)).f q q') * _
  rw [e, one_mul, Mat.star_swap_f]
  rfl

/-- One round of the evaluation of a pure circuit: composing doubled maps, and tabulating on
    either side. -/
theorem pure_step {acc L : CQMap R} {d m e : List Nat} {u v : Mat R}
    (hacc : acc ≈ CQMap.pure d m u) (hL : L ≈ CQMap.pure m e v) (hr : u.r = prodL d)
    (hc : u.c = prodL m) (hc' : v.c = prodL e) :
    (acc.comp L).memo ≈ CQMap.pure d e (u.comp v).memo := by
  refine (memo_eqv _).trans ((comp_congr hacc hL (hacc.2.1.trans hL.1.symm)).trans ?_)
  rw [← pure_comp d m e u v hc]
  exact (pure_congr d e (Mat.memo_eqv (u.comp v)) hr hc').symm

end CQMap

/-- A box of a pure circuit: its mixed interpretation is the doubled pure one. -/
structure LBox.Pure (b : LBox R) : Prop where
  dom : allQ b.dom
  cod : allQ b.cod
  r : b.evalPure.r = prodL (dims b.dom)
  c : b.evalPure.c = prodL (dims b.cod)
  doubled : b.eval ≈ CQMap.pure (dims b.dom) (dims b.cod) b.evalPure

theorem layerPure_c (l r : WTy) (b : LBox R) (hb : b.Pure) :
    (layerPure l b r).c = prodL (dims (l ++ b.cod ++ r)) := by
  rw [layerPure, Mat.memo_c, Mat.kron_c, Mat.kron_c, Mat.memo_c, hb.c, dims_append, dims_append,
    prodL_append, prodL_append]
  rfl

theorem layer_doubled (l r : WTy) (b : LBox R) (hl : allQ l) (hr : allQ r) (hb : b.Pure) :
    layerMap l b r ≈ CQMap.pure (dims (l ++ b.dom ++ r)) (dims (l ++ b.cod ++ r)) (layerPure l b r) := by
  rw [dims_append, dims_append, dims_append, dims_append]
  -- the doubled map of the pure layer, without its tabulations, factor by factor
  have e : CQMap.pure (dims l ++ dims b.dom ++ dims r) (dims l ++ dims b.cod ++ dims r)
        (layerPure l b r) ≈
      ((CQMap.pure (dims l) (dims l) (Mat.id (prodL (dims l)))).tensor
        (CQMap.pure (dims b.dom) (dims b.cod) b.evalPure)).tensor
        (CQMap.pure (dims r) (dims r) (Mat.id (prodL (dims r)))) := by
    rw [← CQMap.pure_tensor _ _ _ _ _ _ hb.r hb.c, ← CQMap.pure_tensor _ _ _ _ _ _ rfl rfl]
    refine CQMap.pure_congr _ _ (Mat.layer_eqv _ _ _) ?_ ?_
    · rw [prodL_append, prodL_append, ← hb.r]; rfl
    · rw [prodL_append, prodL_append, ← hb.c]; rfl
  refine ((layerMap_eqv l r b).trans
    (CQMap.tensor_congr (CQMap.tensor_congr ?_ hb.doubled) ?_)).trans e.symm
  · rw [F_allQ hl]; exact (CQMap.pure_id _).symm
  · rw [F_allQ hr]; exact (CQMap.pure_id _).symm

/-- Clause (a) of C12 for whole circuits, by induction over the boxes. -/
theorem eval_doubled_go (boxes : List (Nat × LBox R)) :
    ∀ (acc : CQMap R) (accP : Mat R) (dom scan : WTy), allQ scan →
      acc ≈ CQMap.pure (dims dom) (dims scan) accP → accP.r = prodL (dims dom) →
      accP.c = prodL (dims scan) → WT scan boxes → (∀ ob ∈ boxes, ob.2.Pure) →
      ∃ m, evalMixedGo acc scan boxes = .ok m ∧
        m ≈ CQMap.pure (dims dom) (dims (finalScan scan boxes)) (evalPureGo accP scan boxes) := by
  induction boxes with
  | nil => intro acc accP dom scan _ h _ _ _ _; exact ⟨acc, rfl, h⟩
  | cons ob rest ih =>
    obtain ⟨off, b⟩ := ob
    intro acc accP dom scan hscan hacc hr hc hWT hb
    have hp := hb (off, b) (List.mem_cons_self)
    have hsplit := scan_split hWT.1
    have hq : allQ (scan.take off) ∧ allQ b.dom ∧ allQ (scan.drop (off + b.dom.length)) := by
      rw [hsplit, allQ_append, allQ_append] at hscan
      exact ⟨hscan.1.1, hscan.1.2, hscan.2⟩
    have hL := layer_doubled (scan.take off) (scan.drop (off + b.dom.length)) b hq.1 hq.2.2 hp
    rw [← hsplit] at hL
    rw [evalMixedGo_cons rest (hL.1.trans hacc.2.1.symm), evalPureGo, finalScan]
    exact ih _ _ dom _ (allQ_append.mpr ⟨allQ_append.mpr ⟨hq.1, hp.cod⟩, hq.2.2⟩)
      (CQMap.pure_step hacc hL hr hc (layerPure_c _ _ b hp))
      (by rw [Mat.memo_r, Mat.comp_r, hr]) (by rw [Mat.memo_c, Mat.comp_c, layerPure_c _ _ b hp]; rfl) hWT.2
      (fun ob hob => hb ob (List.mem_cons_of_mem _ hob))

/-! ### quantum boxes and pure scalars are `Pure` -/

/-- The flagged dagger of a pure box is pure (`cat.Functor.__call__` daggers the result). -/
theorem LBox.Pure.dagger {box : CBox R} (h : LBox.Pure ⟨false, box⟩) : LBox.Pure ⟨true, box⟩ := by
  refine ⟨h.cod, h.dom, h.c, h.r, ?_⟩
  show box.ar.dagger ≈ CQMap.pure (dims box.cod) (dims box.dom) box.arPure.dagger
  rw [← CQMap.dagger_pure]
  exact CQMap.dagger_congr h.doubled

theorem LBox.Pure.quantum (dag : Bool) (d c : WTy) (u : Mat R) (hd : allQ d) (hc : allQ c)
    (hr : u.r = prodL (dims d)) (hcc : u.c = prodL (dims c)) : LBox.Pure ⟨dag, .quantum d c u⟩ := by
  have h : LBox.Pure ⟨false, .quantum d c u⟩ := by
    refine ⟨hd, hc, hr, hcc, ?_⟩
    show CQMap.pure (F d).q (F c).q u ≈ CQMap.pure (dims d) (dims c) u
    rw [F_allQ hd, F_allQ hc]
    exact CQMap.Eqv.rfl' _
  cases dag
  · exact h
  · exact h.dagger

theorem LBox.Pure.scalar (dag : Bool) (z : R) : LBox.Pure ⟨dag, .scalar false z⟩ := by
  have h0 : allQ ([] : WTy) := fun _ h => by cases h
  have h : LBox.Pure ⟨false, .scalar false z⟩ :=
    ⟨h0, h0, rfl, rfl, rfl, rfl, fun _ _ _ _ _ _ _ _ _ _ _ _ => rfl⟩
  cases dag
  · exact h
  · exact h.dagger

end DV.CQ
