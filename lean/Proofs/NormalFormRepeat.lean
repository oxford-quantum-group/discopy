/-
  Proofs/NormalFormRepeat.lean — C06: `normal_form` (rewriting.py:127-152) keeps a cache of ALL
  the rewrite steps it has been handed and raises NotImplementedError as soon as the normalizer
  yields a diagram that is in the cache — a repeat of ANY earlier step.  The cache starts empty
  (`normalFormLoop … []`, rewriting.py:146) and the input is not a step, so a first return to the
  input is not itself a repeat; and the step function is not injective: the trace of a
  disconnected diagram may leave the input along a tail and enter a cycle that does not contain it.

  * `normalFormLoop_of_trace`: the model's `normal_form` is a function of the model's `normalize`
    trace: `.error .notImpl` iff some step of the trace equals (`==`) an earlier step, otherwise
    the last step of a finished trace, otherwise (trace not finished within the fuel) `.error .fuel`.
  * `hasRepeat_iff`: the cache test, index form (`∃ i < j, steps[i] == steps[j]`).
  * `normalizeTrace_length`: an unfinished trace has at least one step per pass.
  * `exists_repeat_of_finite`: pigeonhole — more steps than there are diagrams to visit.
-/
import Proofs.Normalize
import Proofs.Laws
import Batteries.Data.List.Perm

namespace DV

/-- `firstRepeat` finds a step iff `hasRepeat` holds (the driver reports the index, the theorems
    speak about `hasRepeat`). -/
theorem firstRepeat_isSome (cache steps : List Diagram) (k : Nat) :
    (firstRepeat cache steps k).isSome = hasRepeat cache steps := by
  induction steps generalizing cache k with
  | nil => rfl
  | cons s ss ih =>
    simp only [firstRepeat, hasRepeat]
    by_cases h : (cache.any fun c => c.eqv s) = true
    · simp [h]
    · simp [h, ih]

theorem nfWalk_eq (cache steps : List Diagram) :
    normalFormLoop.walk cache steps =
      if hasRepeat cache steps then .error .notImpl else .ok (steps.reverse ++ cache) := by
  induction steps generalizing cache with
  | nil => simp [normalFormLoop.walk, hasRepeat]
  | cons s ss ih =>
    simp only [normalFormLoop.walk, hasRepeat]
    by_cases h : (cache.any fun c => c.eqv s) = true
    · simp [h]
    · simp only [h, Bool.false_eq_true, if_false, Bool.false_or]
      rw [ih]
      simp

theorem hasRepeat_append (cache xs ys : List Diagram) :
    hasRepeat cache (xs ++ ys) = (hasRepeat cache xs || hasRepeat (xs.reverse ++ cache) ys) := by
  induction xs generalizing cache with
  | nil => simp [hasRepeat]
  | cons x xs ih =>
    simp only [List.cons_append, hasRepeat, ih, List.reverse_cons, List.append_assoc,
      List.cons_append, List.nil_append, Bool.or_assoc]

/-- Index form of the cache test. -/
theorem hasRepeat_iff (cache steps : List Diagram) :
    hasRepeat cache steps = true ↔
      ∃ (j : Nat) (hj : j < steps.length),
        (∃ c ∈ cache, c.eqv steps[j] = true) ∨
        (∃ (i : Nat) (hi : i < j), (steps[i]'(by omega)).eqv steps[j] = true) := by
  induction steps generalizing cache with
  | nil => simp [hasRepeat]
  | cons s ss ih =>
    simp only [hasRepeat, Bool.or_eq_true, List.any_eq_true, ih]
    constructor
    · rintro (⟨c, hc, he⟩ | ⟨j, hj, h⟩)
      · exact ⟨0, by simp, Or.inl ⟨c, hc, by simpa using he⟩⟩
      · refine ⟨j + 1, by simp; omega, ?_⟩
        rcases h with ⟨c, hc, he⟩ | ⟨i, hi, he⟩
        · rcases List.mem_cons.mp hc with rfl | hc
          · exact Or.inr ⟨0, by omega, by simpa using he⟩
          · exact Or.inl ⟨c, hc, by simpa using he⟩
        · exact Or.inr ⟨i + 1, by omega, by simpa using he⟩
    · rintro ⟨j, hj, h⟩
      cases j with
      | zero =>
        rcases h with ⟨c, hc, he⟩ | ⟨i, hi, _⟩
        · exact Or.inl ⟨c, hc, by simpa using he⟩
        · omega
      | succ j =>
        right
        refine ⟨j, by simpa using hj, ?_⟩
        rcases h with ⟨c, hc, he⟩ | ⟨i, hi, he⟩
        · exact Or.inl ⟨c, List.mem_cons_of_mem _ hc, by simpa using he⟩
        · cases i with
          | zero => exact Or.inl ⟨s, List.mem_cons_self, by simpa using he⟩
          | succ i => exact Or.inr ⟨i, by omega, by simpa using he⟩

/-- `normal_form` as a function of the `normalize` trace (same fuel = number of passes). -/
theorem normalFormLoop_of_trace {left : Bool} {fuel : Nat} {d : Diagram}
    {cache acc all : List Diagram} {fin : Bool}
    (h : normalizeTrace left fuel d acc = .ok (all, fin)) :
    ∃ steps, all = acc ++ steps ∧
      normalFormLoop left fuel d cache =
        if hasRepeat cache steps then .error .notImpl
        else if fin then .ok (lastOr d steps) else .error .fuel := by
  induction fuel generalizing d cache acc with
  | zero =>
    simp only [normalizeTrace, Except.ok.injEq, Prod.mk.injEq] at h
    obtain ⟨rfl, rfl⟩ := h
    exact ⟨[], by simp, by simp [normalFormLoop, hasRepeat]⟩
  | succ fuel ih =>
    simp only [normalizeTrace] at h
    simp only [normalFormLoop]
    split at h
    · cases h
    · rename_i d' ps hpass
      split at h
      · rename_i hempty
        simp only [Except.ok.injEq, Prod.mk.injEq] at h
        obtain ⟨rfl, rfl⟩ := h
        exact ⟨[], by simp, by simp [hempty, hasRepeat, lastOr]⟩
      · rename_i hne
        obtain ⟨steps', hall, hloop⟩ := ih (cache := ps.reverse ++ cache) h
        refine ⟨ps ++ steps', by rw [hall, List.append_assoc], ?_⟩
        have hd' : lastOr d ps = d' := (normalizePass_trace (d0 := d) (acc := []) rfl rfl hpass).2
        simp only [hne, Bool.false_eq_true, if_false, nfWalk_eq, hasRepeat_append]
        by_cases hr : hasRepeat cache ps = true
        · simp [hr]
        · simp only [hr, Bool.false_eq_true, if_false, Bool.false_or]
          rw [hloop, lastOr_append, hd']

/-- A trace that did not finish within `fuel` passes has at least `fuel` steps. -/
theorem normalizeTrace_length {left : Bool} {fuel : Nat} {d : Diagram} {acc all : List Diagram}
    (h : normalizeTrace left fuel d acc = .ok (all, false)) : acc.length + fuel ≤ all.length := by
  induction fuel generalizing d acc with
  | zero =>
    simp only [normalizeTrace, Except.ok.injEq, Prod.mk.injEq] at h
    rw [← h.1]; omega
  | succ fuel ih =>
    simp only [normalizeTrace] at h
    split at h
    · cases h
    · rename_i d' ps hpass
      split at h
      · simp at h
      · rename_i hne
        have := ih h
        have hps : 0 < ps.length := by
          cases ps with
          | nil => simp at hne
          | cons _ _ => simp
        simp only [List.length_append] at this
        omega

/-- What `==` compares (monoidal.py:438-442). -/
def Diagram.key (d : Diagram) : Ty × Ty × List Box × List Int := (d.dom, d.cod, d.boxes, d.offsets)

theorem Diagram.eqv_iff_key {a b : Diagram} : a.eqv b = true ↔ a.key = b.key := by
  rw [Diagram.eqv_iff]
  simp [Diagram.key]

/-- Pigeonhole: a list of diagrams all `==` to members of `U`, longer than `U`, repeats. -/
theorem exists_repeat_of_finite {steps U : List Diagram}
    (hU : ∀ s ∈ steps, ∃ u ∈ U, u.eqv s = true) (hlen : U.length < steps.length) :
    ∃ (i j : Nat) (hij : i < j) (hj : j < steps.length),
      (steps[i]'(by omega)).eqv steps[j] = true := by
  have hsub : steps.map Diagram.key ⊆ U.map Diagram.key := by
    intro k hk
    obtain ⟨s, hs, rfl⟩ := List.mem_map.mp hk
    obtain ⟨u, hu, he⟩ := hU s hs
    exact List.mem_map.mpr ⟨u, hu, Diagram.eqv_iff_key.mp he⟩
  have hnd : ¬ (steps.map Diagram.key).Nodup := by
    intro hn
    have := (List.subperm_of_subset hn hsub).length_le
    simp at this
    omega
  rw [List.Nodup, List.pairwise_iff_getElem] at hnd
  simp only [Classical.not_forall, ne_eq, Classical.not_not] at hnd
  obtain ⟨i, j, hi, hj, hij, he⟩ := hnd
  simp only [List.length_map] at hi hj
  refine ⟨i, j, hij, hj, Diagram.eqv_iff_key.mpr ?_⟩
  simpa using he

end DV
