/-
  Proofs/PermList.lean — what `isPermList` (the validity test of `Diagram.permutation`,
  monoidal.py:534) says in terms of `List.Perm`: the list is a rearrangement of
  `[0, …, len-1]`; in particular it has no repeated entry.  Used by Props/C10.lean to state the
  acceptance condition of `permutation` against `range(len(dom))`.
-/
import Mathlib.Data.List.Perm.Subperm
import Mathlib.Data.List.Nodup
import Proofs.Swap

namespace DV

/-- `[0, …, n-1]` as Python ints. -/
def intRange (n : Nat) : List Int := List.map (fun (k : Nat) => (k : Int)) (List.range n)

theorem intRange_length (n : Nat) : (intRange n).length = n := by simp [intRange]

theorem mem_intRange {n : Nat} {x : Int} : x ∈ intRange n ↔ 0 ≤ x ∧ x < (n : Int) := by
  unfold intRange
  rw [List.mem_map]
  constructor
  · rintro ⟨k, hk, rfl⟩
    rw [List.mem_range] at hk
    omega
  · rintro ⟨h0, h1⟩
    exact ⟨x.toNat, List.mem_range.mpr (by omega), by omega⟩

theorem intRange_nodup (n : Nat) : (intRange n).Nodup := by
  unfold intRange
  refine List.Nodup.map ?_ List.nodup_range
  intro a b h
  exact Int.ofNat.inj h

/-- The validity test accepts exactly the rearrangements of `[0, …, len-1]`. -/
theorem isPermList_iff_perm (π : List Int) :
    isPermList π = true ↔ (intRange π.length).Perm π := by
  rw [isPermList_iff]
  constructor
  · rintro ⟨_, hsurj⟩
    have hsub : intRange π.length ⊆ π := by
      intro x hx
      obtain ⟨h0, h1⟩ := mem_intRange.mp hx
      have := hsurj x.toNat (by omega)
      rwa [Int.toNat_of_nonneg h0] at this
    exact (List.subperm_of_subset (intRange_nodup _) hsub).perm_of_length_le
      (by rw [intRange_length]; exact Nat.le_refl _)
  · intro h
    refine ⟨fun x hx => mem_intRange.mp (h.mem_iff.mpr hx), fun k hk => ?_⟩
    exact h.mem_iff.mp (mem_intRange.mpr ⟨by omega, by omega⟩)

/-- A list that passes the validity test has no repeated entry. -/
theorem isPermList_nodup {π : List Int} (h : isPermList π = true) : π.Nodup :=
  ((isPermList_iff_perm π).mp h).nodup_iff.mp (intRange_nodup _)

/-- `permutation(perm, dom)` is accepted exactly when `perm` is a rearrangement of
    `range(len(dom))` — one condition that contains both refusal tests at the head of
    `permutation`, monoidal.py:534-540 (being a permutation of `range(len(perm))`, and `len(dom) == len(perm)`). -/
theorem Diagram.permutation_accepted_iff (perm : List Int) (dom : Ty) :
    (∃ d, Diagram.permutation perm dom = .ok d) ↔ (intRange dom.length).Perm perm := by
  constructor
  · rintro ⟨d, hd⟩
    have hnot : ¬ Diagram.permutation perm dom = .error .value := by rw [hd]; intro h; cases h
    rw [Diagram.permutation_refuses] at hnot
    have hp : isPermList perm = true := by
      cases h : isPermList perm
      · exact absurd (Or.inl h) hnot
      · rfl
    have hl : dom.length = perm.length := Classical.byContradiction fun h => hnot (Or.inr h)
    rw [hl]
    exact (isPermList_iff_perm perm).mp hp
  · intro h
    have hl : dom.length = perm.length := by
      have := h.length_eq
      rwa [intRange_length] at this
    rw [hl] at h
    obtain ⟨d, hd, _⟩ := Diagram.permutation_spec perm dom ((isPermList_iff_perm perm).mpr h) hl
    exact ⟨d, hd⟩

end DV
