/-
  Proofs/PolyRing.lean — the executable polynomials of Model/Param.lean in normal form are a
  commutative ring under the model's OWN `add / mul / neg / 0 / 1`; the model's `subst` is a ring
  homomorphism of it and the model's `deriv` a derivation (additive + Leibniz).

    NPoly          = { p : Poly // p.WF }              (Proofs/PolyOrder.lean: the operations
                                                        preserve the normal form)
    CommRing NPoly                                      (laws pulled back along the injective
                                                        `sem` of Proofs/PolySem.lean)
    substHom σ : NPoly →+* NPoly                        (`Poly.subst σ`)
    derivN v   : Deriv NPoly                            (`Poly.deriv v`)
    constHom   : ℤ →+* NPoly                            (`Poly.const`)
    norm       : Poly → NPoly                           (`Poly.ofTerms`): preserves 0, 1, +, ·,
                 commutes with `subst` and `deriv`, and is the identity on normal forms.
-/
import Proofs.PolySem
import Proofs.Param
import Mathlib.Algebra.Ring.MinimalAxioms

namespace DV.Param
open MvPolynomial

/-- Executable polynomials in normal form. -/
def NPoly := { p : Poly // p.WF }

namespace NPoly

instance : Zero NPoly := ⟨⟨0, Poly.zero_wf⟩⟩
instance : One NPoly := ⟨⟨1, Poly.one_wf⟩⟩
instance : Add NPoly := ⟨fun a b => ⟨a.1 + b.1, Poly.add_wf a.2 b.2⟩⟩
instance : Mul NPoly := ⟨fun a b => ⟨a.1 * b.1, Poly.mul_wf _ _⟩⟩
instance : Neg NPoly := ⟨fun a => ⟨-a.1, Poly.neg_wf a.2⟩⟩
instance : HasConj NPoly := ⟨id⟩

@[simp] theorem val_zero : (0 : NPoly).1 = 0 := rfl
@[simp] theorem val_one : (1 : NPoly).1 = 1 := rfl
@[simp] theorem val_add (a b : NPoly) : (a + b).1 = a.1 + b.1 := rfl
@[simp] theorem val_mul (a b : NPoly) : (a * b).1 = a.1 * b.1 := rfl
@[simp] theorem val_neg (a : NPoly) : (-a).1 = -a.1 := rfl

theorem ext_sem {a b : NPoly} (h : sem a.1 = sem b.1) : a = b :=
  Subtype.ext (sem_inj a.2 b.2 h)

/-- **The model's polynomials in normal form are a commutative ring** under the model's own
    operations. -/
instance : CommRing NPoly :=
  CommRing.ofMinimalAxioms
    (fun a b c => ext_sem (by simp only [val_add, Poly.sem_add, add_assoc]))
    (fun a => ext_sem (by simp only [val_add, val_zero, Poly.sem_add, Poly.sem_zero, zero_add]))
    (fun a => ext_sem (by
      simp only [val_add, val_neg, val_zero, Poly.sem_add, Poly.sem_neg, Poly.sem_zero,
        neg_add_cancel]))
    (fun a b c => ext_sem (by simp only [val_mul, Poly.sem_mul, mul_assoc]))
    (fun a b => ext_sem (by simp only [val_mul, Poly.sem_mul, mul_comm]))
    (fun a => ext_sem (by simp only [val_mul, val_one, Poly.sem_mul, Poly.sem_one, one_mul]))
    (fun a b c => ext_sem (by simp only [val_mul, val_add, Poly.sem_mul, Poly.sem_add, mul_add]))

/-- `Poly.subst σ` (simultaneous substitution x_i := σ i) is a ring homomorphism. -/
def substHom (σ : Nat → Poly) : NPoly →+* NPoly where
  toFun a := ⟨Poly.subst σ a.1, Poly.subst_wf σ a.1⟩
  map_one' := ext_sem (by
    show sem (Poly.subst σ 1) = sem 1
    rw [Poly.sem_subst, Poly.sem_one, map_one])
  map_mul' a b := ext_sem (by
    show sem (Poly.subst σ (a.1 * b.1)) = sem (Poly.subst σ a.1 * Poly.subst σ b.1)
    simp only [Poly.sem_subst, Poly.sem_mul, map_mul])
  map_zero' := ext_sem (by
    show sem (Poly.subst σ 0) = sem 0
    rw [Poly.sem_subst, Poly.sem_zero, map_zero])
  map_add' a b := ext_sem (by
    show sem (Poly.subst σ (a.1 + b.1)) = sem (Poly.subst σ a.1 + Poly.subst σ b.1)
    simp only [Poly.sem_subst, Poly.sem_add, map_add])

@[simp] theorem substHom_val (σ : Nat → Poly) (a : NPoly) :
    (substHom σ a).1 = Poly.subst σ a.1 := rfl

/-- `Poly.deriv v` (formal partial derivative) is a derivation: additive and Leibniz. -/
def derivN (v : Nat) : Deriv NPoly where
  D a := ⟨Poly.deriv v a.1, Poly.deriv_wf v a.1⟩
  add a b := ext_sem (by
    show sem (Poly.deriv v (a.1 + b.1)) = sem (Poly.deriv v a.1 + Poly.deriv v b.1)
    simp only [Poly.sem_deriv, Poly.sem_add, map_add])
  mul a b := ext_sem (by
    show sem (Poly.deriv v (a.1 * b.1))
      = sem (Poly.deriv v a.1 * b.1 + a.1 * Poly.deriv v b.1)
    simp only [Poly.sem_deriv, Poly.sem_add, Poly.sem_mul, pderiv_mul])

@[simp] theorem derivN_val (v : Nat) (a : NPoly) : ((derivN v).D a).1 = Poly.deriv v a.1 := rfl

theorem substHom_conj (σ : Nat → Poly) (x : NPoly) :
    substHom σ (HasConj.conj x) = HasConj.conj (substHom σ x) := rfl

theorem derivN_conj (v : Nat) (x : NPoly) :
    (derivN v).D (HasConj.conj x) = HasConj.conj ((derivN v).D x) := rfl

end NPoly

/-! ### normalisation `Poly → NPoly` -/

/-- Re-normalise an arbitrary term list (`Poly.ofTerms`, what the driver applies on input). -/
def norm (p : Poly) : NPoly := ⟨Poly.ofTerms p.terms, Poly.ofTerms_wf _⟩

theorem sem_norm (p : Poly) : sem (norm p).1 = sem p := Poly.sem_ofTerms p.terms

theorem norm_of_wf {p : Poly} (h : p.WF) : (norm p).1 = p :=
  sem_inj (norm p).2 h (sem_norm p)

theorem norm_val (a : NPoly) : norm a.1 = a := Subtype.ext (norm_of_wf a.2)

theorem eq_of_norm_eq {p q : Poly} (hp : p.WF) (hq : q.WF) (h : norm p = norm q) : p = q := by
  rw [← norm_of_wf hp, ← norm_of_wf hq, h]

theorem norm_zero : norm 0 = 0 := norm_val 0
theorem norm_one : norm 1 = 1 := norm_val 1

theorem norm_add (p q : Poly) : norm (p + q) = norm p + norm q :=
  NPoly.ext_sem (by simp only [NPoly.val_add, Poly.sem_add, sem_norm])

theorem norm_mul (p q : Poly) : norm (p * q) = norm p * norm q :=
  NPoly.ext_sem (by simp only [NPoly.val_mul, Poly.sem_mul, sem_norm])

theorem norm_subst (σ : Nat → Poly) (p : Poly) :
    norm (Poly.subst σ p) = NPoly.substHom σ (norm p) :=
  NPoly.ext_sem (by simp only [NPoly.substHom_val, Poly.sem_subst, sem_norm])

theorem norm_deriv (v : Nat) (p : Poly) :
    norm (Poly.deriv v p) = (NPoly.derivN v).D (norm p) :=
  NPoly.ext_sem (by simp only [NPoly.derivN_val, Poly.sem_deriv, sem_norm])

theorem norm_const_val (c : Int) : (norm (Poly.const c)).1 = Poly.const c :=
  norm_of_wf (Poly.const_wf c)

def constHom : ℤ →+* NPoly where
  toFun c := ⟨Poly.const c, Poly.const_wf c⟩
  map_one' := rfl
  map_zero' := rfl
  map_mul' a b := NPoly.ext_sem (by
    show sem (Poly.const (a * b)) = sem (Poly.const a * Poly.const b)
    simp only [Poly.sem_const, Poly.sem_mul, map_mul])
  map_add' a b := NPoly.ext_sem (by
    show sem (Poly.const (a + b)) = sem (Poly.const a + Poly.const b)
    simp only [Poly.sem_const, Poly.sem_add, map_add])

theorem norm_const (c : Int) : norm (Poly.const c) = constHom c :=
  Subtype.ext (norm_of_wf (Poly.const_wf c))

end DV.Param
