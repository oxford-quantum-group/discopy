/-
  Proofs/GrammarBoxes.lean — biclosed2rigid keeps the words and generic boxes of a biclosed
  diagram: whatever the translation returns contains, besides the structural boxes (cups, caps,
  swaps) that the rule boxes and Curry boxes unfold to, exactly one box per word / generic box
  of the source, in the source's order, carrying the source's name and the images of its
  domain and codomain (property C18; used by Props/C18.lean).

  All statements are of the form "IF the call returns a diagram THEN its generic boxes are …";
  that it does return is `Rule.img_has` / `BD.img_has` in Proofs/Grammar.lean.
-/
import Proofs.Grammar

namespace DV

/-! CCG notation, result first, the way `ccg.cat2ty` reads category strings (ccg.py:39-42:
    `left/right ↦ cat2ty(left) << cat2ty(right)`, `left\right ↦ cat2ty(right) >> cat2ty(left)`). -/

/-- `X/Y` — looks for a `Y` on its right, then is an `X` — is `X << Y`. -/
abbrev BTy.fwd (x y : BTy) : BTy := BTy.over x y
/-- `X\Y` — looks for a `Y` on its left, then is an `X` — is `Y >> X` ("Y under X"). -/
abbrev BTy.bwd (x y : BTy) : BTy := BTy.under y x

/-- The boxes of a rigid diagram that are not cups, caps or swaps, in order. -/
def Diagram.gens (d : Diagram) : List Box := d.boxes.filter (fun b => b.kind == .gen)

theorem Diagram.tensor_gens {a b d : Diagram} (h : a.tensor b = .ok d) :
    d.gens = a.gens ++ b.gens := by
  simp only [Diagram.tensor] at h
  split at h
  · cases h
  · split at h
    · cases h
    · cases h; simp [Diagram.gens]

theorem Diagram.then_gens {a b d : Diagram} (h : a.then b = .ok d) :
    d.gens = a.gens ++ b.gens := by
  obtain ⟨_, _, rfl⟩ := Diagram.then_ok h
  simp [Diagram.gens]

theorem Diagram.id_gens (t : Ty) : (Diagram.id t).gens = [] := rfl

/-- If the call returns, the generic boxes of the result are `gs`. -/
def Gens (r : Except Err Diagram) (gs : List Box) : Prop := ∀ d, r = .ok d → d.gens = gs

theorem Gens.ok (d : Diagram) : Gens (.ok d) d.gens := by
  intro x h; cases h; rfl

theorem Gens.id (t : Ty) : Gens (.ok (Diagram.id t)) [] := Gens.ok _

theorem Gens.error (e : Err) (gs : List Box) : Gens (.error e) gs := by
  intro x h; cases h

theorem Gens.cast {r : Except Err Diagram} {g g' : List Box} (h : Gens r g) (e : g = g') :
    Gens r g' := e ▸ h

theorem Gens.tensorE {a b : Except Err Diagram} {g1 g2 : List Box} (ha : Gens a g1)
    (hb : Gens b g2) : Gens (tensorE a b) (g1 ++ g2) := by
  intro d h
  cases a with
  | error e => simp [DV.tensorE] at h
  | ok x =>
    cases b with
    | error e => simp [DV.tensorE] at h
    | ok y =>
      simp only [DV.tensorE] at h
      rw [Diagram.tensor_gens h, ha x rfl, hb y rfl]

theorem Gens.thenE {a b : Except Err Diagram} {g1 g2 : List Box} (ha : Gens a g1)
    (hb : Gens b g2) : Gens (thenE a b) (g1 ++ g2) := by
  intro d h
  cases a with
  | error e => simp [DV.thenE] at h
  | ok x =>
    cases b with
    | error e => simp [DV.thenE] at h
    | ok y =>
      simp only [DV.thenE] at h
      rw [Diagram.then_gens h, ha x rfl, hb y rfl]

/-! ### swaps, cups and caps contain no generic box -/

/-- `swap` is total and consists of swap boxes only (`Diagram.swap_spec`). -/
theorem Gens.swap (left right : Ty) : Gens (Diagram.swap left right) [] := by
  intro d h
  obtain ⟨d', h', _, _, _, net, _⟩ := Diagram.swap_spec left right
  rw [h'] at h
  cases h
  simp only [Diagram.gens, List.filter_eq_nil_iff]
  intro b hb
  have hs : b.isSwap = true := List.all_eq_true.mp net.swaps b hb
  unfold Box.isSwap at hs
  split at hs
  · rw [eq_of_beq hs]; simp [Box.swap]
  · cases hs

/-- Every iteration composes `d` with one layer `Id @ Cup/Cap @ Id` (above or below), which has
    no generic box; the proof walks through the model's matches to name that layer. -/
theorem cupsLoop_gens {left right : Ty} {rev : Bool} {n i : Nat} {d d' : Diagram}
    (h : cupsLoop left right rev n i d = .ok d') : d'.gens = d.gens := by
  induction n generalizing i d with
  | zero => simp [cupsLoop] at h; subst h; rfl
  | succ n ih =>
    simp only [cupsLoop] at h
    split at h
    · rename_i lj ri _ _
      split at h
      · cases h
      · rename_i x hx
        split at h
        · cases h
        · rename_i layer hlayer
          have hl : layer.gens = [] := by
            rw [Diagram.tensor_gens hlayer, Diagram.tensor_gens hx]
            cases rev <;> rfl
          split at h
          · cases h
          · rename_i d1 hd1
            rw [ih h]
            split at hd1
            · rw [Diagram.then_gens hd1, hl]; rfl
            · rw [Diagram.then_gens hd1, hl]; simp
    · cases h

theorem Gens.cupsOrCaps (left right : Ty) (rev : Bool) :
    Gens (if Ty.r left ≠ right ∧ Ty.r right ≠ left then .error .axiom
      else cupsLoop left right rev left.length 0 (Diagram.id (left ++ right))) [] := by
  intro d h
  split at h
  · cases h
  · rw [cupsLoop_gens h]; rfl

theorem Gens.cups (left right : Ty) : Gens (Diagram.cups left right) [] :=
  Gens.cupsOrCaps left right false

theorem Gens.caps (left right : Ty) : Gens (Diagram.caps left right) [] :=
  Gens.cupsOrCaps left right true

/-! ### the rigid images of the rules are purely structural -/

/-- The image of the words / generic boxes of a rule box: one box of the same name over the
    images of its domain and codomain (daggered when the source is); none for FA … BX. -/
def Rule.gens : Rule → List Box
  | .gen name dom cod => [{ name := name, dom := BTy.img dom, cod := BTy.img cod }]
  | .dgen name dom cod => [{ name := name, dom := BTy.img dom, cod := BTy.img cod, dagger := true }]
  | _ => []

theorem Rule.img_gens (v : Variant) (r : Rule) : Gens (r.img v) r.gens := by
  unfold Rule.img
  split
  · cases r with
    | gen name dom cod => exact Gens.ok _
    | dgen name dom cod => exact Gens.ok _
    | fa l r =>
      rw [Rule.imgCore_fa, rigidFa]
      exact ((Gens.id _).tensorE (Gens.cups _ _)).cast rfl
    | ba l r =>
      simp only [Rule.imgCore, rigidBa]
      exact ((Gens.cups _ _).tensorE (Gens.id _)).cast rfl
    | fc a b c d =>
      rw [Rule.imgCore_fc, rigidFc]
      exact (((Gens.id _).tensorE (Gens.cups _ _)).tensorE (Gens.id _)).cast rfl
    | bc a b c d =>
      rw [Rule.imgCore_bc, rigidBc]
      exact (((Gens.id _).tensorE (Gens.cups _ _)).tensorE (Gens.id _)).cast rfl
    | fx a b c d =>
      rw [Rule.imgCore_fx, rigidFx]
      exact ((((Gens.id _).tensorE (Gens.swap _ _)).tensorE (Gens.id _)).thenE
        ((Gens.swap _ _).tensorE (Gens.cups _ _))).cast rfl
    | bx a b c d =>
      rw [Rule.imgCore_bx, rigidBx]
      exact ((((Gens.id _).tensorE (Gens.swap _ _)).tensorE (Gens.id _)).thenE
        ((Gens.cups _ _).tensorE (Gens.swap _ _))).cast rfl
  · exact Gens.error _ _

/-! ### Curry boxes keep the boxes of the curried diagram -/

theorem rigidCurry_gens (v : Variant) (g : Diagram) (n : Int) (left : Bool) :
    Gens (rigidCurry v g n left) g.gens := by
  unfold rigidCurry
  split
  · unfold rigidCurryLeft
    exact (((Gens.caps _ _).tensorE (Gens.id _)).thenE ((Gens.id _).tensorE (Gens.ok g))).cast
      (by simp)
  · unfold rigidCurryRight
    exact (((Gens.id _).tensorE (Gens.caps _ _)).thenE ((Gens.ok g).tensorE (Gens.id _))).cast
      (by simp)

/-! ### whole diagrams -/

/-- The images of the words / generic boxes of a biclosed diagram, in the order of the diagram
    (a Curry box contributes those of the diagram it curries). -/
def BD.gens : BD → List Box
  | .id _ => []
  | .snoc d _ r => d.gens ++ r.gens
  | .snocCurry d _ inner _ _ => d.gens ++ inner.gens

theorem imgLayer_gens {res : Diagram} {scan : BTy} {off : Int} {bdom : BTy}
    {fbox : Except Err Diagram} {gs : List Box} (hbox : Gens fbox gs) :
    Gens (imgLayer res scan off bdom fbox) (res.gens ++ gs) := by
  unfold imgLayer
  exact ((Gens.ok res).thenE (((Gens.id _).tensorE hbox).tensorE (Gens.id _))).cast (by simp)

theorem BD.img_gens (v : Variant) (d : BD) : Gens (d.img v) d.gens := by
  induction d with
  | id t => exact Gens.id _
  | snoc d off r ih =>
    intro x h
    simp only [BD.img] at h
    split at h
    · cases h
    · rename_i res hres
      rw [imgLayer_gens (Rule.img_gens v r) x h, ih res hres]; rfl
  | snocCurry d off inner n left ih1 ih2 =>
    intro x h
    simp only [BD.img] at h
    split at h
    · cases h
    · rename_i res hres
      split at h
      · cases h
      · rename_i g hg
        rw [imgLayer_gens (rigidCurry_gens v g _ left) x h, ih1 res hres, ih2 g hg]; rfl

theorem BD.curryBoxImg_gens (v : Variant) (inner : BD) (n : Int) (left : Bool) :
    Gens (BD.curryBoxImg v inner n left) inner.gens := by
  intro x h
  simp only [BD.curryBoxImg] at h
  split at h
  · cases h
  · rename_i g hg
    rw [rigidCurry_gens v g _ left x h, BD.img_gens v inner g hg]

end DV
