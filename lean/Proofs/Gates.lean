/-
  Proofs/Gates.lean — the rotation gates and the gate2zx decompositions, SYMBOLIC IN THE PHASE.

  A rotation of phase φ (full turns) enters the arrays of gates.py:381-490 only through
      c = cos πφ,  s = sin πφ,  ν = e^{iπφ},  ν' = e^{-iπφ},  μ = e^{2πiφ} = ν²
  and a ZX spider of phase ψ only through e^{2πiψ}; Hadamard-type constants through r = 1/√2.
  Every statement below is a polynomial identity in these, proved over an ARBITRARY commutative
  (star) ring from the hypotheses
      i·i = −1,  c·c + s·s = 1,  ν·ν' = 1,  2c = ν + ν',  2is = ν − ν',  2·r·r = 1,
      star c = c,  star s = s,  star i = −i,  star ν = ν',  star r = r
  which hold in ℂ for every real φ (Euler's formula; instantiated in Proofs/GatesComplex.lean).
  The matrices are the generic definitions of Model/Gates.lean (the very functions the driver runs
  at `Cyc8`), `simp` evaluates the list products, `ring1`/`linear_combination` closes the entries.
-/
import Mathlib.Tactic.Ring
import Mathlib.Tactic.LinearCombination
import Mathlib.Algebra.Star.Basic
import Model.Gates

namespace DV.Gates

/-- Conjugation on a star ring (ℂ: complex conjugation). -/
instance instConjStar {R : Type} [CommRing R] [StarRing R] : Conj R := ⟨star⟩

macro "mat_simp" : tactic =>
  `(tactic| simp [evalZX, evalZXFrom, ZXB.mat, ZXB.dom, ZXB.cod, zMat, xMat, hMat, swapMat, bits,
      allFalse, allTrue, parity, rpow, mul, rowMul, vadd, smul, msmul, kron, dagger, transpose,
      identity, idQ, pow2, rx, ryAsIs, ryFixed, rz, cu1, crz, crx, ctrlArr, ctrlSpec, Conj.conj])

/-! ## C11 — rotations for all phases -/

section Star
variable {R : Type} [CommRing R] [StarRing R]

/-- `Rx(φ)` is unitary. -/
theorem rx_unitary (i c s : R) (hi : i * i = -1) (hcs : c * c + s * s = 1)
    (hc : star c = c) (hs : star s = s) (hsi : star i = -i) :
    mul (rx i c s) (dagger (rx i c s)) = identity 2 ∧ mul (dagger (rx i c s)) (rx i c s) = identity 2 := by
  have d : c * c - i * i * s * s = 1 := by linear_combination hcs - s * s * hi
  constructor <;> mat_simp <;> simp only [hc, hs, hsi] <;>
    exact ⟨⟨by linear_combination d, by ring1⟩, by ring1, by linear_combination d⟩

/-- `Ry(φ)` is unitary (the array as it is and the repaired one). -/
theorem ry_unitary (c s : R) (hcs : c * c + s * s = 1) (hc : star c = c) (hs : star s = s) :
    mul (ryAsIs c s) (dagger (ryAsIs c s)) = identity 2 ∧
    mul (ryFixed c s) (dagger (ryFixed c s)) = identity 2 := by
  constructor <;> mat_simp <;> simp only [hc, hs] <;>
    exact ⟨⟨hcs, by ring1⟩, by ring1, by linear_combination hcs⟩

/-- `Rz(φ)` is unitary. -/
theorem rz_unitary (ν ν' : R) (h : ν * ν' = 1) (hs : star ν = ν') (hs' : star ν' = ν) :
    mul (rz ν ν') (dagger (rz ν ν')) = identity 2 ∧ mul (dagger (rz ν ν')) (rz ν ν') = identity 2 := by
  constructor <;> mat_simp <;> simp only [hs, hs'] <;> constructor <;> linear_combination h

/-- `CU1(φ)` is unitary. -/
theorem cu1_unitary (μ μ' : R) (h : μ * μ' = 1) (hs : star μ = μ') :
    mul (cu1 μ) (dagger (cu1 μ)) = identity 4 := by
  mat_simp; simp only [hs]; linear_combination h

/-- `CRz(φ)` is unitary. -/
theorem crz_unitary (ν ν' : R) (h : ν * ν' = 1) (hs : star ν = ν') (hs' : star ν' = ν) :
    mul (crz ν ν') (dagger (crz ν ν')) = identity 4 := by
  mat_simp; simp only [hs, hs']
  exact ⟨by linear_combination h, h⟩

/-- `CRx(φ)` is unitary. -/
theorem crx_unitary (i c s : R) (hi : i * i = -1) (hcs : c * c + s * s = 1)
    (hc : star c = c) (hs : star s = s) (hsi : star i = -i) :
    mul (crx i c s) (dagger (crx i c s)) = identity 4 := by
  have d : c * c - i * i * s * s = 1 := by linear_combination hcs - s * s * hi
  mat_simp; simp only [hc, hs, hsi]
  exact ⟨⟨by linear_combination d, by ring1⟩, by ring1, by linear_combination d⟩

/-- Dagger by negated phase (gates.py:361-362): `U(−φ) = U(φ)ᴴ`.  `cos(−πφ) = c`, `sin(−πφ) = −s`,
    `e^{iπ(−φ)} = ν'`. -/
theorem rx_dagger (i c s : R) (hc : star c = c) (hs : star s = s) (hsi : star i = -i) :
    rx i c (-s) = dagger (rx i c s) := by
  mat_simp; simp only [hc, hs, hsi]; repeat' constructor
  all_goals ring1

theorem ry_dagger (c s : R) (hc : star c = c) (hs : star s = s) :
    ryAsIs c (-s) = dagger (ryAsIs c s) ∧ ryFixed c (-s) = dagger (ryFixed c s) := by
  constructor <;> mat_simp <;> simp only [hc, hs] <;> simp

theorem rz_dagger (ν ν' : R) (hs : star ν = ν') (hs' : star ν' = ν) :
    rz ν' ν = dagger (rz ν ν') := by
  mat_simp; simp only [hs, hs']; simp

theorem cu1_dagger (μ μ' : R) (hs : star μ = μ') : cu1 μ' = dagger (cu1 μ) := by
  mat_simp; simp only [hs]

theorem crz_dagger (ν ν' : R) (hs : star ν = ν') (hs' : star ν' = ν) :
    crz ν' ν = dagger (crz ν ν') := by
  mat_simp; simp only [hs, hs']; simp

theorem crx_dagger (i c s : R) (hc : star c = c) (hs : star s = s) (hsi : star i = -i) :
    crx i c (-s) = dagger (crx i c s) := by
  mat_simp; simp only [hc, hs, hsi]; repeat' constructor
  all_goals ring1

/-- The conjugate transpose commutes with `Controlled` (the algebra behind the repair of F2):
    `Controlled(U)ᴴ = Controlled(Uᴴ)` for every one-qubit `U`. -/
theorem ctrl_dagger (a b c d : R) :
    dagger (ctrlArr [[a, b], [c, d]]) = ctrlArr (dagger [[a, b], [c, d]]) := by
  mat_simp

/-- Hence AS IT IS (`Controlled(g).dagger() = Controlled` of the un-daggered array, F2) the dagger
    evaluates to the adjoint iff the target array is Hermitian. -/
theorem ctrl_asis_dagger_iff (a b c d : R) :
    ctrlArr [[a, b], [c, d]] = dagger (ctrlArr [[a, b], [c, d]]) ↔
      [[a, b], [c, d]] = dagger [[a, b], [c, d]] := by
  mat_simp

end Star

section Ring
variable {R : Type} [CommRing R]

/-- `Controlled(U) = |0⟩⟨0| ⊗ 1 + |1⟩⟨1| ⊗ U` for every one-qubit `U` (gates.py:276-278). -/
theorem ctrl_spec (a b c d : R) : ctrlArr [[a, b], [c, d]] = ctrlSpec [[a, b], [c, d]] := by
  mat_simp

/-- The two-qubit rotations are the controlled one-qubit rotations. -/
theorem crz_is_controlled (ν ν' : R) : crz ν ν' = ctrlArr (rz ν ν') := rfl
theorem crx_is_controlled (i c s : R) : crx i c s = ctrlArr (rx i c s) := rfl
theorem cu1_is_controlled (μ : R) : cu1 μ = ctrlArr [[1, 0], [0, μ]] := rfl

/-! ### the standard tket matrices `U[out][in]` (pytket documentation of `OpType.Rx/Ry/Rz/CU1/CRz/CRx`,
    angle `α` in half turns; discopy phase `φ` = `α/2`, so `cos(πα/2) = c`, `e^{iπα/2} = ν`, `e^{iπα} = ν²`). -/
def tketRx (i c s : R) : Mat R := [[c, -(i * s)], [-(i * s), c]]
def tketRy (c s : R) : Mat R := [[c, -s], [s, c]]
def tketRz (ν ν' : R) : Mat R := [[ν', 0], [0, ν]]
def tketCU1 (μ : R) : Mat R := [[1, 0, 0, 0], [0, 1, 0, 0], [0, 0, 1, 0], [0, 0, 0, μ]]
def tketCRz (ν ν' : R) : Mat R := [[1, 0, 0, 0], [0, 1, 0, 0], [0, 0, ν', 0], [0, 0, 0, ν]]
def tketCRx (i c s : R) : Mat R :=
  [[1, 0, 0, 0], [0, 1, 0, 0], [0, 0, c, -(i * s)], [0, 0, -(i * s), c]]

/-- Every rotation array equals the standard tket matrix in `[input, output]` order (= its
    transpose) — with the REPAIRED `Ry`. -/
theorem rot_matches_tket (i c s ν ν' μ : R) :
    rx i c s = transpose (tketRx i c s) ∧ ryFixed c s = transpose (tketRy c s) ∧
    rz ν ν' = transpose (tketRz ν ν') ∧ cu1 μ = transpose (tketCU1 μ) ∧
    crz ν ν' = transpose (tketCRz ν ν') ∧ crx i c s = transpose (tketCRx i c s) := by
  refine ⟨?_, ?_, ?_, ?_, ?_, ?_⟩ <;> simp [tketRx, tketRy, tketRz, tketCU1, tketCRz, tketCRx, transpose,
    rx, ryFixed, rz, cu1, crz, crx]

/-- F17: `Ry` as gates.py:402 has it is the tket matrix NOT transposed, i.e. the map `Ry(−φ)`. -/
theorem ryAsIs_is_transpose (c s : R) :
    ryAsIs c s = tketRy c s ∧ ryAsIs c s = transpose (tketRy c (-s)) ∧ ryAsIs c s = ryFixed c (-s) := by
  refine ⟨rfl, ?_, ?_⟩ <;> simp [tketRy, transpose, ryAsIs, ryFixed]

/-! ## C16 — gate2zx, symbolic in the phase -/

/-- zx.py:374-375: `⟦Z(1, 1, φ)⟧ = e^{iπφ} • Rz(φ)`. -/
theorem zxRz_sound (r ν ν' : R) (hν : ν * ν' = 1) :
    evalZX r 1 (zxRz ν) = msmul ν (rz ν ν') := by
  simp only [zxRz]; mat_simp; linear_combination -hν

/-- zx.py:374-375: `⟦X(1, 1, φ)⟧ = e^{iπφ} • Rx(φ)`. -/
theorem zxRx_sound (r i c s ν ν' : R) (hr : 2 * r * r = 1) (hν : ν * ν' = 1)
    (hc : 2 * c = ν + ν') (hs : 2 * i * s = ν - ν') :
    evalZX r 1 (zxRx ν) = msmul ν (rx i c s) := by
  have e1 : r * r * (1 + ν * ν) = ν * c := by
    linear_combination (ν * c) * hr - (r * r) * hν - (r * r * ν) * hc
  have e2 : r * r * (1 + -(ν * ν)) = -(ν * (i * s)) := by
    linear_combination (-(ν * i * s)) * hr - (r * r) * hν + (r * r * ν) * hs
  simp only [zxRx]; mat_simp
  exact ⟨⟨e1, e2⟩, e2, e1⟩

/-- The shape the decompositions of CRz and CU1 share (zx.py:376-384): a copy spider on each qubit,
    with values `α`, `β`; their inner legs meet in `X(2, 1)`, closed by the effect `Z(1, 0)` of value `γ`. -/
def zxPhaseGadget (α β γ : R) : ZXD R :=
  [(.z 1 2 α, 0), (.z 1 2 β, 2), (.x 2 1 1, 1), (.z 1 0 γ, 1)]

/-- The gadget is diagonal: basis state `|xy⟩` picks up `α^x β^y`, and `γ` when `x ≠ y`. -/
theorem zxPhaseGadget_sound (r α β γ : R) (hr : 2 * r * r = 1) :
    evalZX r 2 (zxPhaseGadget α β γ) =
      msmul r [[1, 0, 0, 0], [0, β * γ, 0, 0], [0, 0, α * γ, 0], [0, 0, 0, α * β]] := by
  have h : r * (r * r) * (1 + 1) = r := by linear_combination r * hr
  simp only [zxPhaseGadget]; mat_simp
  simp only [h]
  refine ⟨trivial, ?_, ?_, ?_⟩ <;> ring1

/-- Corrected CRz (phases `φ/2, −φ/2`): `⟦…⟧ = (1/√2) • CRz(φ)` for every phase. -/
theorem zxCRzFixed_sound (r ν ν' : R) (hr : 2 * r * r = 1) (hν : ν * ν' = 1) :
    evalZX r 2 (zxCRzFixed ν ν') = msmul r (crz ν ν') := by
  rw [show zxCRzFixed ν ν' = zxPhaseGadget 1 ν ν' from rfl, zxPhaseGadget_sound r 1 ν ν' hr, hν, one_mul,
    one_mul]
  rfl

/-- Corrected CU1 (all three phases halved): `⟦…⟧ = (1/√2) • CU1(φ)`; `CU1(φ)` has `μ = ν·ν`. -/
theorem zxCU1Fixed_sound (r ν ν' : R) (hr : 2 * r * r = 1) (hν : ν * ν' = 1) :
    evalZX r 2 (zxCU1Fixed ν ν') = msmul r (cu1 (ν * ν)) := by
  rw [show zxCU1Fixed ν ν' = zxPhaseGadget ν ν ν' from rfl, zxPhaseGadget_sound r ν ν ν' hr, hν]
  rfl

/-- The decomposition of CRz AS IT IS (zx.py:376-378, phases `φ, −φ`) is the corrected one of `2φ`, so it
    denotes `CRz(2φ)`, not `CRz(φ)`. -/
theorem zxCRzAsIs_denotes_double (r ν ν' : R) (hr : 2 * r * r = 1) (hν : ν * ν' = 1) :
    evalZX r 2 (zxCRzAsIs ν ν') = msmul r (crz (ν * ν) (ν' * ν')) :=
  zxCRzFixed_sound r (ν * ν) (ν' * ν') hr (by linear_combination (ν * ν' + 1) * hν)

/-- CU1 AS IT IS (zx.py:382-384) likewise denotes `CU1(2φ)`. -/
theorem zxCU1AsIs_denotes_double (r ν ν' : R) (hr : 2 * r * r = 1) (hν : ν * ν' = 1) :
    evalZX r 2 (zxCU1AsIs ν ν') = msmul r (cu1 (ν * ν * (ν * ν))) :=
  zxCU1Fixed_sound r (ν * ν) (ν' * ν') hr (by linear_combination (ν * ν' + 1) * hν)

/-- Corrected CRx (Z-coloured control, Hadamard on the control leg of the gadget, phases `±φ/2`):
    `⟦…⟧ = (1/√2) • CRx(φ)` for every phase. -/
theorem zxCRxFixed_sound (r i c s ν ν' : R) (hr : 2 * r * r = 1) (hν : ν * ν' = 1)
    (hc : 2 * c = ν + ν') (hs : 2 * i * s = ν - ν') :
    evalZX r 2 (zxCRxFixed ν ν') = msmul r (crx i c s) := by
  -- Every entry is `r⁵ ((1 ± ν)(1 ± ν') ± (1 ∓ ν)(1 ∓ ν'))`; with `ν ν' = 1` the brackets are `4`, `0`,
  -- `2 (ν + ν') = 4 c` and `2 (ν' − ν) = −4 i s`, and `4 r⁵ = r`.
  have h4 : 4 * r ^ 5 = r := by linear_combination (r * (2 * r * r + 1)) * hr
  have e1 : r * (r * r) * (1 + ν) * r * (r * (1 + ν')) + r * (r * r) * (1 + -ν) * r * (r * (1 + -ν')) = r := by
    linear_combination (2 * r ^ 5) * hν + h4
  have e2 : r * (r * r) * (1 + -ν) * r * (r * (1 + ν')) + r * (r * r) * (1 + ν) * r * (r * (1 + -ν')) = 0 := by
    linear_combination (-2 * r ^ 5) * hν
  have e3 : r * (r * r) * (1 + ν) * r * (r * (1 + ν')) + -(r * (r * r) * (1 + -ν) * r * (r * (1 + -ν'))) =
      r * c := by linear_combination (-2 * r ^ 5) * hc + c * h4
  have e4 : r * (r * r) * (1 + -ν) * r * (r * (1 + ν')) + -(r * (r * r) * (1 + ν) * r * (r * (1 + -ν'))) =
      -(r * (i * s)) := by linear_combination (2 * r ^ 5) * hs - (i * s) * h4
  simp only [zxCRxFixed]; mat_simp
  exact ⟨⟨e1, e2⟩, ⟨e2, e1⟩, ⟨e3, e4⟩, e4, e3⟩

/-- The phase-free table entries (zx.py:389-395), symbolic in `r = 1/√2` and `i`. -/
theorem zxNamed_sound (r i : R) (hr : 2 * r * r = 1) :
    evalZX r 1 zxH = hMat r ∧
    evalZX r 1 zxZ = [[1, 0], [0, -1]] ∧
    evalZX r 1 zxX = [[0, 1], [1, 0]] ∧
    evalZX r 1 (zxY i) = [[0, i], [-i, 0]] ∧
    evalZX r 2 zxCZ = msmul r [[1, 0, 0, 0], [0, 1, 0, 0], [0, 0, 1, 0], [0, 0, 0, -1]] ∧
    evalZX r 2 zxCX = msmul r [[1, 0, 0, 0], [0, 1, 0, 0], [0, 0, 0, 1], [0, 0, 1, 0]] := by
  refine ⟨?_, ?_, ?_, ?_, ?_, ?_⟩ <;> simp only [zxH, zxZ, zxX, zxY, zxCZ, zxCX] <;> mat_simp
  -- `H`, `Z`, `CZ` need no hypothesis; the X spiders bring `2 r² = 1` in
  · linear_combination hr
  · linear_combination i * hr
  · linear_combination r * hr

/-- If `A = k • B` entrywise then all cross products agree — so ONE failing cross product
    (`F7_asis_unsound`) refutes proportionality. -/
theorem cross_of_proportional (k a a' b b' : R) (h : a = k * b) (h' : a' = k * b') :
    a * b' = a' * b := by
  rw [h, h']; ring

end Ring


/-! ## C16 — dagger of ZX generators, for ALL arities and ALL phases -/

section ZXDagger
variable {R : Type}

/-- Transposing a table `[[f x y | y ∈ l2] | x ∈ l1]` swaps the two comprehensions. -/
theorem transpose_table {α β : Type} (f : α → β → R) (l2 : List β) :
    ∀ (l1 : List α), l1 ≠ [] →
      transpose (l1.map fun x => l2.map fun y => f x y) = l2.map fun y => l1.map fun x => f x y
  | [], h => absurd rfl h
  | [x], _ => by simp [transpose]
  | x :: x' :: xs, _ => by
    have ih := transpose_table f l2 (x' :: xs) (by simp)
    simp only [List.map_cons] at ih ⊢
    rw [transpose, ih]
    · simp [List.zipWith_map_left, List.zipWith_map_right, List.zipWith_self]
    · simp

theorem bits_ne_nil : ∀ n, bits n ≠ []
  | 0 => by simp [bits]
  | n + 1 => by simp [bits, bits_ne_nil n]

variable [CommRing R] [StarRing R]

/-- zx.py:282-283 for Z spiders: `⟦Z(m, n, −φ)⟧ = ⟦Z(n, m, φ)⟧ᴴ` — every arity, every phase
    (`star μ = e^{−2πiφ}` is the value of the negated phase). -/
theorem zMat_dagger (n m : Nat) (μ : R) : dagger (zMat n m μ) = zMat m n (star μ) := by
  unfold dagger zMat
  rw [transpose_table _ _ _ (bits_ne_nil n)]
  simp only [List.map_map]
  refine List.map_congr_left (fun y _ => ?_)
  simp only [Function.comp, List.map_map]
  refine List.map_congr_left (fun x _ => ?_)
  simp only [Function.comp, Conj.conj]
  rw [Bool.and_comm (allFalse y), Bool.and_comm (allTrue y)]
  split <;> split <;> simp

theorem star_rpow (r : R) (hr : star r = r) : ∀ k, star (rpow r k) = rpow r k
  | 0 => by simp [rpow]
  | k + 1 => by simp [rpow, hr, star_rpow r hr k]

/-- The same for X spiders (`r = 1/√2` is real). -/
theorem xMat_dagger (r : R) (hr : star r = r) (n m : Nat) (μ : R) :
    dagger (xMat r n m μ) = xMat r m n (star μ) := by
  unfold dagger xMat
  rw [transpose_table _ _ _ (bits_ne_nil n)]
  simp only [List.map_map]
  refine List.map_congr_left (fun y _ => ?_)
  simp only [Function.comp, List.map_map]
  refine List.map_congr_left (fun x _ => ?_)
  simp only [Function.comp, Conj.conj]
  rw [star_mul', star_rpow r hr, Nat.add_comm n m, Bool.xor_comm]
  split <;> simp

/-- The dagger of a ZX generator as zx.py defines it (282: legs swapped, phase negated; 330: `H`
    is its own dagger; 354: scalar conjugated; swap), on the level of the values `μ`. -/
def ZXB.daggerS : ZXB R → ZXB R
  | .z n m μ => .z m n (star μ)
  | .x n m μ => .x m n (star μ)
  | .h => .h
  | .swap => .swap
  | .scalar s => .scalar (star s)

/-- `⟦b†⟧ = ⟦b⟧ᴴ` for every generator. -/
theorem zxb_dagger (r : R) (hr : star r = r) (b : ZXB R) :
    b.daggerS.mat r = dagger (b.mat r) := by
  cases b with
  | z n m μ => exact (zMat_dagger n m μ).symm
  | x n m μ => exact (xMat_dagger r hr n m μ).symm
  | h => simp [ZXB.daggerS, ZXB.mat, hMat, dagger, transpose, Conj.conj, hr]
  | swap => simp [ZXB.daggerS, ZXB.mat, swapMat, dagger, transpose, Conj.conj]
  | scalar s => simp [ZXB.daggerS, ZXB.mat, dagger, transpose, Conj.conj]

end ZXDagger

end DV.Gates
