/-
  Proofs/NormalizeCycle.lean — C07/C06: `normalize` (rewriting.py:87-124) never undoes its own
  step (`Diagram.normalize_no_two_cycle`, which C07's `normalize_step_not_undone` states).  In the
  `(box, offset)` view of `interchange(i, i+1, left)`: if the redex at position `i` is interchanged
  with the preference `left` the redex test was made with, and position `i` is a redex again and is
  interchanged again, the offsets of the two boxes are back where they started only if both boxes
  are scalars (empty domain and codomain).
  (Testing with one preference and moving with the other does produce such two-cycles on
  an effect directly above a state at the same offset.)
-/
import Proofs.UnsnakeItems

namespace DV

/-- The redex test of `normalize` (rewriting.py:118-119) in the item view. -/
def redexItems (left : Bool) (x y : Box × Int) : Bool :=
  (left && decide (y.2 ≥ x.2 + x.1.cod.length)) || (!left && decide (x.2 ≥ y.2 + y.1.dom.length))

/-- A redex can always be interchanged, and with the preference it was tested with the move is
    the one the test looked at. -/
theorem swapItems_of_redex {left : Bool} {x y : Box × Int} (h : redexItems left x y = true) :
    swapItems left x y = some (if left then ((y.1, y.2 - x.1.cod.length + x.1.dom.length), x)
      else (y, (x.1, x.2 - y.1.dom.length + y.1.cod.length))) := by
  unfold redexItems at h
  unfold swapItems
  cases left
  · simp only [Bool.false_and, Bool.not_false, Bool.true_and, Bool.false_or,
      decide_eq_true_eq] at h
    simp [h]
  · simp only [Bool.true_and, Bool.not_true, Bool.false_and, Bool.or_false,
      decide_eq_true_eq] at h
    simp [h]

/-- The arithmetic core: two consecutive redex moves at one position restore both offsets only
    for two scalars. -/
theorem two_cycle_scalars {left : Bool} {x y y' x' x'' y'' : Box × Int}
    (h1 : redexItems left x y = true) (s1 : swapItems left x y = some (y', x'))
    (h2 : redexItems left y' x' = true) (s2 : swapItems left y' x' = some (x'', y''))
    (hx : x''.2 = x.2) (hy : y''.2 = y.2) :
    x.1.dom.length = 0 ∧ x.1.cod.length = 0 ∧ y.1.dom.length = 0 ∧ y.1.cod.length = 0 := by
  rw [swapItems_of_redex h1] at s1
  rw [swapItems_of_redex h2] at s2
  unfold redexItems at h1 h2
  cases left
  · simp only [Bool.false_eq_true, if_false, Option.some.injEq, Prod.mk.injEq] at s1 s2
    obtain ⟨e1, e2⟩ := s1
    obtain ⟨e3, e4⟩ := s2
    subst e1 e2
    subst e3 e4
    simp only [Bool.false_and, Bool.not_false, Bool.true_and, Bool.false_or,
      decide_eq_true_eq] at h1 h2
    simp only at hx hy h2
    omega
  · simp only [if_true, Option.some.injEq, Prod.mk.injEq] at s1 s2
    obtain ⟨e1, e2⟩ := s1
    obtain ⟨e3, e4⟩ := s2
    subst e1 e2
    subst e3 e4
    simp only [Bool.true_and, Bool.not_true, Bool.false_and, Bool.or_false,
      decide_eq_true_eq] at h1 h2
    simp only at hx hy h2
    omega

/-- The redex test on a well-typed diagram, read off the item list. -/
theorem Diagram.redex_items {d : Diagram} (hd : d.WF) {left : Bool} {P S : List (Box × Int)}
    {x y : Box × Int} (h : d.items = P ++ x :: y :: S) :
    d.redex left P.length = redexItems left x y := by
  have hx : d.items[P.length]? = some x := by rw [h]; exact getElem?_mid P x (y :: S)
  have hy : d.items[P.length + 1]? = some y := by rw [h]; exact getElem?_mid1 P x y S
  obtain ⟨bx, ox⟩ := Diagram.items_get hd hx
  obtain ⟨by_, oy⟩ := Diagram.items_get hd hy
  unfold Diagram.redex redexItems
  simp only [bx, ox, by_, oy]

theorem Diagram.redex_split {d : Diagram} {left : Bool} {i : Nat} (h : d.redex left i = true) :
    ∃ P S x y, P.length = i ∧ d.items = P ++ x :: y :: S ∧
      d.boxes[i]? = some x.1 ∧ d.boxes[i+1]? = some y.1 := by
  unfold Diagram.redex at h
  split at h
  · rename_i b0 b1 o0 o1 e0 e1 e2 e3
    have hx := Diagram.items_of_get e0 e2
    have hy := Diagram.items_of_get e1 e3
    have hi : i < d.items.length := (List.getElem?_eq_some_iff.mp hx).1
    refine ⟨d.items.take i, d.items.drop (i + 2), (b0, o0), (b1, o1), by simp; omega, ?_, e0, e1⟩
    conv => lhs; rw [list_split_pair hx hy]
    simp
  · cases h

/-- One `normalize` step at position `P.length` in the item view: it never raises. -/
theorem Diagram.redex_step_items {d : Diagram} (hd : d.WF) {left : Bool}
    {P S : List (Box × Int)} {x y : Box × Int} (h : d.items = P ++ x :: y :: S)
    (hr : d.redex left P.length = true) :
    ∃ d1 y' x', d.interchange (P.length : Int) ((P.length : Int) + 1) left = .ok d1 ∧
      swapItems left x y = some (y', x') ∧ d1.WF ∧ d1.items = P ++ y' :: x' :: S := by
  have hsw := swapItems_of_redex ((Diagram.redex_items hd h).symm.trans hr)
  obtain ⟨d', hd', w, hit⟩ := Diagram.interchangeAdj_items hd h hsw
  exact ⟨d', _, _, by rw [Diagram.interchange_succ_eq rfl (redex_lt hr), hd'], hsw, w, hit⟩

/-- A redex (rewriting.py:118-119) can always be interchanged. -/
theorem Diagram.redex_interchange {d : Diagram} {left : Bool} {i : Nat} (hd : d.WF)
    (h : d.redex left i = true) : ∃ d', d.interchange (i : Int) ((i : Int) + 1) left = .ok d' := by
  obtain ⟨P, S, x, y, rfl, hit, _⟩ := Diagram.redex_split h
  obtain ⟨d1, _, _, h1, _⟩ := Diagram.redex_step_items hd hit h
  exact ⟨d1, h1⟩

/-- `normalize` never undoes its own step: if position `i` is a redex, is interchanged with the
    preference `left` of the test, is a redex again and is interchanged again, then the offsets are
    back where they were only if both boxes are scalars (empty domain AND codomain). -/
theorem Diagram.normalize_no_two_cycle {d d1 d2 : Diagram} {left : Bool} {i : Nat} (hd : d.WF)
    (h1 : d.redex left i = true) (s1 : d.interchange (i : Int) ((i : Int) + 1) left = .ok d1)
    (h2 : d1.redex left i = true) (s2 : d1.interchange (i : Int) ((i : Int) + 1) left = .ok d2)
    (hc : d2.offsets = d.offsets) :
    ∃ b0 b1, d.boxes[i]? = some b0 ∧ d.boxes[i+1]? = some b1 ∧
      b0.dom = [] ∧ b0.cod = [] ∧ b1.dom = [] ∧ b1.cod = [] := by
  obtain ⟨P, S, x, y, rfl, hitems, e0, e1⟩ := Diagram.redex_split h1
  obtain ⟨_, y', x', s1', sw1, w1, it1⟩ := Diagram.redex_step_items hd hitems h1
  rw [s1] at s1'; cases s1'
  obtain ⟨_, x'', y'', s2', sw2, w2, it2⟩ := Diagram.redex_step_items w1 it1 h2
  rw [s2] at s2'; cases s2'
  have r1 : redexItems left x y = true := by rw [← Diagram.redex_items hd hitems]; exact h1
  have r2 : redexItems left y' x' = true := by rw [← Diagram.redex_items w1 it1]; exact h2
  -- the offsets of the two boxes are those of the input again
  have hoff : d2.items.map (·.2) = d.items.map (·.2) := by
    rw [← Diagram.items_offsets w2, ← Diagram.items_offsets hd, hc]
  rw [it2, hitems] at hoff
  simp only [List.map_append, List.map_cons] at hoff
  have := List.append_cancel_left hoff
  simp only [List.cons.injEq] at this
  obtain ⟨z0, z1, z2, z3⟩ := two_cycle_scalars r1 sw1 r2 sw2 this.1 this.2.1
  exact ⟨x.1, y.1, e0, e1, List.eq_nil_of_length_eq_zero z0, List.eq_nil_of_length_eq_zero z1,
    List.eq_nil_of_length_eq_zero z2, List.eq_nil_of_length_eq_zero z3⟩

end DV
