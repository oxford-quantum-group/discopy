/-
  Proofs/GatesTable.lean — finite-table facts about Model/Gates.lean, closed by `decide`
  (kernel evaluation of exact ℤ[ζ₈][1/2] arithmetic; the table IS the finite quantifier).
  Core Lean only.
-/
import Model.Gates

namespace DV.Gates

/-! ### C11: the named table -/

/-- The repaired table equals the transcribed tket matrices (in `[input, output]` order). -/
theorem namedRepaired_eq_tket : ∀ p ∈ namedRepaired, some p.2.eval = tketIO p.1 := by decide

/-- The table the model currently transcribes (switch `f17Fixed`) equals the tket matrices, except
    for `Y` while the switch is off. -/
theorem named_eq_tket :
    ∀ p ∈ named, (f17Fixed = true ∨ p.1 ≠ "Y") → some p.2.eval = tketIO p.1 := by decide

/-- F17: `Y` as gates.py:561 has it is the tket matrix NOT transposed into `[input, output]` order,
    i.e. as a linear map it is `Yᵀ = −Y`. -/
theorem arrYAsIs_is_transpose :
    some arrYAsIs = tketU "Y" ∧ some arrYAsIs ≠ tketIO "Y" ∧ arrYAsIs = msmul (-1) arrYFixed := by decide

/-- The daggers of the table are the identically named tket ops `Sdg`, `Tdg`; `Controlled(Y|S)` are
    `CY`, `CS` (for `CY` with the repaired `Y`). -/
theorem dagger_names_eq_tket :
    some (Gate.q gS).dagger.eval = tketIO "Sdg" ∧ some (Gate.q gT).dagger.eval = tketIO "Tdg" ∧
    some (Gate.ctrl (.q gS)).eval = tketIO "CS" ∧
    some (Gate.ctrl (.q ⟨"Y", 1, arrYFixed, some false⟩)).eval = tketIO "CY" ∧
    some (Gate.ctrl (.q gZ)).eval = tketIO "CZ" := by decide

/-! ### C11: dagger mechanisms on the table -/

/-- Flag mechanism (gates.py:43 + tensor.py:358) and rebuilt `CX`, `SWAP`: the dagger of every table
    gate evaluates to the conjugate transpose; and twice daggered is the gate again. -/
theorem named_dagger_eval :
    ∀ p ∈ named, p.2.dagger.eval = dagger p.2.eval ∧ p.2.dagger.dagger.eval = p.2.eval := by decide

theorem Cyc8.conj_conj (x : Cyc8) : x.conj.conj = x := by
  cases x; simp [Cyc8.conj]

/-- Flag mechanism in general (ANY stored array): the dagger of an un-flagged `QuantumGate`
    evaluates to the conjugate transpose of its evaluation (gates.py:43-46 + tensor.py:358-359). -/
theorem flag_dagger_of_unflagged (g : QGate) (h : g.dg = some false) (f : Bool) :
    (Gate.q g).dagger.evalW f = dagger ((Gate.q g).evalW f) := by
  simp [Gate.dagger, QGate.dagger, Gate.evalW, Gate.isDagger, Gate.arrayW, h]

/-- … of a flagged one-qubit gate: back to the stored array, which is the adjoint of the adjoint. -/
theorem flag_dagger_of_flagged (name : String) (a b c d : Cyc8) (f : Bool) :
    (Gate.q ⟨name, 1, [[a, b], [c, d]], some true⟩).dagger.evalW f =
      dagger ((Gate.q ⟨name, 1, [[a, b], [c, d]], some true⟩).evalW f) := by
  simp [Gate.dagger, QGate.dagger, Gate.evalW, Gate.isDagger, Gate.arrayW, dagger, transpose, Conj.conj,
    Cyc8.conj_conj]

/-- … of a gate DECLARED self-adjoint (`_dagger=None`): correct iff the stored array is Hermitian
    (true for H, X, Z, CZ by `named_dagger_eval`). -/
theorem flag_dagger_of_selfadjoint (g : QGate) (h : g.dg = none) (f : Bool) :
    ((Gate.q g).dagger.evalW f = dagger ((Gate.q g).evalW f)) ↔ g.arr = dagger g.arr := by
  simp [Gate.dagger, QGate.dagger, Gate.evalW, Gate.isDagger, Gate.arrayW, h]

/-- Scalars (gates.py:556-558) for every value: conjugation. -/
theorem scalar_dagger (z : Cyc8) (f : Bool) :
    (Gate.scalar z).dagger.evalW f = dagger ((Gate.scalar z).evalW f) := by
  simp [Gate.dagger, Gate.evalW, Gate.isDagger, Gate.arrayW, dagger, transpose, Conj.conj]

/-! ### square-root scalars `sqrt(z)` (gates.py:567-575; dagger inherited from `Scalar`, 556-558) -/

/-- The dagger of `sqrt(z)` (value `r`) evaluates to the conjugate of its evaluation exactly when the
    box is NOT taken for self-adjoint, or its value is real — in both positions of the switch F4k. -/
theorem sqrt_dagger_iffW (fix : Bool) (z r : Cyc8) (f : Bool) :
    ((sqrtDaggerW fix z r).evalW f = dagger ((Gate.sqrt z r).evalW f)) ↔
      (sqrtSelfAdjointW fix z r = false ∨ r.conj = r) := by
  unfold sqrtDaggerW
  cases h : sqrtSelfAdjointW fix z r <;>
    simp [Gate.evalW, Gate.isDagger, Gate.arrayW, dagger, transpose, Conj.conj, eq_comm]

/-- **`sqrt_dagger`**: for `z` that is not its own conjugate (every non-real `z`) the dagger of `sqrt(z)`
    evaluates to the conjugate of the evaluation of `sqrt(z)` — `Scalar(conj(z ** .5))`, the conjugate of the
    ROOT, not of the data. -/
theorem sqrt_dagger_nonreal (z r : Cyc8) (f : Bool) (h : z.conj ≠ z) :
    (Gate.sqrt z r).dagger.evalW f = dagger ((Gate.sqrt z r).evalW f) := by
  cases hf : f4kFixed
  · have : sqrtSelfAdjointW false z r = false := by simp [sqrtSelfAdjointW, h]
    simp only [Gate.dagger, hf]; exact (sqrt_dagger_iffW false z r f).2 (.inl this)
  · by_cases hr : r.conj = r
    · simp only [Gate.dagger, hf]; exact (sqrt_dagger_iffW true z r f).2 (.inr hr)
    · have : sqrtSelfAdjointW true z r = false := by simp [sqrtSelfAdjointW, hr]
      simp only [Gate.dagger, hf]; exact (sqrt_dagger_iffW true z r f).2 (.inl this)

/-- … and for a real value of the root (`z ≥ 0`): the box is its own dagger, rightly. -/
theorem sqrt_dagger_real_root (z r : Cyc8) (f : Bool) (h : r.conj = r) :
    (Gate.sqrt z r).dagger.evalW f = dagger ((Gate.sqrt z r).evalW f) :=
  (sqrt_dagger_iffW f4kFixed z r f).2 (.inr h)

/-- The criterion for the code the switch selects. -/
theorem sqrt_dagger_iff (z r : Cyc8) (f : Bool) :
    ((Gate.sqrt z r).dagger.evalW f = dagger ((Gate.sqrt z r).evalW f)) ↔
      (sqrtSelfAdjoint z r = false ∨ r.conj = r) := sqrt_dagger_iffW f4kFixed z r f

/-- With the proposed repair of F4k (self-adjointness decided on the value) it holds for EVERY `z`. -/
theorem sqrt_dagger_fixed (z r : Cyc8) (f : Bool) :
    (sqrtDaggerW true z r).evalW f = dagger ((Gate.sqrt z r).evalW f) := by
  by_cases hr : r.conj = r
  · exact (sqrt_dagger_iffW true z r f).2 (.inr hr)
  · exact (sqrt_dagger_iffW true z r f).2 (.inl (by simp [sqrtSelfAdjointW, hr]))

/-- F4k witness: `sqrt(-4)` (value `2i`, an exact root) AS IT IS is its own dagger, so the dagger evaluates to
    `2i`, not to `conj(2i) = -2i`. -/
theorem F4k_sqrt_negative :
    Gate.sqrtExact (.sqrt (Cyc8.ofInt (-4)) ⟨0, 0, 2, 0, 0⟩) = true ∧
    sqrtSelfAdjointW false (Cyc8.ofInt (-4)) ⟨0, 0, 2, 0, 0⟩ = true ∧
    (sqrtDaggerW false (Cyc8.ofInt (-4)) ⟨0, 0, 2, 0, 0⟩).evalW true ≠
      dagger ((Gate.sqrt (Cyc8.ofInt (-4)) ⟨0, 0, 2, 0, 0⟩).evalW true) ∧
    (sqrtDaggerW true (Cyc8.ofInt (-4)) ⟨0, 0, 2, 0, 0⟩).evalW true =
      dagger ((Gate.sqrt (Cyc8.ofInt (-4)) ⟨0, 0, 2, 0, 0⟩).evalW true) := by decide

/-- Sanity of the root convention on the cases the harness pins: `sqrt(2)` has the value `√2 = ζ − ζ³`,
    `sqrt(2i)` the value `1 + i`, `sqrt(i)` the value `ζ`, `sqrt(-3+4i)` the value `1 + 2i`. -/
theorem sqrt_exact_examples :
    Gate.sqrtExact (.sqrt (Cyc8.ofInt 2) Cyc8.sqrt2) = true ∧
    Gate.sqrtExact (.sqrt ⟨0, 0, 2, 0, 0⟩ ⟨1, 0, 1, 0, 0⟩) = true ∧
    Gate.sqrtExact (.sqrt Cyc8.I Cyc8.zeta) = true ∧
    Gate.sqrtExact (.sqrt ⟨-3, 0, 4, 0, 0⟩ ⟨1, 0, 2, 0, 0⟩) = true := by decide

/-! ### calling conventions of `Circuit.eval` (circuit.py:244-253, 657-664) -/

theorem getElem?_map_some {α β : Type} (f : α → β) (l : List α) (i : Nat) (a : α) (h : l[i]? = some a) :
    (l.map f)[i]? = some (f a) := by simp [h]

/-- **A pure circuit evaluated without `mixed=True` is evaluated by the tensor functor whatever it is
    batched with**: in `first.eval(c₁, …, cₖ)` the `i`-th circuit of `(first, c₁, …, cₖ)` gets the mode
    `is_mixed` of ITSELF. -/
theorem evalModes_own (selfMixed : Bool) (others : List Bool) (i : Nat) (m : Bool)
    (h : (selfMixed :: others)[i]? = some m) : (evalModes false selfMixed others)[i]? = some m := by
  unfold evalModes
  split
  · rename_i he
    have : others = [] := by simpa using he
    subst this
    cases i with
    | zero => simpa [evalMode1] using h
    | succ i => simp at h
  · have := getElem?_map_some (evalMode1 false) (selfMixed :: others) i m h
    simpa [evalMode1] using this

/-- … and with `mixed=True` every circuit of the call is evaluated by the CQ functor. -/
theorem evalModes_flag (selfMixed : Bool) (others : List Bool) :
    ∀ m ∈ evalModes true selfMixed others, m = true := by
  unfold evalModes
  split <;> simp [evalMode1]

/-- The number of results is the number of circuits. -/
theorem evalModes_length (flag selfMixed : Bool) (others : List Bool) :
    (evalModes flag selfMixed others).length = others.length + 1 := by
  unfold evalModes
  split
  · rename_i he
    have : others = [] := by simpa using he
    subst this; rfl
  · simp

/-- `Sum.eval`: a sum of pure circuits evaluated without `mixed=True` adds up TENSORS (one mode for all
    terms, and it is the pure one iff no term is mixed and the flag is off). -/
theorem sumModes_uniform (flag : Bool) (terms : List Bool) (ms : List Bool) (h : sumModes flag terms = some ms) :
    ms.length = terms.length ∧ ∀ m ∈ ms, m = (flag || terms.any id) := by
  match terms, h with
  | [t], h =>
    simp only [sumModes, Option.some.injEq] at h
    subst h
    cases t <;> cases flag <;> simp [evalMode1]
  | t :: t' :: rest, h =>
    simp only [sumModes, Option.some.injEq] at h
    subst h
    refine ⟨by simp [evalModes_length], ?_⟩
    intro m hm
    simp only [evalModes, List.isEmpty_cons, Bool.false_eq_true, if_false, List.mem_map] at hm
    obtain ⟨x, hx, rfl⟩ := hm
    have hx' : x = true → (t :: t' :: rest).any id = true := fun e => by
      subst e; exact List.any_eq_true.2 ⟨true, hx, rfl⟩
    cases x <;> cases flag <;> simp_all [evalMode1]

/-! ### C11: the rebuilt controlled gate (`Controlled.dagger`, gates.py:286), finding F2 -/

/-- The one-qubit gates of `GATES`: the targets over which the `controlled_*_table` statements range. -/
def oneQubitNamed : List QGate := [gH, gS, gT, gX, gY, gZ]

/-- Rebuilt-controlled mechanism (gates.py:286) AS IT IS: `Controlled(g).dagger()` evaluates to the
    adjoint exactly when the target's stored array is Hermitian — it fails for `S` and `T` (F2). -/
theorem controlled_dagger_table :
    ∀ g ∈ oneQubitNamed,
      ((Gate.ctrl (.q g)).dagger.evalAsIs = dagger (Gate.ctrl (.q g)).evalAsIs ↔ g.arr = dagger g.arr) := by
  decide

/-- F2 witnesses. -/
theorem F2_controlled_S :
    (Gate.ctrl (.q gS)).dagger.evalAsIs ≠ dagger (Gate.ctrl (.q gS)).evalAsIs ∧
    (Gate.ctrl (.q gS)).dagger.evalAsIs = (Gate.ctrl (.q gS)).evalAsIs := by decide
theorem F2_controlled_T :
    (Gate.ctrl (.q gT)).dagger.evalAsIs ≠ dagger (Gate.ctrl (.q gT)).evalAsIs ∧
    (Gate.ctrl (.q gT)).dagger.evalAsIs = (Gate.ctrl (.q gT)).evalAsIs := by decide

/-- With the proposed repair (`evalFixed`: the block is the target's flag-aware matrix) the dagger of
    every controlled table gate, flagged or not, evaluates to the adjoint, a controlled gate is the
    controlled version of its target's evaluation, and nothing changes for un-flagged targets. -/
theorem controlled_dagger_fixed_table :
    ∀ g ∈ oneQubitNamed,
      (Gate.ctrl (.q g)).dagger.evalFixed = dagger (Gate.ctrl (.q g)).evalFixed ∧
      (Gate.ctrl (.q g.dagger)).evalFixed = ctrlSpec (Gate.q g.dagger).evalFixed ∧
      (Gate.ctrl (.q g)).evalFixed = (Gate.ctrl (.q g)).evalAsIs := by decide

/-- `Controlled(U) = |0⟩⟨0| ⊗ 1 + |1⟩⟨1| ⊗ U` on the table. -/
theorem controlled_spec_table :
    ∀ g ∈ oneQubitNamed, (Gate.ctrl (.q g)).eval = ctrlSpec (Gate.q g).eval := by decide

/-! ### C11: rotations at the representable phases (all of them: `ζ^(n/2)` has period 16 in `n`; unitarity and the
    negated phase for every `n : ℤ`, even unless CU1, are in Proofs/RotCyc8.lean) -/

/-- The six kinds, the even phase indices and all phase indices below 16: the ranges of `C11.rot_table_exact`, of
    `rotGates` (Proofs/CircuitTables.lean) and of the tabulated C16 statements. -/
def rotKinds : List RotKind := [.Rx, .Ry, .Rz, .CU1, .CRz, .CRx]
def evenPhases : List Int := [0, 2, 4, 6, 8, 10, 12, 14]
def allPhases : List Int := [0, 1, 2, 3, 4, 5, 6, 7, 8, 9, 10, 11, 12, 13, 14, 15]

/-- The controlled rotations are the controlled versions of the one-qubit rotations, and CU1(φ) is
    the controlled `diag(1, e^{2πiφ})`. -/
theorem controlled_rot_table :
    ∀ n ∈ evenPhases,
      (Gate.rot .CRz n).eval = ctrlSpec (Gate.rot .Rz n).eval ∧
      (Gate.rot .CRx n).eval = ctrlSpec (Gate.rot .Rx n).eval ∧
      (Gate.ctrl (.rot .Rz n)).eval = (Gate.rot .CRz n).eval ∧
      (Gate.ctrl (.rot .Rx n)).eval = (Gate.rot .CRx n).eval ∧
      (Gate.ctrl (.rot .Ry n)).dagger.eval = dagger (Gate.ctrl (.rot .Ry n)).eval := by
  decide +kernel

/-- All bitstrings of length ≤ 3: the range of the tabulated statements `C11.ket_bra_basis`,
    `C16.gate2zx_sound_ketbra` and `gate2zx_arity_table` (the facts themselves hold for every bitstring,
    Proofs/KetBra.lean). -/
def bitstringsUpTo3 : List (List Bool) := bits 0 ++ bits 1 ++ bits 2 ++ bits 3

/-- A 4 × 4 integer matrix with 16 distinct entries: every entry of `rewireMat` is either `0` or one
    entry of `op`, so agreement on it pins down which entry lands where (`rewire_table`, Proofs/Rewire.lean). -/
def genericOp : Mat Int :=
  [[2, 3, 5, 7], [11, 13, 17, 19], [23, 29, 31, 37], [41, 43, 47, 53]]

/-- All `(a, b)` with `a, b < n`: the range of `rewire_table` (`n = 4`) and of `smallArities` (`n = 3`). -/
def pairs (n : Nat) : List (Nat × Nat) :=
  (List.range n).flatMap fun a => (List.range n).map fun b => (a, b)

end DV.Gates
