/-
  Proofs/TkWitness.lean — C13: outside the fragment `toTk` does NOT refine `canon`.
  One concrete circuit per excluding condition of `violation`; each is a finding on /repo
  (the same circuits are replayed on the real code by harness/props/c13.py).  The shapes of the
  findings F11, F26, F28 (Measure left of a bit, destructive override Measure, bit swap while
  bit 0 is post-selected) are fixed in /repo and inside the fragment (examples in Props/C13.lean).
-/
import Proofs.Tk

namespace DV.Tk
open DV

/-- The full statement (false for the code as it is): every successful export refines the
    specification. -/
def ToTkRefines : Prop :=
  ∀ (c : Circ) (st : St), toTk c = .ok st →
    ∃ sp ρq ρb dreg, canon c = .ok sp ∧ Refines sp st ρq ρb dreg

/-- … and the export succeeds whenever the specification is defined. -/
def ToTkTotal : Prop := ∀ (c : Circ) (sp : Sp), canon c = .ok sp → ∃ st, toTk c = .ok st

def isOk {α} : Except Err α → Bool
  | .ok _ => true
  | .error _ => false

theorem exists_of_isOk {α} {x : Except Err α} (h : isOk x = true) : ∃ a, x = .ok a := by
  cases x with
  | ok a => exact ⟨a, rfl⟩
  | error e => cases h

/-- For a concrete naming of finitely many ids injectivity is checked by running through them. -/
instance (f : Nat → Nat) (n m : Nat) : Decidable (InjBelow f n m) :=
  decidable_of_iff ((∀ a, a < n → f a < m) ∧ ∀ a, a < n → ∀ b, b < n → f a = f b → a = b)
    ⟨fun h => ⟨h.1, fun a b ha hb => h.2 a ha b hb⟩, fun h => ⟨h.1, fun a ha b hb => h.2 a b ha hb⟩⟩

def NotRefined (c : Circ) : Prop :=
  ∃ st, toTk c = .ok st ∧ ¬ ∃ sp ρq ρb dreg, canon c = .ok sp ∧ Refines sp st ρq ρb dreg

/-! ### Bits(0) to the left of an existing (non-post-selected) bit register
    `Ket(1) >> Measure() >> Bits(0) @ Id(bit)` -/

def wBits : Circ := ⟨[], [(.ket [1], 0), (.measure 1 true false, 0), (.bits [0] false, 0)]⟩

theorem wBits_toTk : toTk wBits = .ok ⟨1, 2, [], [0, 1],
    [⟨"X", none, [0], []⟩, ⟨"Measure", none, [0], [1]⟩],
    [], [], ⟨2, 2, [(.swap, 0)]⟩⟩ := by decide +kernel

theorem wBits_canon : canon wBits = .ok ⟨1, 2, [], [.reg 1, .reg 0],
    [⟨"X", none, [0], []⟩, ⟨"Measure", none, [0], [0]⟩],
    [], [], []⟩ := by decide +kernel

/-- The measured bit was renamed to register 1 *and* the post-processing swaps: the measured
    value comes out first, the diagram has it second. -/
theorem wBits_not_refined : NotRefined wBits := by
  refine ⟨_, wBits_toTk, ?_⟩
  rintro ⟨sp, ρq, ρb, dreg, hsp, R⟩
  rw [wBits_canon] at hsp
  cases hsp
  have hc := R.cmds
  simp only [List.map_cons, List.map_nil, Cmd.map, List.cons.injEq, Cmd.mk.injEq, and_true,
    true_and] at hc
  have hpp := R.pp
  have hs := R.readout.1
  have hm := R.readout.2
  match dreg, hpp with
  | [a, b], hpp =>
    simp only [PP.run, List.foldl_cons, List.foldl_nil, PP.stepRun, swapAt, List.map_cons, List.map_nil,
      BV.map, Prod.mk.injEq, true_and] at hpp
    simp only [List.nil_append, List.take, List.reverse_cons,
      List.reverse_nil, List.drop, List.cons_append, List.append_nil, List.cons.injEq, BV.reg.injEq,
      and_true] at hpp
    simp only [List.pairwise_cons, List.mem_cons, List.mem_nil_iff, or_false, forall_eq] at hs
    have hb := (hm b).mp (by simp)
    simp only at hb
    omega
  | [], hpp => simp [PP.run, PP.stepRun, swapAt] at hpp
  | [a], hpp => simp [PP.run, PP.stepRun, swapAt] at hpp
  | a :: b :: c :: t, hpp => simp [PP.run, PP.stepRun, swapAt] at hpp

/-! ### Discard of a bit
    `Ket(1, 0) >> Measure(2) >> Discard(bit) @ Id(bit)` -/

def wDiscard : Circ := ⟨[], [(.ket [1, 0], 0), (.measure 2 true false, 0), (.discard [.b], 0)]⟩

theorem wDiscard_toTk : toTk wDiscard = .ok ⟨2, 2, [], [1],
    [⟨"X", none, [0], []⟩, ⟨"Measure", none, [0], [0]⟩, ⟨"Measure", none, [1], [1]⟩],
    [], [], ⟨2, 2, []⟩⟩ := by decide +kernel

theorem wDiscard_canon : canon wDiscard = .ok ⟨2, 2, [], [.reg 1],
    [⟨"X", none, [0], []⟩, ⟨"Measure", none, [0], [0]⟩, ⟨"Measure", none, [1], [1]⟩],
    [], [], []⟩ := by decide +kernel

/-- The export still delivers two output bits; the diagram has one. -/
theorem wDiscard_not_refined : NotRefined wDiscard := by
  refine ⟨_, wDiscard_toTk, ?_⟩
  rintro ⟨sp, ρq, ρb, dreg, hsp, R⟩
  rw [wDiscard_canon] at hsp
  cases hsp
  have hpp := R.pp
  have hd := R.ppdom
  simp only [PP.run, List.foldl_nil, List.map_cons, List.map_nil, Prod.mk.injEq, true_and] at hpp
  have := congrArg List.length hpp
  simp only [List.length_map, List.length_cons, List.length_nil] at this
  simp only at hd
  omega

/-! ### a classical box that changes the number of bit wires, then Bits: the export raises
    `Bits(0) >> FAN >> Id(bit @ bit) @ Bits(0)`  (`bits` still has one entry for two bit wires) -/

def wStale : Circ := ⟨[], [(.bits [0] false, 0), (.cgate "FAN" 1 2, 0), (.bits [0] false, 2)]⟩

theorem wStale_toTk : toTk wStale = .error .index := by decide +kernel

theorem wStale_canon : ∃ sp, canon wStale = .ok sp := exists_of_isOk (by decide +kernel)

/-! ### … or silently reads the wrong register
    `Ket(1, 0) >> Measure(2) >> XOR >> Id(bit) @ Bits(0)`  (`bits` still has two entries for one wire) -/

def wStaleOrder : Circ := ⟨[], [(.ket [1, 0], 0), (.measure 2 true false, 0), (.cgate "XOR" 2 1, 0),
  (.bits [0] false, 1)]⟩

theorem wStaleOrder_toTk : toTk wStaleOrder = .ok ⟨2, 3, [], [0, 1, 2],
    [⟨"X", none, [0], []⟩, ⟨"Measure", none, [0], [0]⟩, ⟨"Measure", none, [1], [2]⟩],
    [], [], ⟨3, 2, [(.gate "XOR" 2 1, 0)]⟩⟩ := by decide +kernel

theorem wStaleOrder_canon : canon wStaleOrder = .ok ⟨2, 3, [], [.out 0 0, .reg 2],
    [⟨"X", none, [0], []⟩, ⟨"Measure", none, [0], [0]⟩, ⟨"Measure", none, [1], [1]⟩],
    [], [], [("XOR", [.reg 0, .reg 1])]⟩ := by decide +kernel

/-- The second measured bit was renamed to register 2 and the blank bit took register 1: XOR now
    reads the blank bit, and the measured bit comes out where the blank one should. -/
theorem wStaleOrder_not_refined : NotRefined wStaleOrder := by
  refine ⟨_, wStaleOrder_toTk, ?_⟩
  rintro ⟨sp, ρq, ρb, dreg, hsp, R⟩
  rw [wStaleOrder_canon] at hsp
  cases hsp
  have hc := R.cmds
  simp only [List.map_cons, List.map_nil, Cmd.map, List.cons.injEq, Cmd.mk.injEq, and_true,
    true_and] at hc
  have hpp := R.pp
  have hs := R.readout.1
  have hm := R.readout.2
  have hd := R.ppdom
  match dreg, hpp, hd with
  | [a, b, c], hpp, _ =>
    simp only [PP.run, List.foldl_cons, List.foldl_nil, PP.stepRun, applyCG, outs, CG.map, List.map_cons,
      List.map_nil, BV.map, Prod.mk.injEq] at hpp
    simp at hpp
    simp only [List.pairwise_cons, List.mem_cons, List.mem_nil_iff, or_false, forall_eq] at hs
    have hcm := (hm c).mp (by simp)
    simp only at hcm
    omega
  | [], _, hd => simp at hd
  | [a], _, hd => simp at hd
  | [a, b], _, hd => simp at hd
  | a :: b :: c :: d :: t, _, hd => simp at hd

/-! ### Measure(override_bits=True) after classical post-processing: the bit wire to overwrite is
    an output of a classical box, there is no register to name
    `Ket(0, 0, 1) >> Measure() @ Measure() @ Id(1) >> NOT @ Id(bit @ qubit) >> Swap(bit, bit) @ Id(1)
       >> Id(bit) @ Swap(bit, qubit) >> Id(bit) @ Measure(1, destructive=False, override_bits=True)` -/

def wOverridePP : Circ := ⟨[], [(.ket [0, 0, 1], 0), (.measure 1 true false, 0), (.measure 1 true false, 1),
  (.cgate "NOT" 1 1, 0), (.swap .b .b, 0), (.swap .b .q, 1), (.measure 1 false true, 1)]⟩

end DV.Tk
