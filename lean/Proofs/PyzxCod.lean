import Proofs.Pyzx

/-!
# `from_pyzx`: the codomain is counted from the graph

`zx.py:149-217` never compares `len(scan)` with the codomain of the diagram it builds.  That the
two agree on every path that does not raise, that a `move` keeps the number of open wires and that
a spider replaces `nIn` of them by `nOut` is part of `Acc.Extends` (`Proofs/Pyzx.lean`).  Hence the
number of outputs of the imported diagram is

    len(inputs) + Σ_{inner nodes} (outputs of the node − inputs of the node)

for EVERY graph and every combination of the proposed repairs (`C17.from_pyzx_cod`, read off
`fromPyzxWith_ok`).  This file: on the layered graphs that `to_pyzx` returns the sum counts every
edge once from each end, so the round trip keeps the arities (`roundtrip_cod`).
-/

namespace DV.Pyzx

/-! ## Counting the edges of a layered graph

A graph is *layered* when its vertices are `dom` inputs, then `n` inner vertices, then `cod`
outputs, every edge goes from a vertex that is not an output to a LATER vertex that is not an input,
and every boundary vertex has exactly one neighbour.  `to_pyzx` produces such graphs
(`specGraph_layered` below).  On a layered graph the inputs of an inner vertex (zx.py:196-197) are
the edges that end in it, its outputs (zx.py:199-200) the edges that start from it, and summing
over the inner vertices counts every edge once from each side: the number of wires `from_pyzx`
ends with is the number of outputs. -/

structure Layered (g : Graph) (dom n cod : Nat) : Prop where
  inputs : g.inputs = List.range dom
  outputs : g.outputs = (List.range cod).map (dom + n + ·)
  edges : ∀ e ∈ g.edges, e.s < e.t ∧ e.s < dom + n ∧ dom ≤ e.t ∧ e.t < dom + n + cod
  degIn : ∀ v, v < dom → g.deg v = 1
  degOut : ∀ i, i < cod → g.deg (dom + n + i) = 1
  inner : innerNodes g = (List.range n).map (dom + ·)

/-- Counts add up when, edge by edge, the indicators do; the hypothesis is written with `if`s so
    that it is a statement about numbers, which `omega` decides after a case split. -/
theorem countP_add_eq (p q r : Edge → Bool) (es : List Edge)
    (h : ∀ e ∈ es, (if p e = true then 1 else 0) + (if q e = true then 1 else 0) =
      (if r e = true then 1 else 0 : Nat)) :
    es.countP p + es.countP q = es.countP r := by
  induction es with
  | nil => rfl
  | cons e es ih =>
    have := ih (fun e he => h e (List.mem_cons_of_mem _ he))
    have := h e List.mem_cons_self
    simp only [List.countP_cons]
    omega

/-- Summing "edges whose `f`-end is `a + i`" over `i < k` counts the edges whose `f`-end lies in
    `[a, a + k)`. -/
theorem sum_count_range (f : Edge → Nat) (es : List Edge) (a k : Nat) :
    ((List.range k).map (fun i => es.countP (fun e => f e == a + i))).sum =
      es.countP (fun e => decide (a ≤ f e ∧ f e < a + k)) := by
  induction k with
  | zero =>
    simp only [List.range_zero, List.map_nil, List.sum_nil, Nat.add_zero]
    symm
    rw [List.countP_eq_zero]
    intro e _
    simp only [decide_eq_true_eq]
    omega
  | succ k ih =>
    rw [List.range_succ, List.map_append, List.sum_append, ih]
    simp only [List.map_cons, List.map_nil, List.sum_cons, List.sum_nil, Nat.add_zero]
    apply countP_add_eq
    intro e _
    simp only [decide_eq_true_eq, beq_iff_eq]
    split <;> split <;> split <;> omega

/-- Two tests of which every edge passes exactly one. -/
theorem countP_partition (p q : Edge → Bool) (es : List Edge)
    (h : ∀ e ∈ es, (p e = true ∧ q e = false) ∨ (p e = false ∧ q e = true)) :
    es.countP p + es.countP q = es.length := by
  rw [← congrFun List.countP_true es]
  apply countP_add_eq
  intro e he
  rcases h e he with ⟨a, b⟩ | ⟨a, b⟩ <;> simp [a, b]

theorem sum_map_const_one (k : Nat) (f : Nat → Nat) (h : ∀ i, i < k → f i = 1) :
    ((List.range k).map f).sum = k := by
  induction k with
  | zero => rfl
  | succ k ih =>
    rw [List.range_succ, List.map_append, List.sum_append, ih (fun i hi => h i (by omega))]
    simp [h k (by omega)]

theorem sum_map_congr (k : Nat) (f f' : Nat → Nat) (h : ∀ i, i < k → f i = f' i) :
    ((List.range k).map f).sum = ((List.range k).map f').sum := by
  congr 1
  apply List.map_congr_left
  intro i hi
  exact h i (List.mem_range.1 hi)

variable {g : Graph} {dom n cod : Nat}

/-- `k` consecutive vertices from `a` on, each with one neighbour and touched by edges with their
    `f`-end only: `k` edges have their `f`-end among them. -/
theorem count_ends_deg_one (f : Edge → Nat) (a k : Nat) (hdeg : ∀ i, i < k → g.deg (a + i) = 1)
    (hf : ∀ e ∈ g.edges, ∀ i, i < k →
      ((e.s == a + i || e.t == a + i) = true ↔ (f e == a + i) = true)) :
    g.edges.countP (fun e => decide (a ≤ f e ∧ f e < a + k)) = k := by
  rw [← sum_count_range f g.edges a k]
  apply sum_map_const_one
  intro i hi
  rw [← hdeg i hi, deg_eq_incident, incident]
  exact (List.countP_congr (fun e he => hf e he i hi)).symm

theorem Layered.ends_inner (L : Layered g dom n cod) {e : Edge} (he : e ∈ g.edges) :
    e.s ∉ g.outputs ∧ e.t ∉ g.inputs := by
  obtain ⟨a, b, c, d⟩ := L.edges e he
  rw [L.outputs, L.inputs, List.mem_map, List.mem_range]
  exact ⟨fun ⟨x, _, hx⟩ => by omega, by omega⟩

theorem Layered.length_nodeInputs (L : Layered g dom n cod) (node : Nat) :
    (nodeInputs g node).length = g.edges.countP (fun e => e.t == node) := by
  rw [nodeInputs, Graph.nbrs, ← List.countP_eq_length_filter, List.countP_filterMap]
  apply List.countP_congr
  intro e he
  have a := (L.edges e he).1
  obtain ⟨ho, hi⟩ := L.ends_inner he
  by_cases hs : e.s = node
  · have h1 : ¬ e.t < node := by omega
    have h3 : e.t ≠ node := by omega
    simp [Edge.other?, hs, hi, h1, h3]
  · by_cases ht : e.t = node
    · have h1 : e.s < node := by omega
      simp [Edge.other?, hs, ht, ho, h1]
    · simp [Edge.other?, hs, ht]

theorem Layered.length_nodeOutputs (L : Layered g dom n cod) (node : Nat) :
    (nodeOutputs g node).length = g.edges.countP (fun e => e.s == node) := by
  rw [nodeOutputs, Graph.nbrs, ← List.countP_eq_length_filter, List.countP_filterMap]
  apply List.countP_congr
  intro e he
  have a := (L.edges e he).1
  obtain ⟨ho, hi⟩ := L.ends_inner he
  by_cases hs : e.s = node
  · have h1 : node < e.t := by omega
    simp [Edge.other?, hs, hi, h1]
  · by_cases ht : e.t = node
    · have h1 : ¬ node < e.s := by omega
      simp [Edge.other?, hs, ht, ho, h1]
    · simp [Edge.other?, hs, ht]

theorem Layered.sum_inputs (L : Layered g dom n cod) :
    sumLen (nodeInputs g) (innerNodes g) + cod = g.edges.length := by
  have h1 : sumLen (nodeInputs g) (innerNodes g) =
      g.edges.countP (fun e => decide (dom ≤ e.t ∧ e.t < dom + n)) := by
    rw [← sum_count_range (·.t) g.edges dom n]
    simp only [sumLen, L.inner, List.map_map, Function.comp_def, L.length_nodeInputs]
  have h2 : g.edges.countP (fun e => decide (dom + n ≤ e.t ∧ e.t < dom + n + cod)) = cod := by
    refine count_ends_deg_one (·.t) _ _ L.degOut (fun e he i hi => ?_)
    obtain ⟨a, b, c, d⟩ := L.edges e he
    have : e.s ≠ dom + n + i := by omega
    simp [this]
  rw [h1]
  conv => lhs; rhs; rw [← h2]
  apply countP_partition
  intro e he
  obtain ⟨a, b, c, d⟩ := L.edges e he
  by_cases h : e.t < dom + n
  · left; simp; omega
  · right; simp; omega

theorem Layered.sum_outputs (L : Layered g dom n cod) :
    dom + sumLen (nodeOutputs g) (innerNodes g) = g.edges.length := by
  have h1 : sumLen (nodeOutputs g) (innerNodes g) =
      g.edges.countP (fun e => decide (dom ≤ e.s ∧ e.s < dom + n)) := by
    rw [← sum_count_range (·.s) g.edges dom n]
    simp only [sumLen, L.inner, List.map_map, Function.comp_def, L.length_nodeOutputs]
  -- `0 ≤ … < 0 + dom` is the shape `sum_count_range` and `count_ends_deg_one` give for the range
  -- that starts at `a = 0`
  have h2 : g.edges.countP (fun e => decide (0 ≤ e.s ∧ e.s < 0 + dom)) = dom := by
    refine count_ends_deg_one (·.s) _ _ (fun i hi => by rw [Nat.zero_add]; exact L.degIn i hi)
      (fun e he i hi => ?_)
    obtain ⟨a, b, c, d⟩ := L.edges e he
    have : e.t ≠ i := by omega
    simp [this]
  rw [h1]
  conv => lhs; lhs; rw [← h2]
  apply countP_partition
  intro e he
  obtain ⟨a, b, c, d⟩ := L.edges e he
  by_cases h : e.s < dom
  · left; simp; omega
  · right; simp; omega

/-- **On a layered graph `from_pyzx` ends with one wire per declared output** (when it does not
    raise; with the repairs switched on or off). -/
theorem Layered.fromPyzxWith_cod (L : Layered g dom n cod) (fix : Fix) (d : ZDiagram)
    (h : fromPyzxWith fix g = .ok d) : d.cod = cod ∧ d.dom = dom := by
  obtain ⟨a, rfl, _, e⟩ := fromPyzxWith_ok h
  have h1 : a.cod + _ = g.inputs.length + _ := e.cod
  have h2 := L.sum_inputs
  have h3 := L.sum_outputs
  rw [L.inputs, List.length_range] at h1
  exact ⟨by show a.cod = cod; omega, by show g.inputs.length = dom; rw [L.inputs, List.length_range]⟩

/-! ## The graphs `to_pyzx` returns are layered -/

theorem specEdges_t_ge (dom : Nat) (bs : List ZBox) :
    ∀ (prev : List ZBox), ∀ e ∈ specEdges dom prev bs, dom ≤ e.t := by
  induction bs with
  | nil => intro prev e he; simp [specEdges] at he
  | cons b bs ih =>
    intro prev e he
    simp only [specEdges, List.mem_append] at he
    rcases he with he | he
    · split at he
      · obtain ⟨j, _, rfl⟩ := List.mem_map.1 he
        simp only [mkEdge]
        omega
      · simp at he
    · exact ih _ e he

theorem legsOf_input (dom : Nat) (prev : List ZBox) (v : Nat) (h : v < dom) :
    legsOf dom prev v = 1 := by
  induction prev with
  | nil => simp [legsOf, h]
  | cons b prev ih =>
    simp only [legsOf]
    split
    · rename_i hc; omega
    · exact ih

theorem specGraph_layered (d : ZDiagram) (h : d.WF) :
    Layered (specGraph d) d.dom (nSpiders d.boxes) d.cod := by
  obtain ⟨st, _, R⟩ := expRun_spec d h
  have hn := R.nverts
  refine ⟨rfl, rfl, ?_, ?_, ?_, innerNodes_specGraph d⟩
  · intro e hm
    simp only [specGraph, List.mem_append] at hm
    rcases hm with hm | hm
    · have ht := specEdges_t_ge d.dom d.boxes [] e hm
      rw [← R.edges] at hm
      have := R.deg.ends e hm
      omega
    · obtain ⟨i, hi, rfl⟩ := List.mem_map.1 hm
      have hi := List.mem_range.1 hi
      have hl := R.deg.labels _ (List.mem_of_getElem? (R.inv.scan_some hi))
      simp only [mkEdge]
      omega
  · intro v hv
    rw [toPyzx_degree d h, vertexLegs]
    have : v < d.dom + nSpiders d.boxes := by omega
    simp only [this, if_true]
    exact legsOf_input _ _ _ hv
  · intro i hi
    rw [toPyzx_degree d h, vertexLegs]
    have a : ¬ d.dom + nSpiders d.boxes + i < d.dom + nSpiders d.boxes := by omega
    have b : d.dom + nSpiders d.boxes + i < d.dom + nSpiders d.boxes + d.cod := by omega
    simp only [a, b, if_true, if_false]

/-- **Round trip: the imported diagram has the inputs and outputs of the exported one** — with
    every combination of the repairs, whenever the import does not raise. -/
theorem roundtrip_cod (fix : Fix) (d d' : ZDiagram) (h : d.WF)
    (hrt : fromPyzxWith fix (specGraph d) = .ok d') : d'.cod = d.cod ∧ d'.dom = d.dom :=
  (specGraph_layered d h).fromPyzxWith_cod fix d' hrt

end DV.Pyzx
