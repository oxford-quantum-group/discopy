/-
  Proofs/ParamJac.lean — Circuit.jacobian (Model/ParamJac.lean): block `k` of the evaluation of the
  jacobian is the evaluation of the gradient w.r.t. the k-th variable TAKEN WITH THE SAME KEYWORDS,
  for zero, one and several variables.
-/
import Model.ParamJac
import Mathlib.Algebra.BigOperators.Group.List.Basic

namespace DV.Param

variable {V K T R : Type} [AddCommMonoid R]

/-- The rows `Digits(i) @ t` make up block `i` and contribute nothing to the others. -/
theorem sum_map_blockVal_row (val : T → R) (i n k : Nat) (ts : List T) :
    ((ts.map (JTerm.row i n)).map (JTerm.blockVal val k)).sum
      = if i = k then (ts.map val).sum else 0 := by
  induction ts with
  | nil => exact (ite_self 0).symm
  | cons t ts ih =>
    simp only [List.map_cons, List.sum_cons, ih, JTerm.blockVal]
    split
    · rfl
    · exact add_zero 0

/-- Rows before `i0` do not exist: their blocks are empty. -/
theorem jacRows_block_before (grad : V → K → List T) (kw : K) (val : T → R) (n k : Nat)
    (vars : List V) : ∀ i0, k < i0 → ((jacRows grad kw n i0 vars).map (JTerm.blockVal val k)).sum = 0 := by
  induction vars with
  | nil => intro i0 _; rfl
  | cons x xs ih =>
    intro i0 h
    rw [jacRows, List.map_append, List.sum_append,
      sum_map_blockVal_row, if_neg (Nat.ne_of_gt h), ih (i0 + 1) (Nat.lt_succ_of_lt h), add_zero]

/-- Block `i0 + k` of the stack built from index `i0` on is the gradient w.r.t. the variable at
    place `k`, taken with the keywords `kw`. -/
theorem jacRows_block (grad : V → K → List T) (kw : K) (val : T → R) (n : Nat) (vars : List V) :
    ∀ i0 k x, vars[k]? = some x →
      ((jacRows grad kw n i0 vars).map (JTerm.blockVal val (i0 + k))).sum
        = ((grad x kw).map val).sum := by
  induction vars with
  | nil => intro i0 k x h; exact absurd h (by simp)
  | cons y ys ih =>
    intro i0 k x h
    rw [jacRows, List.map_append, List.sum_append]
    cases k with
    | zero =>
      obtain rfl : y = x := Option.some.inj h
      rw [Nat.add_zero, sum_map_blockVal_row, if_pos rfl,
        jacRows_block_before grad kw val n i0 ys (i0 + 1) (Nat.lt_succ_self i0), add_zero]
    | succ k =>
      rw [sum_map_blockVal_row, if_neg (Nat.ne_of_lt (Nat.lt_add_of_pos_right (Nat.succ_pos k))),
        zero_add, ← Nat.add_assoc, Nat.add_right_comm]
      exact ih (i0 + 1) k x h

/-- **The jacobian stacks the gradients taken with the same keywords**, whatever the number of
    variables: block `k` of its evaluation is the evaluation of `grad(vars[k], **kw)`. -/
theorem circuitJacobian_block (grad : V → K → List T) (kw : K) (val : T → R) (vars : List V)
    (k : Nat) (x : V) (h : vars[k]? = some x) :
    (((circuitJacobian grad vars kw)).map (JTerm.blockVal val k)).sum = ((grad x kw).map val).sum := by
  match vars, h with
  | [], h => exact absurd h (by simp)
  | [y], h =>
    cases k with
    | zero =>
      obtain rfl : y = x := Option.some.inj h
      rw [circuitJacobian, List.map_map]
      rfl
    | succ k => exact absurd h (by simp)
  | y :: z :: rest, h =>
    have := jacRows_block grad kw val (y :: z :: rest).length (y :: z :: rest) 0 k x h
    rwa [Nat.zero_add] at this

end DV.Param
