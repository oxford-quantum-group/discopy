/-
  Proofs/CatArrow.lean — well-typedness at the free-category level (Model/CatArrow.lean):
  the scanning constructor, the n-ary `then`, indexing, functor application, and the closure over
  the op language of the class `cat`.

  `LArrow.WF a = Chain a.dom a.boxes a.cod` (Proofs/WF.lean) is C01's statement for a plain arrow:
  reading the boxes from the domain, each box finds its own domain, and the reading ends on the
  codomain.
-/
import Proofs.WF
import Model.CatArrow

namespace DV

/-! ### The scanning constructor -/

theorem scanArrow_ok_iff {s c : Ty} {ls : List Layer} : scanArrow s ls = .ok c ↔ Chain s ls c := by
  induction ls generalizing s with
  | nil => simp [scanArrow, Chain]
  | cons l ls ih =>
    simp only [scanArrow, Chain]
    by_cases h : l.dom = s
    · simp [h, ih]
    · have h' : ¬ s = l.dom := fun e => h e.symm
      simp [h, h']

theorem scanArrow_err {s : Ty} {ls : List Layer} {e : Err} (h : scanArrow s ls = .error e) :
    e = .axiom := by
  induction ls generalizing s with
  | nil => simp [scanArrow] at h
  | cons l ls ih =>
    simp only [scanArrow] at h
    split at h
    · cases h; rfl
    · exact ih h

/-- `Arrow(dom, cod, boxes)` hands back a value exactly when the boxes read from `dom` to `cod`;
    the value carries the requested fields. -/
theorem LArrow.mk?_ok_iff {dom cod : Ty} {bs : List Layer} {a : LArrow} :
    LArrow.mk? dom cod bs = .ok a ↔ a = ⟨dom, cod, bs⟩ ∧ Chain dom bs cod := by
  unfold LArrow.mk?
  split
  · rename_i e he
    constructor
    · intro h; cases h
    · rintro ⟨_, hc⟩
      rw [scanArrow_ok_iff.mpr hc] at he; cases he
  · rename_i scan hs
    have hch := scanArrow_ok_iff.mp hs
    by_cases h : scan = cod
    · subst h
      simp only [ne_eq, not_true_eq_false, ↓reduceIte, Except.ok.injEq]
      exact ⟨fun h => ⟨h.symm, hch⟩, fun h => h.1.symm⟩
    · simp only [ne_eq, h, not_false_eq_true, ↓reduceIte]
      constructor
      · intro h'; cases h'
      · rintro ⟨_, hc⟩; exact absurd (chain_unique hch hc) h

theorem LArrow.mk?_wf {dom cod : Ty} {bs : List Layer} {a : LArrow}
    (h : LArrow.mk? dom cod bs = .ok a) : a.WF := by
  obtain ⟨rfl, hc⟩ := LArrow.mk?_ok_iff.mp h
  exact hc

/-- … and an ill-typed request is refused with an axiom error. -/
theorem LArrow.mk?_refused {dom cod : Ty} {bs : List Layer} (h : ¬ Chain dom bs cod) :
    LArrow.mk? dom cod bs = .error .axiom := by
  unfold LArrow.mk?
  split
  · rename_i e he; rw [scanArrow_err he]
  · rename_i scan hs
    have hch := scanArrow_ok_iff.mp hs
    by_cases hc : scan = cod
    · subst hc; exact absurd hch h
    · simp [hc]

/-! ### n-ary composition -/

/-- Every junction of `recv.then(b₁, …, bₙ)` matches, the first one — between the type `c` the
    receiver ends on and `b₁` — included. -/
def AJunctions : Ty → List LArrow → Prop
  | _, [] => True
  | c, b :: bs => c = b.dom ∧ AJunctions b.cod bs

/-- The codomain of the last argument (`c` if there is none). -/
def alastCod : Ty → List LArrow → Ty
  | c, [] => c
  | _, b :: bs => alastCod b.cod bs

theorem LArrow.thenN_ok {a d : LArrow} {bs : List LArrow} (h : a.thenN bs = .ok d) :
    AJunctions a.cod bs ∧
      d = ⟨a.dom, alastCod a.cod bs, a.boxes ++ (bs.map (·.boxes)).flatten⟩ := by
  induction bs generalizing a with
  | nil => simp only [LArrow.thenN, Except.ok.injEq] at h; subst h; simp [AJunctions, alastCod]
  | cons b bs ih =>
    simp only [LArrow.thenN] at h
    split at h
    · cases h
    · rename_i x hx
      obtain ⟨hc, rfl⟩ := LArrow.then_ok hx
      obtain ⟨hj, rfl⟩ := ih h
      exact ⟨⟨hc, hj⟩, by simp [alastCod]⟩

/-- The n-ary composition is accepted exactly when every junction matches — receiver/first
    argument included, whatever the receiver is (an arrow without boxes is no exception). -/
theorem LArrow.thenN_ok_iff (a : LArrow) (bs : List LArrow) :
    (∃ d, a.thenN bs = .ok d) ↔ AJunctions a.cod bs := by
  constructor
  · rintro ⟨d, h⟩; exact (LArrow.thenN_ok h).1
  · intro h
    induction bs generalizing a with
    | nil => exact ⟨a, rfl⟩
    | cons b bs ih =>
      obtain ⟨h1, h2⟩ := h
      obtain ⟨d, hd⟩ := ih ⟨a.dom, b.cod, a.boxes ++ b.boxes⟩ h2
      exact ⟨d, by simp [LArrow.thenN, LArrow.then_eq_ok h1, hd]⟩

theorem LArrow.thenN_refused {a : LArrow} {bs : List LArrow} (h : ¬ AJunctions a.cod bs) :
    a.thenN bs = .error .axiom := by
  induction bs generalizing a with
  | nil => simp [AJunctions] at h
  | cons b bs ih =>
    by_cases h1 : a.cod = b.dom
    · have : ¬ AJunctions (⟨a.dom, b.cod, a.boxes ++ b.boxes⟩ : LArrow).cod bs :=
        fun hj => h ⟨h1, hj⟩
      simp [LArrow.thenN, LArrow.then_eq_ok h1, ih this]
    · simp [LArrow.thenN, LArrow.then_err h1]

theorem LArrow.thenN_wf {a d : LArrow} {bs : List LArrow} (ha : a.WF) (hbs : ∀ b ∈ bs, b.WF)
    (h : a.thenN bs = .ok d) : d.WF := by
  induction bs generalizing a with
  | nil => simp only [LArrow.thenN, Except.ok.injEq] at h; subst h; exact ha
  | cons b bs ih =>
    simp only [LArrow.thenN] at h
    split at h
    · cases h
    · rename_i x hx
      exact ih (LArrow.then_wf ha (hbs b (List.mem_cons_self ..)) hx)
        (fun b' hb' => hbs b' (List.mem_cons_of_mem _ hb')) h

/-! ### Values -/

/-- A value is well-typed, and a value flagged as a box is the arrow of one box. -/
def CVal.WF (x : CVal) : Prop := x.arrow.WF ∧ (x.isBox = true → ∃ l : Layer, x.arrow = l.arrow)

theorem CVal.dagger_wf {x r : CVal} (hx : x.WF) (h : x.dagger = .ok r) : r.WF := by
  unfold CVal.dagger at h
  split at h
  · split at h
    · cases h; exact ⟨Layer.arrow_wf _, fun _ => ⟨_, rfl⟩⟩
    · cases h
  · split at h
    · cases h
    · rename_i r' hr
      cases h
      exact ⟨LArrow.sliceRev_wf none none hx.1 hr, by simp⟩

theorem CVal.sliceRev_wf {x r : CVal} (s t : Option Int) (hx : x.WF) (h : x.sliceRev s t = .ok r) :
    r.WF := by
  unfold CVal.sliceRev at h
  split at h
  · exact CVal.dagger_wf hx h
  · split at h
    · cases h
    · rename_i r' hr; cases h
      exact ⟨LArrow.sliceRev_wf s t hx.1 hr, by simp⟩

theorem CVal.thenN_wf {x r : CVal} {args : List CVal} (hx : x.WF) (ha : ∀ y ∈ args, y.WF)
    (h : x.thenN args = .ok r) : r.WF := by
  unfold CVal.thenN at h
  split at h
  · cases h; exact hx
  · split at h
    · cases h
    · rename_i r' hr; cases h
      refine ⟨LArrow.thenN_wf hx.1 ?_ hr, by simp⟩
      intro b hb
      obtain ⟨y, hy, rfl⟩ := List.mem_map.mp hb
      exact (ha y hy).1

theorem LArrow.getItem_wf {a r : LArrow} {i : Int} (h : a.getItem i = .ok r) :
    (⟨r, true⟩ : CVal).WF := by
  unfold LArrow.getItem at h
  split at h
  · cases h
  · cases h; exact ⟨Layer.arrow_wf _, fun _ => ⟨_, rfl⟩⟩

/-! ### Functors -/

/-- Every image in the arrow mapping is itself a well-typed value (images are arrows the library
    handed back earlier).  Nothing is assumed about how they fit the object mapping. -/
def CFunctor.ImagesWF (F : CFunctor) : Prop := ∀ p ∈ F.ar, p.2.WF

theorem CFunctor.arLookup_wf {F : CFunctor} {l : Layer} {x : CVal} (hF : F.ImagesWF)
    (h : F.arLookup l = .ok x) : x.WF := by
  unfold CFunctor.arLookup at h
  split at h
  · rename_i p hp; cases h; exact hF p (List.mem_of_find?_eq_some hp)
  · cases h

theorem CFunctor.box_wf {F : CFunctor} {l : Layer} {x : CVal} (hF : F.ImagesWF)
    (h : F.box l = .ok x) : x.WF := by
  unfold CFunctor.box at h
  split at h
  · split at h
    · cases h
    · rename_i y hy; exact CVal.dagger_wf (F.arLookup_wf hF hy) h
  · exact F.arLookup_wf hF h

theorem CFunctor.images_cons_ok {F : CFunctor} {l : Layer} {ls : List Layer} {xs : List LArrow} :
    F.images (l :: ls) = .ok xs ↔
      ∃ x ys, F.box l = .ok x ∧ F.images ls = .ok ys ∧ xs = x.arrow :: ys := by
  rw [CFunctor.images]
  cases F.box l with
  | error e => simp
  | ok x =>
    cases F.images ls with
    | error e => simp
    | ok ys => simp [eq_comm]

theorem CFunctor.images_wf {F : CFunctor} {ls : List Layer} {xs : List LArrow} (hF : F.ImagesWF)
    (h : F.images ls = .ok xs) : ∀ x ∈ xs, x.WF := by
  induction ls generalizing xs with
  | nil => cases h; simp
  | cons l ls ih =>
    obtain ⟨x, ys, hx, hys, rfl⟩ := F.images_cons_ok.mp h
    intro y hy
    rcases List.mem_cons.mp hy with rfl | hy
    · exact (F.box_wf hF hx).1
    · exact ih hys y hy

/-- `F(a)`, inverted: both mappings are defined where they are used and the images compose from
    `Id(F(dom))`. -/
theorem CFunctor.applyArrow_inv {F : CFunctor} {a r : LArrow} (h : F.applyArrow a = .ok r) :
    ∃ t imgs, F.obj a.dom = .ok t ∧ F.images a.boxes = .ok imgs ∧ (LArrow.id t).thenN imgs = .ok r := by
  unfold CFunctor.applyArrow at h
  split at h
  · cases h
  · rename_i t ht
    split at h
    · cases h
    · exact ⟨t, _, ht, ‹_›, h⟩

/-- The code as written (cat.py:880): whatever the two mappings are, an image that is handed
    back is well-typed and starts on the image of the domain — because the images are composed
    with `then`, which checks every junction, the one after `Id(F(dom))` included. -/
theorem CFunctor.applyArrow_wf {F : CFunctor} {a r : LArrow} (hF : F.ImagesWF)
    (h : F.applyArrow a = .ok r) : r.WF ∧ F.obj a.dom = .ok r.dom := by
  obtain ⟨t, imgs, ht, hi, hr⟩ := F.applyArrow_inv h
  refine ⟨LArrow.thenN_wf (LArrow.id_wf t) (F.images_wf hF hi) hr, ?_⟩
  obtain ⟨_, rfl⟩ := LArrow.thenN_ok hr
  exact ht

/-- The image is handed back exactly when both mappings are defined where they are used and the
    images compose, starting on the image of the domain; otherwise the request is refused. -/
theorem CFunctor.applyArrow_ok_iff (F : CFunctor) (a : LArrow) :
    (∃ r, F.applyArrow a = .ok r) ↔
      ∃ t imgs, F.obj a.dom = .ok t ∧ F.images a.boxes = .ok imgs ∧ AJunctions t imgs := by
  constructor
  · rintro ⟨r, h⟩
    obtain ⟨t, imgs, ht, hi, hr⟩ := F.applyArrow_inv h
    exact ⟨t, imgs, ht, hi, (LArrow.thenN_ok hr).1⟩
  · rintro ⟨t, imgs, ht, hi, hj⟩
    simp only [CFunctor.applyArrow, ht, hi]
    exact (LArrow.thenN_ok_iff (LArrow.id t) imgs).mpr hj

theorem CFunctor.applyArrow_refused {F : CFunctor} {a : LArrow} {t : Ty} {imgs : List LArrow}
    (ht : F.obj a.dom = .ok t) (hi : F.images a.boxes = .ok imgs) (hj : ¬ AJunctions t imgs) :
    F.applyArrow a = .error .axiom := by
  simp only [CFunctor.applyArrow, ht, hi]
  exact LArrow.thenN_refused hj

/-- `F` is typed on the box `l`: its image goes from the image of the domain to the image of the
    codomain. -/
def CFunctor.okOn (F : CFunctor) (l : Layer) : Prop :=
  ∀ x, F.box l = .ok x → F.obj l.dom = .ok x.arrow.dom ∧ F.obj l.cod = .ok x.arrow.cod

theorem CFunctor.images_chain {F : CFunctor} {s c t : Ty} {ls : List Layer} {imgs : List LArrow}
    (hch : Chain s ls c) (hs : F.obj s = .ok t) (hb : ∀ l ∈ ls, F.okOn l)
    (hi : F.images ls = .ok imgs) : AJunctions t imgs ∧ F.obj c = .ok (alastCod t imgs) := by
  induction ls generalizing s t imgs with
  | nil => cases hi; cases hch; exact ⟨trivial, hs⟩
  | cons l ls ih =>
    obtain ⟨x, ys, hx, hys, rfl⟩ := F.images_cons_ok.mp hi
    obtain ⟨rfl, h2⟩ := hch
    obtain ⟨hd, hc⟩ := hb l (List.mem_cons_self ..) x hx
    obtain ⟨j, e⟩ := ih h2 hc (fun l' hl' => hb l' (List.mem_cons_of_mem _ hl')) hys
    exact ⟨⟨Except.ok.inj (hs.symm.trans hd), j⟩, e⟩

/-- If every box image is typed `F(dom) → F(cod)`, the image of a well-typed arrow is never
    refused for its types, is well-typed, and goes from the image of the domain to the image of
    the codomain. -/
theorem CFunctor.applyArrow_typed {F : CFunctor} {a : LArrow} {t : Ty} {imgs : List LArrow}
    (hF : F.ImagesWF) (ha : a.WF) (hb : ∀ l ∈ a.boxes, F.okOn l)
    (ht : F.obj a.dom = .ok t) (hi : F.images a.boxes = .ok imgs) :
    ∃ r, F.applyArrow a = .ok r ∧ r.WF ∧ F.obj a.dom = .ok r.dom ∧ F.obj a.cod = .ok r.cod := by
  obtain ⟨j, e⟩ := F.images_chain ha ht hb hi
  obtain ⟨r, hr⟩ := (F.applyArrow_ok_iff a).mpr ⟨t, imgs, ht, hi, j⟩
  obtain ⟨w, d⟩ := F.applyArrow_wf hF hr
  refine ⟨r, hr, w, d, ?_⟩
  simp only [CFunctor.applyArrow, ht, hi] at hr
  obtain ⟨_, rfl⟩ := LArrow.thenN_ok hr
  exact e

theorem CFunctor.apply_wf {F : CFunctor} {x r : CVal} (hF : F.ImagesWF) (h : F.apply x = .ok r) :
    r.WF := by
  unfold CFunctor.apply at h
  split at h
  · split at h
    · exact F.box_wf hF h
    · cases h
  · split at h
    · cases h
    · rename_i r' hr; cases h
      exact ⟨(F.applyArrow_wf hF hr).1, by simp⟩

/-! ### Closure over the op language of the class `cat` -/

mutual
/-- Every functor occurring in the expression has well-typed images. -/
def CExpr.ImagesWF : CExpr → Prop
  | .mk .. | .box _ | .id _ => True
  | .thenN r args => r.ImagesWF ∧ CExpr.ImagesWFList args
  | .dagger a | .slice a _ _ | .sliceRev a _ _ | .getItem a _ => a.ImagesWF
  | .functor F a => F.ImagesWF ∧ a.ImagesWF
def CExpr.ImagesWFList : List CExpr → Prop
  | [] => True
  | a :: as => a.ImagesWF ∧ CExpr.ImagesWFList as
end

mutual
theorem CExpr.eval_wf (e : CExpr) {x : CVal} (hF : e.ImagesWF) (h : e.eval = .ok x) : x.WF := by
  match e with
  | .mk dom cod boxes =>
    simp only [CExpr.eval] at h
    split at h
    · cases h
    · rename_i a ha; cases h; exact ⟨LArrow.mk?_wf ha, by simp⟩
  | .box l => simp only [CExpr.eval, Except.ok.injEq] at h; subst h
              exact ⟨Layer.arrow_wf l, fun _ => ⟨l, rfl⟩⟩
  | .id t => simp only [CExpr.eval, Except.ok.injEq] at h; subst h
             exact ⟨LArrow.id_wf t, by simp⟩
  | .thenN r args =>
    simp only [CExpr.eval] at h
    split at h
    · cases h
    · rename_i y hy
      split at h
      · cases h
      · rename_i ys hys
        exact CVal.thenN_wf (CExpr.eval_wf r hF.1 hy) (CExpr.evalList_wf args hF.2 hys) h
  | .dagger a =>
    simp only [CExpr.eval] at h
    split at h
    · cases h
    · rename_i y hy; exact CVal.dagger_wf (CExpr.eval_wf a hF hy) h
  | .slice a s t =>
    simp only [CExpr.eval] at h
    split at h
    · cases h
    · rename_i y hy
      split at h
      · cases h
      · rename_i r hr; cases h
        exact ⟨LArrow.slice_wf s t (CExpr.eval_wf a hF hy).1 hr, by simp⟩
  | .sliceRev a s t =>
    simp only [CExpr.eval] at h
    split at h
    · cases h
    · rename_i y hy; exact CVal.sliceRev_wf s t (CExpr.eval_wf a hF hy) h
  | .getItem a i =>
    simp only [CExpr.eval] at h
    split at h
    · cases h
    · split at h
      · cases h
      · rename_i r hr; cases h; exact LArrow.getItem_wf hr
  | .functor F a =>
    simp only [CExpr.eval] at h
    split at h
    · cases h
    · exact F.apply_wf hF.1 h
theorem CExpr.evalList_wf (es : List CExpr) {xs : List CVal} (hF : CExpr.ImagesWFList es)
    (h : CExpr.evalList es = .ok xs) : ∀ x ∈ xs, x.WF := by
  match es with
  | [] => simp only [CExpr.evalList, Except.ok.injEq] at h; subst h; simp
  | a :: as =>
    simp only [CExpr.evalList] at h
    split at h
    · cases h
    · rename_i y hy
      split at h
      · cases h
      · rename_i ys hys
        simp only [Except.ok.injEq] at h; subst h
        intro z hz
        rcases List.mem_cons.mp hz with rfl | hz
        · exact CExpr.eval_wf a hF.1 hy
        · exact CExpr.evalList_wf as hF.2 hys z hz
end

end DV
