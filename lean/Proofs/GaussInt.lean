/-
  Proofs/GaussInt.lean — the scalar type the model is executed at, `DV.GaussInt` (ℤ[i] with the
  `Add Mul Zero One Conj` instances of Model/Tensor.lean), is a commutative star ring.  Hence
  every theorem of Proofs/Tensor*.lean applies to the arrays the driver computes.  The theorems
  take conjugation from `star` (`starConj`, Proofs/TensorOps.lean), the model from its own
  `Conj GaussInt`; an expression such as `f0.dagger` of Props/C08.lean, written without a star
  ring in sight, elaborates to the model's instance, and the two agree by unfolding because
  `star` is defined here as `Conj.conj` (last `example` below).
-/
import Model.Tensor
import Mathlib.Algebra.Ring.MinimalAxioms
import Mathlib.Algebra.Star.Basic
import Mathlib.Tactic.Ring

namespace DV
namespace GaussInt

@[ext] theorem ext {a b : GaussInt} (h1 : a.re = b.re) (h2 : a.im = b.im) : a = b := by
  cases a; cases b; simp_all

instance : Neg GaussInt := ⟨fun a => ⟨-a.re, -a.im⟩⟩

@[simp] theorem add_re (a b : GaussInt) : (a + b).re = a.re + b.re := rfl
@[simp] theorem add_im (a b : GaussInt) : (a + b).im = a.im + b.im := rfl
@[simp] theorem mul_re (a b : GaussInt) : (a * b).re = a.re * b.re - a.im * b.im := rfl
@[simp] theorem mul_im (a b : GaussInt) : (a * b).im = a.re * b.im + a.im * b.re := rfl
@[simp] theorem zero_re : (0 : GaussInt).re = 0 := rfl
@[simp] theorem zero_im : (0 : GaussInt).im = 0 := rfl
@[simp] theorem one_re : (1 : GaussInt).re = 1 := rfl
@[simp] theorem one_im : (1 : GaussInt).im = 0 := rfl
@[simp] theorem neg_re (a : GaussInt) : (-a).re = -a.re := rfl
@[simp] theorem neg_im (a : GaussInt) : (-a).im = -a.im := rfl

instance : CommRing GaussInt :=
  CommRing.ofMinimalAxioms
    (add_assoc := by intros; ext <;> simp <;> ring)
    (zero_add := by intros; ext <;> simp)
    (neg_add_cancel := by intros; ext <;> simp)
    (mul_assoc := by intros; ext <;> simp <;> ring)
    (mul_comm := by intros; ext <;> simp <;> ring)
    (one_mul := by intros; ext <;> simp)
    (left_distrib := by intros; ext <;> simp <;> ring)

instance : StarRing GaussInt where
  star := Conj.conj
  star_involutive a := by ext <;> simp [Conj.conj]
  star_mul a b := by ext <;> simp [Conj.conj] <;> ring
  star_add a b := by ext <;> simp [Conj.conj] <;> ring

/-- The ring structure is built on the model's own operations. -/
example (a b : GaussInt) : a * b = ⟨a.re * b.re - a.im * b.im, a.re * b.im + a.im * b.re⟩ := rfl
example (a : GaussInt) : star a = Conj.conj a := rfl

end GaussInt
end DV
