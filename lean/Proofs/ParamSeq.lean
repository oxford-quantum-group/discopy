/-
  Proofs/ParamSeq.lean — lemmas about Model/ParamSeq.lean: the result of `subs` / `lambdify` is a
  coherent diagram (its three copies agree), so operations compose.
-/
import Model.ParamSeq
import Proofs.Param

namespace DV.Param

variable {R S T : Type}

theorem PLayer.dom_mapData (f : R → S) (l : PLayer R) : (l.mapData f).dom = l.dom := rfl
theorem PLayer.cod_mapData (f : R → S) (l : PLayer R) : (l.mapData f).cod = l.cod := rfl
theorem PLayer.box_mapData (f : R → S) (l : PLayer R) : (l.mapData f).box = l.box.mapData f := rfl
theorem PLayer.left_mapData (f : R → S) (l : PLayer R) : (l.mapData f).left = l.left := rfl

theorem chained_mapData (f : R → S) : ∀ (t : List Nat) (ls : List (PLayer R)),
    Chained t (ls.map (PLayer.mapData f)) ↔ Chained t ls
  | _, [] => Iff.rfl
  | t, l :: ls => by
    simp only [List.map_cons, Chained, PLayer.dom_mapData, PLayer.cod_mapData]
    exact and_congr Iff.rfl (chained_mapData f l.cod ls)

theorem codAfter_mapData (f : R → S) : ∀ (t : List Nat) (ls : List (PLayer R)),
    codAfter t (ls.map (PLayer.mapData f)) = codAfter t ls
  | _, [] => rfl
  | _, l :: ls => by
    simp only [List.map_cons, codAfter, PLayer.cod_mapData]
    exact codAfter_mapData f l.cod ls

/-- Composing whiskered boxes one by one onto `a` appends them to all three copies. -/
theorem thenAll_ofLayers : ∀ (ls : List (PLayer R)) (a : RDiagram R), Chained a.cod ls →
    a.thenAll (ls.map RDiagram.ofLayer) =
      .ok { dom := a.dom, cod := codAfter a.cod ls, boxes := a.boxes ++ ls.map (·.box),
            offsets := a.offsets ++ ls.map (·.left.length), layers := a.layers ++ ls }
  | [], a, _ => by simp [RDiagram.thenAll, codAfter]
  | l :: ls, a, h => by
    obtain ⟨h1, h2⟩ := h
    have hstep : a.thenOne (RDiagram.ofLayer l) =
        .ok { dom := a.dom, cod := l.cod, boxes := a.boxes ++ [l.box],
              offsets := a.offsets ++ [l.left.length], layers := a.layers ++ [l] } := by
      simp [RDiagram.thenOne, RDiagram.ofLayer, h1]
    simp only [List.map_cons, RDiagram.thenAll, hstep]
    rw [thenAll_ofLayers ls _ h2]
    simp [codAfter]

theorem ofLayers_coherent (dom : List Nat) (ls : List (PLayer R)) (h : Chained dom ls) :
    (RDiagram.ofLayers dom ls).Coherent := ⟨rfl, rfl, h, rfl⟩

/-- `subs` as the code writes it rebuilds ALL copies from the substituted layers. -/
theorem subs_eq (f : R → S) (d : RDiagram R) (h : Chained d.dom d.layers) :
    d.subs f = .ok (RDiagram.ofLayers d.dom (d.layers.map (PLayer.mapData f))) := by
  have hc : Chained (RDiagram.id (R := S) d.dom).cod (d.layers.map (PLayer.mapData f)) :=
    (chained_mapData f d.dom d.layers).mpr h
  have := thenAll_ofLayers (d.layers.map (PLayer.mapData f)) (RDiagram.id d.dom) hc
  have e : d.layers.map (fun l => RDiagram.ofLayer (l.mapData f))
      = (d.layers.map (PLayer.mapData f)).map RDiagram.ofLayer := by
    simp [List.map_map, Function.comp_def]
  simp only [RDiagram.subs]
  rw [e, this]
  simp [RDiagram.id, RDiagram.ofLayers]

theorem lambdify_eq_subs_seq (f : R → S) (d : RDiagram R) : d.lambdify f = d.subs f := rfl

theorem mapData_coherent (f : R → S) (d : RDiagram R) (h : d.Coherent) : (d.mapData f).Coherent := by
  refine ⟨?_, ?_, (chained_mapData f d.dom d.layers).mpr h.chained, ?_⟩
  · simp [RDiagram.mapData, h.boxes, List.map_map, PLayer.mapData, Function.comp_def]
  · simp [RDiagram.mapData, h.offsets, List.map_map, PLayer.mapData, Function.comp_def]
  · simp only [RDiagram.mapData, codAfter_mapData]
    exact h.cod

theorem subs_of_coherent (f : R → S) (d : RDiagram R) (h : d.Coherent) :
    d.subs f = .ok (d.mapData f) := by
  rw [subs_eq f d h.chained]
  congr 1
  simp [RDiagram.ofLayers, RDiagram.mapData, h.boxes, h.offsets, h.cod, codAfter_mapData,
    List.map_map, PLayer.mapData, Function.comp_def]

theorem RDiagram.mapData_mapData (f : R → S) (g : S → T) (d : RDiagram R) :
    (d.mapData f).mapData g = d.mapData (g ∘ f) := by
  simp [RDiagram.mapData, List.map_map, PLayer.mapData, PBox.mapData, Function.comp_def]

theorem sliceL_map {α β : Type} (g : α → β) (i j : Nat) (xs : List α) :
    sliceL i j (xs.map g) = (sliceL i j xs).map g := by
  simp [sliceL, List.map_drop, List.map_take]

theorem getLast?_getD_map (f : R → S) (l : PLayer R) (ls : List (PLayer R)) :
    (((l :: ls).map (PLayer.mapData f)).getLast?.getD (l.mapData f))
      = (((l :: ls).getLast?.getD l)).mapData f := by
  rw [List.getLast?_map]
  cases (l :: ls).getLast? <;> rfl

/-- Slicing reads the layers only, and commutes with rebuilding the boxes. -/
theorem slice_mapData (f : R → S) (i j : Nat) (d : RDiagram R) :
    (d.mapData f).slice i j = (d.slice i j).mapData f := by
  unfold RDiagram.slice
  have hs : sliceL i j (d.mapData f).layers = (sliceL i j d.layers).map (PLayer.mapData f) :=
    sliceL_map _ i j d.layers
  rw [hs]
  cases hl : sliceL i j d.layers with
  | nil =>
    simp only [List.map_nil]
    have hlen : (d.mapData f).layers.length = d.layers.length := by simp [RDiagram.mapData]
    rw [hlen]
    split
    · rfl
    · have hget : (d.mapData f).layers[i]? = (d.layers[i]?).map (PLayer.mapData f) := by
        simp [RDiagram.mapData]
      rw [hget]
      cases d.layers[i]? <;> rfl
  | cons l ls =>
    simp only [List.map_cons]
    have := getLast?_getD_map f l ls
    simp only [List.map_cons] at this
    rw [this]
    simp [RDiagram.mapData, PLayer.cod_mapData, PLayer.dom_mapData, PLayer.box_mapData,
      PLayer.left_mapData, List.map_map, Function.comp_def]

theorem slice_boxes_of_coherent (i j : Nat) (d : RDiagram R) (h : d.Coherent) :
    (d.slice i j).boxes = sliceL i j d.boxes ∧ (d.slice i j).offsets = sliceL i j d.offsets := by
  rw [h.boxes, h.offsets, sliceL_map, sliceL_map]
  unfold RDiagram.slice
  cases hl : sliceL i j d.layers with
  | nil =>
    simp only [List.map_nil]
    split
    · exact ⟨rfl, rfl⟩
    · cases d.layers[i]? <;> exact ⟨rfl, rfl⟩
  | cons l ls => exact ⟨rfl, rfl⟩

/-- Reading a coherent diagram through boxes and offsets recovers its layers. -/
theorem layersOfBoxes_of_chained : ∀ (ls : List (PLayer R)) (t : List Nat), Chained t ls →
    layersOfBoxes t (ls.map (·.box)) (ls.map (·.left.length)) = ls
  | [], _, _ => rfl
  | l :: ls, t, h => by
    obtain ⟨rfl, h2⟩ := h
    have e1 : l.dom.take l.left.length = l.left := by
      unfold PLayer.dom
      rw [List.append_assoc, List.take_left']
      rfl
    have e2 : l.dom.drop (l.left.length + l.box.dom.length) = l.right := by
      unfold PLayer.dom
      rw [← List.length_append, List.drop_left']
      rfl
    simp only [List.map_cons, layersOfBoxes, e1, e2]
    exact congrArg (l :: ·) (layersOfBoxes_of_chained ls l.cod h2)

theorem evalBoxes_eq_eval [Add R] [Mul R] [Zero R] [One R] [HasConj R] (d : RDiagram R)
    (h : d.Coherent) : d.evalBoxes = d.eval := by
  unfold RDiagram.evalBoxes RDiagram.eval
  rw [h.boxes, h.offsets, layersOfBoxes_of_chained d.layers d.dom h.chained]

end DV.Param
