/-
  Proofs/TensorBubble.lean — C09 for diagrams with bubbles.

  * `BFunctor.Good`: what discopy's classes guarantee of the `Bubble` objects (a generic box
    with the type of its well-typed inside); `good_ofTable`: the driver's Boolean test implies it.
  * `box_ok`: under `Good` every genuine box, bubble or not, is sent to a tensor of the right type
    (`Tensor.map_wf`, Proofs/TensorOps.lean, for the bubbles).
  * `BFunctor.call_eq_layerwise`, `BFunctor.box_eq_refBox`: with bubbles (nested to any depth)
    the evaluation is the layer-by-layer composite of the tensors `self(box)` (an instance of
    `callI_eq_layerwiseI`, Proofs/TensorFunctor.lean), and `self(box)` is the defining tensor of
    the reference semantics, in which a bubble is the entrywise image of the layer-by-layer
    composite of its inside (`C09.functor_eval_eq_layers_bubbles`).
-/
import Proofs.TensorFunctor

namespace DV

namespace Tensor
variable {R : Type}

/-- `Tensor.map` is the entrywise image: `t.map(f)[i] = f(t[i])` at every index. -/
theorem map_entry [Zero R] (f : R → R) (t : Tensor R) (h : t.WF) {i : List Nat}
    (hi : InRange (t.dom ++ t.cod) i) : (t.map f).entry i = f (t.entry i) := entry_map f t h hi

end Tensor

namespace BFunctor
open Tensor NDArray TFunctor

section
variable {R : Type} [CommSemiring R] [StarRing R]

/-- What discopy's classes guarantee of the `Bubble` objects of a diagram: a bubble is a
    generic box (never a `Swap`/`Cup`/`Cap`) with the type of its inside (the default of
    monoidal.py:786-788), its inside is a well-typed diagram (C01) whose special boxes are
    genuine. -/
structure Good (F : BFunctor R) : Prop where
  kind : ∀ b s, F.bub b = some s → b.kind = .gen
  dom : ∀ b s, F.bub b = some s → b.dom = s.inside.dom
  cod : ∀ b s, F.bub b = some s → b.cod = s.inside.cod
  wf : ∀ b s, F.bub b = some s → s.inside.WF
  gen : ∀ b s, F.bub b = some s → ∀ b' ∈ s.inside.boxes, Genuine b'

omit [CommSemiring R] [StarRing R] in
theorem mapE_ok {f : R → R} {x : Except Err (Tensor R)} {t : Tensor R}
    (h : mapE f x = .ok t) : ∃ t0, x = .ok t0 ∧ t = t0.map f := by
  cases x with
  | error e => cases h
  | ok t0 => exact ⟨t0, rfl, by cases h; rfl⟩

/-- `box_bubble` (the `Bubble` branch of `__call__`, tensor.py:336-337; `C09.eval_bubble_box`):
    `F(bubble) = F(bubble.inside).map(bubble.func)`. -/
theorem box_bubble (F : BFunctor R) (n : Nat) (b : Box) (s : BubbleSpec R)
    (h : F.bub b = some s) : F.box (n + 1) b = mapE s.func (F.call n s.inside) := by
  simp only [BFunctor.box, h, BFunctor.call]

theorem box_plain (F : BFunctor R) (n : Nat) (b : Box) (h : F.bub b = none) :
    F.box n b = F.base.box b := by
  cases n <;> simp only [BFunctor.box, h]

theorem refBox_plain (F : BFunctor R) (n : Nat) (b : Box) (h : F.bub b = none) :
    F.refBox n b = F.base.box b := by
  cases n <;> simp only [BFunctor.refBox, h]

omit [CommSemiring R] [StarRing R] in
theorem bub_swap {F : BFunctor R} (hG : F.Good) (b : Box) (hk : b.kind = .swap) :
    F.bub b = none := by
  cases h : F.bub b with
  | none => rfl
  | some s => rw [hG.kind b s h] at hk; cases hk

/-- Every box of a good table — bubble or not — is sent to a tensor of the right type. -/
theorem box_ok {F : BFunctor R} (hG : F.Good) (n : Nat) (b : Box) (hb : Genuine b) :
    BoxOKI F.base (F.box n) b := by
  intro t ht
  cases h : F.bub b with
  | none =>
    rw [box_plain F n b h] at ht
    exact TFunctor.boxOK_of_genuine F.base b hb t ht
  | some s =>
    cases n with
    | zero => simp [BFunctor.box, h] at ht
    | succ n =>
      rw [box_bubble F n b s h] at ht
      obtain ⟨t0, h0, rfl⟩ := mapE_ok ht
      obtain ⟨hw, hd, hc⟩ := callI_type F.base (F.box n) s.inside t0 h0
      refine ⟨map_wf _ _ hw, ?_, ?_⟩
      · rw [map_dom, hd, hG.dom b s h]
      · rw [map_cod, hc, hG.cod b s h]

/-- Same for the reference interpretation. -/
theorem refBox_ok {F : BFunctor R} (hG : F.Good) (n : Nat) (b : Box) (hb : Genuine b)
    (heq : ∀ b, F.box n b = F.refBox n b) : BoxOKI F.base (F.refBox n) b := by
  intro t ht
  rw [← heq b] at ht
  exact box_ok hG n b hb t ht

/-- One level: the evaluation of a diagram whose boxes may be bubbles is the layer-by-layer
    composite of the tensors `self(box)`. -/
theorem call_eq_layerwise {F : BFunctor R} (hG : F.Good) (n : Nat) (d : Diagram) (hwf : d.WF)
    (hgen : ∀ b ∈ d.boxes, Genuine b) : F.call n d = F.layerwise n d :=
  callI_eq_layerwiseI F.base (F.box n) d hwf (fun b hb => (hgen b hb).1)
    (fun b _ hk => box_plain F n b (bub_swap hG b hk))
    (fun b hb => box_ok hG n b (hgen b hb))

/-- All the way down: `self(box)` is the defining tensor of the box, where the defining tensor of
    a bubble is the entrywise image of the LAYER-BY-LAYER composite of its inside. -/
theorem box_eq_refBox {F : BFunctor R} (hG : F.Good) : ∀ (n : Nat) (b : Box),
    F.box n b = F.refBox n b
  | 0, b => by simp only [BFunctor.box, BFunctor.refBox]
  | n + 1, b => by
    cases h : F.bub b with
    | none => rw [box_plain F _ b h, refBox_plain F _ b h]
    | some s =>
      have ih : F.box n = F.refBox n := funext (box_eq_refBox hG n)
      simp only [BFunctor.box, BFunctor.refBox, h]
      have := call_eq_layerwise hG n s.inside (hG.wf b s h) (hG.gen b s h)
      unfold BFunctor.call BFunctor.layerwise at this
      rw [this, ih]

/-- The bubble seen as a one-box diagram (what `bubble.eval()` evaluates) is `self(bubble)`. -/
theorem call_ofBox {F : BFunctor R} (hG : F.Good) (n : Nat) (b : Box)
    (hb : Genuine b) : F.call n (Diagram.ofBox b) = F.box n b :=
  callI_ofBox F.base (F.box n) b hb.1 (fun hk => box_plain F n b (bub_swap hG b hk))
    (box_ok hG n b hb)

omit [CommSemiring R] [StarRing R] in
/-- The Boolean the driver reports (`bfgood`) implies `Good` for a table-built functor whose
    insides are well-typed (C01: they are values of the op language). -/
theorem good_ofTable (base : TFunctor R) (tab : List (Box × BubbleSpec R))
    (hB : goodTableB tab = true) (hwf : ∀ p ∈ tab, p.2.inside.WF) : (ofTable base tab).Good := by
  have key : ∀ b s, (ofTable base tab).bub b = some s →
      s.inside.WF ∧ goodEntryB b s.inside = true := by
    intro b s h
    simp only [ofTable, Option.map_eq_some_iff] at h
    obtain ⟨p, hp, rfl⟩ := h
    have hmem := List.mem_of_find?_eq_some hp
    have hkey := List.find?_some hp
    have hb : p.1 = b := by simpa using hkey
    subst hb
    exact ⟨hwf p hmem, List.all_eq_true.1 hB p hmem⟩
  have split : ∀ b s, (ofTable base tab).bub b = some s →
      b.kind = .gen ∧ b.dom = s.inside.dom ∧ b.cod = s.inside.cod
        ∧ s.inside.boxes.all TFunctor.genuineB = true := by
    intro b s h
    have := (key b s h).2
    simp only [goodEntryB, Bool.and_eq_true, beq_iff_eq] at this
    exact ⟨this.1.1.1, this.1.1.2, this.1.2, this.2⟩
  exact
    { kind := fun b s h => (split b s h).1
      dom := fun b s h => (split b s h).2.1
      cod := fun b s h => (split b s h).2.2.1
      wf := fun b s h => (key b s h).1
      gen := fun b s h b' hb' =>
        genuine_of_genuineB b' (List.all_eq_true.1 (split b s h).2.2.2 b' hb') }

end
end BFunctor

end DV
