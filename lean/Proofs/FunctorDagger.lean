/-
  Proofs/FunctorDagger.lean — C04: `F(d†) = F(d)†` for diagrams whose boxes satisfy the box-level
  dagger law (generator boxes do; `Swap(x, y)` with two multi-wire images does not: finding F6).
-/
import Proofs.FunctorTensor

namespace DV

/-! ### Structural laws of `thenD` and dagger -/

theorem thenD_dagger (a b : Diagram) : (a.thenD b).dagger = b.dagger.thenD a.dagger := by
  simp [Diagram.thenD, Diagram.dagger, Diagram.ofLayers, LArrow.dag]

theorem whiskR_dag (t : Ty) (l : Layer) : (whiskR t l).dag = whiskR t l.dag := rfl
theorem whiskL_dag (t : Ty) (l : Layer) : (whiskL t l).dag = whiskL t l.dag := rfl

/-- `(Id(l) @ x @ Id(r))† = Id(l) @ x† @ Id(r)`. -/
theorem layerD_dagger (l r : Ty) {x : Diagram} (hx : x.WF) :
    (layerD l x r).dagger = layerD l x.dagger r := by
  have hd := hx.ldom
  have hc := hx.lcod
  simp only [layerD, Diagram.tensorD, Diagram.dagger, Diagram.ofLayers, Diagram.id, LArrow.id,
    LArrow.dag, List.map_nil, List.append_nil, List.nil_append, List.map_map, List.map_reverse,
    Diagram.mk.injEq, LArrow.mk.injEq]
  refine ⟨by simp [hc], by simp [hd], ?_, ?_, by simp [hc], by simp [hd], ?_⟩
  · simp [Function.comp_def, whiskR, whiskL, Layer.dag]
  · simp [Function.comp_def, whiskR, whiskL, Layer.dag, Int.add_comm]
  · simp [Function.comp_def, whiskR, whiskL, Layer.dag]

/-! ### Dagger of a fold -/

/-- `M₁ ≫ (M₂ ≫ … (Mₖ ≫ z))`. -/
def foldR (Ms : List Diagram) (z : Diagram) : Diagram := Ms.foldr Diagram.thenD z

theorem foldT_append (res : Diagram) (Ls : List Diagram) (L : Diagram) :
    foldT res (Ls ++ [L]) = (foldT res Ls).thenD L := by simp [foldT, List.foldl_append]

theorem foldT_dagger (res : Diagram) (Ls : List Diagram) :
    (foldT res Ls).dagger = foldR (Ls.reverse.map Diagram.dagger) res.dagger := by
  induction Ls generalizing res with
  | nil => simp [foldT, foldR]
  | cons L Ls ih =>
    have : foldT res (L :: Ls) = foldT (res.thenD L) Ls := rfl
    rw [this, ih, thenD_dagger]
    simp [foldR, List.foldr_append]

/-- `((a ≫ M₁) ≫ … ≫ Mₖ) ≫ z = a ≫ (M₁ ≫ (… ≫ (Mₖ ≫ z)))`: a left fold followed by `z` is the
    right fold ending in `z`, with the seed moved to the front. -/
theorem foldT_eq_thenD_foldR (a z : Diagram) (Ms : List Diagram) :
    (foldT a Ms).thenD z = a.thenD (foldR Ms z) := by
  induction Ms generalizing a with
  | nil => simp [foldT, foldR]
  | cons M Ms ih =>
    have : foldT a (M :: Ms) = foldT (a.thenD M) Ms := rfl
    rw [this, ih, Diagram.thenD_assoc]
    simp [foldR]

theorem Functor.Imgs.chain {F : Functor} {ls : List Layer} {Ls : List Diagram} (h : F.Imgs ls Ls) :
    ∀ L ∈ Ls, L.WF := by
  induction h with
  | nil => simp
  | cons himg _ ih =>
    intro L hL
    rcases List.mem_cons.mp hL with rfl | hL
    · exact himg.props.1
    · exact ih L hL

/-- Images of the daggered layers, in reverse order, are the daggers of the images. -/
theorem Functor.Imgs.dagger {F : Functor} {ls : List Layer} {Ls : List Diagram} (h : F.Imgs ls Ls)
    (hdag : ∀ l ∈ ls, ∀ x, F.box l.box = .ok x → F.box l.box.dag = .ok x.dagger) :
    F.Imgs (ls.reverse.map Layer.dag) (Ls.reverse.map Diagram.dagger) := by
  induction h with
  | nil => exact .nil
  | @cons l ls L Ls himg _ ih =>
    have hrest := ih (fun l' hl' => hdag l' (List.mem_cons_of_mem _ hl'))
    simp only [List.reverse_cons, List.map_append, List.map_cons, List.map_nil]
    refine hrest.append (.cons ?_ .nil)
    obtain ⟨lt, rt, x, h1, h2, hx, xw, xd, xc, rfl⟩ := himg
    refine ⟨lt, rt, x.dagger, h1, h2, hdag l (List.mem_cons_self ..) x hx, Diagram.dagger_wf xw, ?_, ?_,
      (layerD_dagger lt rt xw)⟩
    · simp only [Layer.dag_box, Box.dag_dom]; rw [Diagram.dagger_dom xw]; exact xc
    · simp only [Layer.dag_box, Box.dag_cod]; rw [Diagram.dagger_cod xw]; exact xd

/-- C04: the image of the dagger is the dagger of the image, for every diagram whose boxes satisfy
    the box-level dagger law `hdag` (generator boxes do, by `Functor.box_dagger`). -/
theorem Functor.apply_dagger (F : Functor) {d fd : Diagram} (hd : d.WF)
    (hok : ∀ b ∈ d.boxes, F.okOn b)
    (hdag : ∀ b ∈ d.boxes, ∀ x, F.box b = .ok x → F.box b.dag = .ok x.dagger)
    (hfd : F.apply d = .ok fd) : F.apply d.dagger = .ok fd.dagger := by
  obtain ⟨fdw, fddom, fdcod⟩ := F.apply_props hd hok hfd
  obtain ⟨t, Ls, ht, himgs, hfold⟩ := F.apply_fold hd hok hfd
  cases ht.symm.trans fddom
  have himgs' := himgs.dagger
    (fun l hl => hdag l.box (by rw [hd.boxes]; exact List.mem_map_of_mem hl))
  have hdw := Diagram.dagger_wf hd
  have hcod' : F.ty d.dagger.dom = .ok fd.cod := by rw [Diagram.dagger_dom hd]; exact fdcod
  rw [F.apply_of_imgs hdw hcod' himgs']
  congr 1
  -- foldT (id fd.cod) (Ls†) = fd†
  obtain ⟨w, hdm, hcd⟩ := himgs'.foldT_props hdw.chain' (Diagram.id_wf fd.cod) hcod'
  have hcod_eq : (foldT (Diagram.id fd.cod) (Ls.reverse.map Diagram.dagger)).cod = fd.dom := by
    rw [Diagram.dagger_cod hd, fddom] at hcd; exact (Except.ok.inj hcd).symm
  have h1 := foldT_eq_thenD_foldR (Diagram.id fd.cod) (Diagram.id fd.dom)
    (Ls.reverse.map Diagram.dagger)
  rw [Diagram.thenD_id w hcod_eq] at h1
  have hR : foldR (Ls.reverse.map Diagram.dagger) (Diagram.id fd.dom) = fd.dagger := by
    rw [congrArg Diagram.dagger hfold, foldT_dagger, Diagram.dagger_id]
  rw [h1, hR]
  exact Diagram.id_thenD (Diagram.dagger_wf fdw) (Diagram.dagger_dom fdw)

/-! Finding F6 in the model: for `Swap(x, y)` with two-wire images the box-level dagger law fails
    (evaluated in `C04.F6_swap_witness`). -/
namespace F6
def x : Ob := ⟨"x", 0⟩
def y : Ob := ⟨"y", 0⟩
def p : Ob := ⟨"p", 0⟩
def q : Ob := ⟨"q", 0⟩
def r : Ob := ⟨"r", 0⟩
def s : Ob := ⟨"s", 0⟩
def F : Functor := { ob := [("x", [p, q]), ("y", [r, s])], ar := [] }
def sw : Box := Box.swap x y
end F6

end DV
