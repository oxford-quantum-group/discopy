/-
  Proofs/TensorNary.lean — the calling conventions of Model/TensorNary.lean.

  * `thenArgs_tensors` / `tensorArgs_tensors`: on Tensor arguments, the n-ary forms
    `f.then(g₁, …, g_k)` / `f.tensor(g₁, …, g_k)` (the recursion of cat.py:305-308 /
    monoidal.py:417-420 over the dispatch of tensor.py:177-205) are the ITERATED BINARY
    operations, for every k ≥ 0 (induction on the argument list);
  * well-formedness and types of the n-ary tensor, re-association (`foldl_tensor_assoc`), and
    the Kronecker product of three factors as a matrix statement (`tensor3_kron`);
  * for the `Sum` fallback of Props/C08.lean: the composites of one tensor with the terms of a
    sum (`thenTerms_single`), and an all-zero term has zero entries (`entry_of_isZero`).
-/
import Model.TensorNary
import Proofs.TensorMatrix

namespace DV
open NDArray

/-! ### n-ary forms on Tensor arguments -/

namespace TVal
variable {R : Type} [Add R] [Mul R] [Zero R] [One R] [DecidableEq R]

/-- Lift a result to `TVal`. -/
def liftT : Except Err (Tensor R) → Except Err (TVal R)
  | .ok x => .ok (.t x)
  | .error e => .error e

theorem then1_tensors (f g : Tensor R) : then1 (.t f) (.t g) = liftT (f.then g) := by
  simp only [then1, liftT]
  cases f.then g <;> rfl

theorem tensor1_tensors (f g : Tensor R) : tensor1 (.t f) (.t g) = .ok (.t (f.tensor g)) := rfl

/-- `f.then(g₁, …, g_k)` on Tensors is `(((f >> g₁) >> g₂) … >> g_k)`, the first failing
    composition raising; `f.then()` is `f`. -/
theorem thenArgs_tensors (f : Tensor R) (gs : List (Tensor R)) :
    thenArgs (.t f) (gs.map .t) = liftT (gs.foldlM (fun acc g => acc.then g) f) := by
  induction gs generalizing f with
  | nil => rfl
  | cons g gs ih =>
    cases gs with
    | nil =>
      simp only [List.map_cons, List.map_nil, thenArgs, then1_tensors, List.foldlM_cons,
        List.foldlM_nil]
      cases f.then g <;> rfl
    | cons g' rest =>
      simp only [List.map_cons, thenArgs, then1_tensors]
      rw [List.foldlM_cons]
      cases h : f.then g with
      | error e => rfl
      | ok x =>
        have := ih x
        simp only [List.map_cons] at this
        exact this

/-- `f.tensor(g₁, …, g_k)` on Tensors is `(((f @ g₁) @ g₂) … @ g_k)`; `f.tensor()` is `f`. -/
theorem tensorArgs_tensors (f : Tensor R) (gs : List (Tensor R)) :
    tensorArgs (.t f) (gs.map .t) = .ok (.t (gs.foldl Tensor.tensor f)) := by
  induction gs generalizing f with
  | nil => rfl
  | cons g gs ih =>
    cases gs with
    | nil => rfl
    | cons g' rest =>
      have := ih (f.tensor g)
      simp only [List.map_cons] at this
      simpa [tensorArgs, tensor1_tensors, isNone] using this

end TVal

namespace TSum
variable {R : Type} [Add R] [Mul R] [Zero R] [One R] [DecidableEq R]

theorem thenTerms_single (f : Tensor R) (gs : List (Tensor R))
    (h : ∀ g ∈ gs, g.dom = f.cod) :
    thenTerms [f] gs = .ok (gs.map (fun g => Tensor.thenCore f g)) := by
  have : gs.mapM (fun g => f.then g) = .ok (gs.map (fun g => Tensor.thenCore f g)) := by
    induction gs with
    | nil => rfl
    | cons g gs ih =>
      have hg : f.cod = g.dom := (h g (by simp)).symm
      have hrest := ih (fun g' hg' => h g' (by simp [hg']))
      rw [List.mapM_cons, hrest]
      simp [Tensor.then, hg]
      rfl
  simp [thenTerms, this]

end TSum

/-! ### the n-ary tensor is the iterated Kronecker product -/

namespace Tensor
variable {R : Type} [CommSemiring R]

theorem foldl_tensor_wf (f : Tensor R) (gs : List (Tensor R)) (hf : f.WF)
    (hgs : ∀ g ∈ gs, g.WF) :
    (gs.foldl Tensor.tensor f).WF ∧
    (gs.foldl Tensor.tensor f).dom = f.dom ++ (gs.map (·.dom)).flatten ∧
    (gs.foldl Tensor.tensor f).cod = f.cod ++ (gs.map (·.cod)).flatten := by
  induction gs generalizing f with
  | nil => simp [hf]
  | cons g gs ih =>
    have hg : g.WF := hgs g (by simp)
    obtain ⟨h1, h2, h3⟩ := ih (f.tensor g) (tensor_wf f g hf hg)
      (fun g' hg' => hgs g' (by simp [hg']))
    refine ⟨h1, ?_, ?_⟩
    · simp [h2, List.append_assoc]
    · simp [h3, List.append_assoc]

/-- Re-association: `f.tensor(g, g₁, …, g_k) = f @ g.tensor(g₁, …, g_k)`. -/
theorem foldl_tensor_assoc (f g : Tensor R) (gs : List (Tensor R)) (hf : f.WF) (hg : g.WF)
    (hgs : ∀ x ∈ gs, x.WF) :
    (g :: gs).foldl Tensor.tensor f = f.tensor (gs.foldl Tensor.tensor g) := by
  induction gs generalizing g with
  | nil => rfl
  | cons h gs ih =>
    have hh : h.WF := hgs h (by simp)
    have := ih (g.tensor h) (tensor_wf g h hg hh) (fun x hx => hgs x (by simp [hx]))
    simp only [List.foldl_cons] at this ⊢
    rw [tensor_assoc f g h hf hg hh]
    exact this

theorem pair_lt {r P r' Q : Nat} (h : r < P) (h' : r' < Q) : r * Q + r' < P * Q :=
  calc r * Q + r' < r * Q + Q := by omega
    _ = (r + 1) * Q := by rw [Nat.add_mul, Nat.one_mul]
    _ ≤ P * Q := Nat.mul_le_mul_right _ h

/-- **`f.tensor(g, h)` is the Kronecker product of the three matrices**: row
    `((r₁, r₂), r₃)`, column `((c₁, c₂), c₃)` holds `f[r₁,c₁] * g[r₂,c₂] * h[r₃,c₃]`. -/
theorem tensor3_kron (f g h : Tensor R) (hf : f.WF) (hg : g.WF) (hh : h.WF)
    {r1 r2 r3 c1 c2 c3 : Nat}
    (h1 : r1 < prod f.dom) (h2 : r2 < prod g.dom) (h3 : r3 < prod h.dom)
    (k1 : c1 < prod f.cod) (k2 : c2 < prod g.cod) (k3 : c3 < prod h.cod) :
    ([g, h].foldl Tensor.tensor f).mat ((r1 * prod g.dom + r2) * prod h.dom + r3)
        ((c1 * prod g.cod + c2) * prod h.cod + c3)
      = f.mat r1 c1 * g.mat r2 c2 * h.mat r3 c3 := by
  have hr : r1 * prod g.dom + r2 < prod (f.tensor g).dom := by
    rw [tensor_dom, prod_append]; exact pair_lt h1 h2
  have hc : c1 * prod g.cod + c2 < prod (f.tensor g).cod := by
    rw [tensor_cod, prod_append]; exact pair_lt k1 k2
  simp only [List.foldl_cons, List.foldl_nil]
  rw [tensor_kron (f.tensor g) h (tensor_wf f g hf hg) hh hr h3 hc k3,
    tensor_kron f g hf hg h1 h2 k1 k2]

theorem entry_of_isZero [DecidableEq R] {t : Tensor R} (h : t.isZero = true) (i : List Nat) :
    t.entry i = 0 := by
  unfold Tensor.entry
  unfold Tensor.isZero at h
  rw [Array.all_eq_true] at h
  by_cases hk : flatIdx (t.dom ++ t.cod) i < t.arr.data.size
  · have := h _ hk
    simp only [decide_eq_true_eq] at this
    simp [Array.getD, hk, this]
  · simp [Array.getD, hk]

/-- `Tensor.map` applies the function to every entry. -/
theorem map_entry (φ : R → R) (f : Tensor R) (hf : f.WF) {i : List Nat}
    (hi : InRange (f.dom ++ f.cod) i) : (f.map φ).entry i = φ (f.entry i) := entry_map φ f hf hi

end Tensor

end DV
