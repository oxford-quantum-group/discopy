/-
  Proofs/TensorCups.lean — the nested cups of `Tensor.cups` (rigid.cups with
  `ar_factory = Tensor`, rigid.py:442-455, tensor.py:219-228) are well-formed tensors of type
  `left ⊗ right → 1` for EVERY pair of adjoint dimension tuples (`right = left[::-1]`), with
  entries the Kronecker delta `a = reversed(b)` (`cups_entry`: closed form of the loop), and the
  call is refused (AxiomError) otherwise.  (Their snake equations: Proofs/TensorSnakeMulti.lean.)
-/
import Proofs.TensorLayer
import Proofs.TensorSnake
import Proofs.WFOps

namespace DV
namespace Tensor
open NDArray

section
variable {R : Type} [CommSemiring R]

theorem pySlice_one {α} (xs : List α) (j : Nat) (h : j < xs.length) :
    pySlice xs (some (j : Int)) (some ((j + 1 : Nat) : Int)) = [xs[j]] := by
  simp only [pySlice, pyLo, pyHi, pyIdx_nat]
  rw [Nat.min_eq_left (by omega), Nat.min_eq_left (by omega)]
  have : j + 1 - j = 1 := by omega
  rw [this, List.drop_eq_getElem_cons h]
  rfl

/-- One pass of the cups loop on indices: a one-element `u` closes the condition of the previous
    pass (it ends `a[: j+1]` and begins `b[i :]`) iff `u = [a[j]]` and the condition of the next
    pass holds; so exactly one term of the contraction over `u` survives. -/
theorem cup_step_cond {a b a'' b'' u : List Nat} {j i : Nat} (haj : j < a.length)
    (hbi : i < b.length) (la : a''.length = j) (hul : u.length = 1) :
    (a.take (j + 1) = a'' ++ u ∧ b.drop i = u ++ b'' ∧ a.drop (j + 1) = (b.take i).reverse)
      ↔ ([a[j]] = u ∧ (a.take j = a'' ∧ b.drop (i + 1) = b''
          ∧ a.drop j = (b.take (i + 1)).reverse)) := by
  have ta : a.take (j + 1) = a.take j ++ [a[j]] := List.take_succ_eq_append_getElem haj
  have tb : b.drop i = [b[i]] ++ b.drop (i + 1) := by
    rw [List.drop_eq_getElem_cons hbi]; rfl
  have da : a.drop j = a[j] :: a.drop (j + 1) := List.drop_eq_getElem_cons haj
  have rb : (b.take (i + 1)).reverse = b[i] :: (b.take i).reverse := by
    rw [List.take_succ_eq_append_getElem hbi, List.reverse_append]; rfl
  have la' : (a.take j).length = a''.length := by rw [la]; simp; omega
  rw [ta, tb, da, rb, List.cons_eq_cons]
  constructor
  · rintro ⟨h1, h2, h3⟩
    obtain ⟨h1a, h1b⟩ := List.append_inj h1 la'
    obtain ⟨h2a, h2b⟩ := List.append_inj h2 (by simp [hul])
    refine ⟨h1b, h1a, h2b, ?_, h3⟩
    have : [b[i]] = [a[j]] := by rw [h2a, h1b]
    exact (List.cons.inj this).1.symm
  · rintro ⟨h1, h2, h3, h4, h5⟩
    refine ⟨by rw [h2, h1], ?_, h5⟩
    rw [h3, ← h1, h4]

/-- Entries after one more pass of the loop of rigid.cups. -/
theorem cupsStep_entry (l : List Nat) (i j v : Nat) (t : Tensor R) (hij : j + 1 + i = l.length)
    (hv : l[j]'(by omega) = v) (hw : t.WF) (hd : t.dom = l ++ l.reverse)
    (hc : t.cod = (l.take j ++ (cupFactory (R := R) [v] [v]).dom) ++ l.reverse.drop (i + 1))
    (hent : ∀ a b a' b', InRange l a → InRange l.reverse b → InRange (l.take j ++ [v]) a' →
      InRange ([v] ++ l.reverse.drop (i + 1)) b' →
      t.entry ((a ++ b) ++ (a' ++ b'))
        = if a.take (j + 1) = a' ∧ b.drop i = b' ∧ a.drop (j + 1) = (b.take i).reverse
          then 1 else 0)
    {a b a'' b'' : List Nat} (hia : InRange l a) (hib : InRange l.reverse b)
    (hia'' : InRange (l.take j) a'') (hib'' : InRange (l.reverse.drop (i + 1)) b'') :
    (thenCore t (layerT (l.take j) (l.reverse.drop (i + 1)) (cupFactory [v] [v]))).entry
        ((a ++ b) ++ (a'' ++ b''))
      = if a.take j = a'' ∧ b.drop (i + 1) = b'' ∧ a.drop j = (b.take (i + 1)).reverse
        then 1 else 0 := by
  have hcup := cupFactory_wf (R := R) [v]
  have hab : InRange t.dom (a ++ b) := by rw [hd]; exact inRange_append hia hib
  have h0 := then_layer_entry t (cupFactory (R := R) [v] [v]) (l.take j)
    (l.reverse.drop (i + 1)) hw hcup hc hab hia'' (bc := []) trivial hib''
  simp only [List.append_nil] at h0
  rw [h0]
  have hdomc : (cupFactory (R := R) [v] [v]).dom = [v] ++ [v] := rfl
  rw [hdomc, sumOver_append]
  have hal : a.length = l.length := hia.length_eq
  have hbl : b.length = l.length := by rw [hib.length_eq]; simp
  have haj : j < a.length := by omega
  have hbi : i < b.length := by omega
  have hain : InRange [v] [a[j]] := by
    have := (inRange_iff_getD.1 hia).2 j (by omega)
    rw [getD_of_lt _ haj, getD_of_lt _ (by omega), hv] at this
    simpa using this
  have la'' : a''.length = j := by rw [hia''.length_eq]; simp; omega
  rw [sumOver_congr (g := fun u => (if [a[j]] = u then 1 else 0) *
      (if a.take j = a'' ∧ b.drop (i + 1) = b'' ∧ a.drop j = (b.take (i + 1)).reverse
        then 1 else 0)) (fun u hu => ?_)]
  · rw [sumOver_delta hain]
  · rw [sumOver_congr (g := fun w => (if u = w then 1 else 0) *
        t.entry ((a ++ b) ++ (a'' ++ (u ++ w) ++ b''))) (fun w hw'' => ?_)]
    · rw [sumOver_delta hu]
      have hidx : a'' ++ (u ++ u) ++ b'' = (a'' ++ u) ++ (u ++ b'') := by
        simp [List.append_assoc]
      rw [hidx, hent a b (a'' ++ u) (u ++ b'') hia hib (inRange_append hia'' hu)
        (inRange_append hu hib''), ← ite_and_mul]
      have hul : u.length = 1 := by rw [hu.length_eq]; rfl
      exact if_congr (cup_step_cond haj hbi la'' hul) rfl rfl
    · have hcupe := cupFactory_entry (R := R) [v] hu hw''
      simp only [List.append_nil] at hcupe
      rw [hcupe]
      ring

/-- The loop of rigid.cups on tensors, with its entries: with `n` passes to go (after `i`) the
    tensor is the Kronecker delta matching the `i` innermost wires of `left` with those of
    `right` (nested) and copying the other `n`. -/
theorem cupsLoop_entry (l : List Nat) : ∀ (n i : Nat) (t : Tensor R), i + n = l.length →
    t.WF → t.dom = l ++ l.reverse → t.cod = l.take n ++ l.reverse.drop i →
    (∀ a b a' b', InRange l a → InRange l.reverse b → InRange (l.take n) a' →
      InRange (l.reverse.drop i) b' →
      t.entry ((a ++ b) ++ (a' ++ b'))
        = if a.take n = a' ∧ b.drop i = b' ∧ a.drop n = (b.take i).reverse then 1 else 0) →
    ∃ t', cupsLoop l l.reverse n i t = .ok t' ∧ t'.WF ∧ t'.dom = l ++ l.reverse ∧ t'.cod = [] ∧
      ∀ a b, InRange l a → InRange l.reverse b →
        t'.entry ((a ++ b) ++ []) = if a = b.reverse then 1 else 0
  | 0, i, t, hi, hw, hd, hc, hent => by
    have hil : i = l.length := by omega
    subst hil
    refine ⟨t, rfl, hw, hd, by rw [hc]; simp, ?_⟩
    intro a b ha hb
    rw [show ([] : List Nat) = [] ++ [] from rfl, hent a b [] [] ha hb trivial
      (by rw [← List.length_reverse, List.drop_length]; exact trivial)]
    have hbl : b.length = l.length := by rw [hb.length_eq]; simp
    have e1 : b.take l.length = b := by rw [← hbl]; exact List.take_length
    have e2 : b.drop l.length = [] := by rw [← hbl]; exact List.drop_length
    simp [e1, e2]
  | n + 1, i, t, hi, hw, hd, hc, hent => by
    have hn : n < l.length := by omega
    have hri : i < l.reverse.length := by simp; omega
    have hv : l.reverse[i] = l[n] := by
      rw [List.getElem_reverse]; congr 1; omega
    -- the four slices of rigid.py:451-452
    unfold cupsLoop
    rw [show l.length - i - 1 = n by omega, pySlice_take, pySlice_one l n hn, pySlice_one _ i hri,
      pySlice_drop, hv]
    generalize ha : l[n] = v at hv
    have e2 : l.take (n + 1) = l.take n ++ [v] := by
      rw [List.take_succ_eq_append_getElem hn, ha]
    have e3 : l.reverse.drop i = [v] ++ l.reverse.drop (i + 1) := by
      rw [List.drop_eq_getElem_cons hri, hv]; rfl
    have hcd : t.cod = (l.take n ++ (cupFactory (R := R) [v] [v]).dom)
        ++ l.reverse.drop (i + 1) := by
      rw [hc, e2, e3]; simp [cupFactory, List.append_assoc]
    rw [← layerT, then_ok hcd]
    rw [e2, e3] at hent
    exact cupsLoop_entry l n (i + 1) _ (by omega)
      (thenCore_wf t _ hw (layerT_wf _ _ _ (cupFactory_wf [v])) hcd) hd
      (by simp only [thenCore_cod, layerT_cod, cupFactory, mk'_cod, List.append_nil])
      (fun a b a'' b'' hia hib hia'' hib'' =>
        cupsStep_entry l i n v t (by omega) ha hw hd hcd hent hia hib hia'' hib'')

/-- **Closed form of the nested cups**: `Tensor.cups(l, l[::-1])[a, b] = [a = reversed(b)]`. -/
theorem cups_entry (l : List Nat) :
    ∃ t, Tensor.cups (R := R) l l.reverse = .ok t ∧ t.WF ∧ t.dom = l ++ l.reverse ∧ t.cod = [] ∧
      ∀ a b, InRange l a → InRange l.reverse b →
        t.entry ((a ++ b) ++ []) = if a = b.reverse then 1 else 0 := by
  unfold Tensor.cups
  simp only [ne_eq, not_true_eq_false, false_and, if_false]
  apply cupsLoop_entry (R := R) l l.length 0 (Tensor.id (l ++ l.reverse)) (by omega) (id_wf _) rfl
    (by simp)
  intro a b a' b' ha hb ha' hb'
  have ha'' : InRange l a' := by simpa using ha'
  have hb'' : InRange l.reverse b' := by simpa using hb'
  rw [id_entry _ (inRange_append ha hb) (inRange_append ha'' hb'')]
  have hal : a.length = l.length := ha.length_eq
  have e1 : a.take l.length = a := by rw [← hal]; exact List.take_length
  simp [e1, append_eq_append_of_inRange b b' ha ha'', hal]

/-- `Tensor.cups(left, right)` succeeds iff the dimension tuples are adjoint, and then gives a
    well-formed tensor `left ⊗ right → 1`. -/
theorem cups_spec (left right : List Nat) :
    (right = left.reverse → ∃ t, Tensor.cups (R := R) left right = .ok t ∧ t.WF ∧
        t.dom = left ++ right ∧ t.cod = []) ∧
    (right ≠ left.reverse → Tensor.cups (R := R) left right = .error .axiom) := by
  refine ⟨?_, ?_⟩
  · rintro rfl
    obtain ⟨t, h1, h2, h3, h4, _⟩ := cups_entry (R := R) left
    exact ⟨t, h1, h2, h3, h4⟩
  · intro h
    unfold Tensor.cups
    have h1 : left.reverse ≠ right := fun e => h e.symm
    have h2 : right.reverse ≠ left := fun e => h (by rw [← e]; simp)
    simp [h1, h2]

theorem cups_ok {left right : List Nat} {t : Tensor R} (h : Tensor.cups left right = .ok t) :
    t.WF ∧ t.dom = left ++ right ∧ t.cod = [] := by
  by_cases hr : right = left.reverse
  · obtain ⟨t', h1, h2, h3, h4⟩ := (cups_spec (R := R) left right).1 hr
    rw [h1] at h; cases h
    exact ⟨h2, h3, h4⟩
  · rw [(cups_spec (R := R) left right).2 hr] at h; cases h

end

section
variable {R : Type} [CommSemiring R] [StarRing R]

theorem caps_ok {left right : List Nat} {t : Tensor R} (h : Tensor.caps left right = .ok t) :
    t.WF ∧ t.dom = [] ∧ t.cod = left ++ right := by
  unfold Tensor.caps at h
  cases hc : Tensor.cups (R := R) left right with
  | error e => rw [hc] at h; cases h
  | ok t0 =>
    rw [hc] at h; cases h
    obtain ⟨h1, h2, h3⟩ := cups_ok hc
    exact ⟨dagger_wf _ h1, by rw [dagger_dom, h3], by rw [dagger_cod, h2]⟩

end
end Tensor
end DV
