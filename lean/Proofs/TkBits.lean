/-
  Proofs/TkBits.lean — preservation of the simulation invariant by the layers that touch the
  bit side: Measure, Bra, override Measure, classical boxes, Swap(bit, bit)
  (`Bits` is in Proofs/TkPrepBits.lean).
-/
import Proofs.TkInv

namespace DV.Tk
open DV

theorem PS.get_none_of_not_has {ps : PS} {k : Nat} (h : ps.has k = false) : ps.get k = none := by
  rw [PS.has_eq_isSome] at h
  cases hg : ps.get k <;> simp_all

theorem PS.not_has_ge {ps : PS} {n k : Nat} (hlt : ∀ r, ps.has r = true → r < n) (hk : n ≤ k) :
    ps.has k = false := by
  cases h : ps.has k
  · rfl
  · have := hlt k h; omega

theorem outs_map (f : Nat → Nat) (g n : Nat) : (outs g n).map (BV.map f) = outs g n := by
  simp [outs, List.map_map, Function.comp, BV.map]

theorem applyCG_map (f : Nat → Nat) (cg : List CG) (bw : List BV) (name : String) (i o off : Nat) :
    applyCG (cg.map (CG.map f)) (bw.map (BV.map f)) name i o off =
      ((applyCG cg bw name i o off).1.map (CG.map f), (applyCG cg bw name i o off).2.map (BV.map f)) := by
  simp [applyCG, CG.map, List.map_take, List.map_drop, outs_map]

theorem stepRun_map (f : Nat → Nat) (s : List CG × List BV) (l : PBox × Nat) :
    PP.stepRun (s.1.map (CG.map f), s.2.map (BV.map f)) l =
      ((PP.stepRun s l).1.map (CG.map f), (PP.stepRun s l).2.map (BV.map f)) := by
  obtain ⟨b, off⟩ := l
  cases b with
  | swap => simp [PP.stepRun, swapAt_map]
  | gate name i o => simp only [PP.stepRun]; exact applyCG_map f s.1 s.2 name i o off

/-- Register values in the result of a run come from its inputs. -/
def RegsIn (s : List CG × List BV) (ws : List BV) : Prop :=
  (∀ r, BV.reg r ∈ s.2 → BV.reg r ∈ ws) ∧ (∀ c ∈ s.1, ∀ r, BV.reg r ∈ c.2 → BV.reg r ∈ ws)

theorem stepRun_regsIn {s : List CG × List BV} {ws : List BV} (l : PBox × Nat) (h : RegsIn s ws) :
    RegsIn (PP.stepRun s l) ws := by
  obtain ⟨b, off⟩ := l
  cases b with
  | swap => exact ⟨fun r hr => h.1 r (mem_swapAt hr), h.2⟩
  | gate name i o =>
    constructor
    · intro r hr
      simp only [PP.stepRun, applyCG, List.mem_append] at hr
      rcases hr with (hr | hr) | hr
      · exact h.1 r (List.mem_of_mem_take hr)
      · simp [outs] at hr
      · exact h.1 r (List.mem_of_mem_drop hr)
    · intro c hc r hr
      simp only [PP.stepRun, applyCG, List.mem_append, List.mem_singleton] at hc
      rcases hc with hc | hc
      · exact h.2 c hc r hr
      · subst hc
        exact h.1 r (List.mem_of_mem_drop (List.mem_of_mem_take hr))

theorem run_regsIn (pp : PP) (ws : List BV) : RegsIn (pp.run ws) ws := by
  unfold PP.run
  have : ∀ (layers : List (PBox × Nat)) (s : List CG × List BV), RegsIn s ws →
      RegsIn (layers.foldl PP.stepRun s) ws := by
    intro layers
    induction layers with
    | nil => intro s h; exact h
    | cons l t ih => intro s h; exact ih _ (stepRun_regsIn l h)
  exact this pp.layers ([], ws) ⟨fun r hr => hr, fun c hc => by cases hc⟩

/-- Registers named by live bit wires or consumed by classical boxes are read-out registers. -/
theorem Inv.bw_in_dreg {sp st ρq ρb dreg} (h : Inv sp st ρq ρb dreg) :
    (∀ β, BV.reg β ∈ sp.bw → ρb β ∈ dreg) ∧ (∀ c ∈ sp.cg, ∀ β, BV.reg β ∈ c.2 → ρb β ∈ dreg) := by
  have hr := run_regsIn st.pp (dreg.map .reg)
  rw [h.ref.pp] at hr
  constructor
  · intro β hβ
    have : BV.reg (ρb β) ∈ sp.bw.map (BV.map ρb) := List.mem_map.mpr ⟨_, hβ, rfl⟩
    have := hr.1 _ this
    simpa using this
  · intro c hc β hβ
    have hc' : CG.map ρb c ∈ sp.cg.map (CG.map ρb) := List.mem_map_of_mem hc
    have : BV.reg (ρb β) ∈ (CG.map ρb c).2 := List.mem_map.mpr ⟨_, hβ, rfl⟩
    have := hr.2 _ hc' _ this
    simpa using this

theorem IsReadout.lt {st : St} {dreg : List Nat} (h : IsReadout st dreg) {r : Nat} (hr : r ∈ dreg) :
    r < st.nb ∧ st.ps.has r = false := (h.2 r).mp hr

theorem insertAt_length {α} (xs : List α) (k : Nat) (new : List α) :
    (insertAt xs k new).length = xs.length + new.length := by
  simp only [insertAt, List.length_append, List.length_take, List.length_drop]; omega

/-- New id `old ↦ r`, all others unchanged. -/
def extend1 (ρ : Nat → Nat) (old r : Nat) (β : Nat) : Nat := if β < old then ρ β else r

theorem extend1_inj {ρ : Nat → Nat} {old total : Nat} (h : InjBelow ρ old total) :
    InjBelow (extend1 ρ old total) (old + 1) (total + 1) := by
  constructor
  · intro a _
    unfold extend1; split
    · rename_i hlt; have := h.1 a hlt; omega
    · omega
  · intro a b ha hb hab
    unfold extend1 at hab
    split at hab <;> split at hab
    · rename_i h1 h2; exact h.2 a b h1 h2 hab
    · rename_i h1 h2; have := h.1 a h1; omega
    · rename_i h1 h2; have := h.1 b h2; omega
    · omega

theorem extend1_old {ρ : Nat → Nat} {old r β : Nat} (h : β < old) : extend1 ρ old r β = ρ β := if_pos h

theorem extend1_new (ρ : Nat → Nat) (old r : Nat) : extend1 ρ old r old = r := if_neg (Nat.lt_irrefl _)

theorem Inv.measure_cmds {sp st ρq ρb dreg} (h : Inv sp st ρq ρb dreg) {a : Nat} (ha : a ∈ sp.qw) :
    st.cmds ++ [⟨"Measure", none, [ρq a], [st.nb]⟩] =
        (sp.cmds ++ [(⟨"Measure", none, [a], [sp.nb]⟩ : Cmd)]).map (Cmd.map ρq (extend1 ρb sp.nb st.nb)) ∧
      CmdIds (sp.cmds ++ [(⟨"Measure", none, [a], [sp.nb]⟩ : Cmd)]) sp.nq (sp.nb + 1) := by
  constructor
  · rw [List.map_append, h.ref.cmds,
      cmds_congr h.cmd_ids (fun _ _ => rfl) (fun β hβ => (extend1_old (ρ := ρb) (r := st.nb) hβ).symm)]
    simp [Cmd.map, extend1]
  · refine (h.cmd_ids.mono (Nat.le_refl _) (Nat.le_succ _)).snoc ?_ ?_
    · intro x hx; rw [List.mem_singleton.mp hx]; exact h.qw_lt a ha
    · intro x hx; rw [List.mem_singleton.mp hx]; exact Nat.lt_succ_self _

/-- A new bit that is not post-selected is read out last. -/
theorem IsReadout.measure {st : St} {dreg : List Nat} (h : IsReadout st dreg)
    (hlt : ∀ r, st.ps.has r = true → r < st.nb) :
    IsReadout { st with nb := st.nb + 1 } (dreg ++ [st.nb]) := by
  obtain ⟨hp, hm⟩ := h
  constructor
  · rw [List.pairwise_append]
    refine ⟨hp, List.pairwise_singleton _ _, ?_⟩
    intro x hx y hy
    rw [List.mem_singleton.mp hy]
    exact ((hm x).mp hx).1
  · intro r
    simp only [List.mem_append, List.mem_singleton, hm r]
    constructor
    · rintro (⟨h1, h2⟩ | rfl)
      · exact ⟨Nat.lt_succ_of_lt h1, h2⟩
      · exact ⟨Nat.lt_succ_self _, PS.not_has_ge hlt (Nat.le_refl _)⟩
    · rintro ⟨h1, h2⟩
      by_cases hr : r = st.nb
      · exact .inr hr
      · exact .inl ⟨by omega, h2⟩

/-- A new bit that is post-selected is not read out. -/
theorem IsReadout.bra {st : St} {dreg : List Nat} (h : IsReadout st dreg) (v : Nat) :
    IsReadout { st with nb := st.nb + 1, ps := st.ps.set st.nb v } dreg := by
  refine ⟨h.1, fun r => ?_⟩
  simp only [h.2 r, PS.has_set]
  constructor
  · rintro ⟨h1, h2⟩
    refine ⟨Nat.lt_succ_of_lt h1, ?_⟩
    have : ¬ (r = st.nb) := by omega
    simp [this, h2]
  · rintro ⟨h1, h2⟩
    simp only [Bool.or_eq_false_iff, decide_eq_false_iff_not] at h2
    exact ⟨by omega, h2.2⟩

theorem measureOne_ok {st st' : St} {lq lb j : Nat} (h : measureOne st lq lb j = .ok st') :
    ∃ q pp', st.qubits[lq + j]? = some q ∧ st.pp.addWire (lb + j) = .ok pp' ∧
      st' = { st with nb := st.nb + 1, pp := pp', cmds := st.cmds ++ [⟨"Measure", none, [q], [st.nb]⟩]
                      bits := st.bits.take (lb + j) ++ [st.nb] ++ st.bits.drop (lb + j) } := by
  unfold measureOne at h
  split at h
  · cases h
  · split at h
    · cases h
    · cases h; exact ⟨_, _, ‹_›, ‹_›, rfl⟩

theorem braOne_ok {st st' : St} {lq : Nat} {jv : Nat × Nat} (h : braOne st lq jv = .ok st') :
    ∃ q, st.qubits[lq + jv.1]? = some q ∧
      st' = { st with nb := st.nb + 1, cmds := st.cmds ++ [⟨"Measure", none, [q], [st.nb]⟩]
                      ps := st.ps.set st.nb jv.2 } := by
  unfold braOne at h
  split at h
  · cases h
  · cases h; exact ⟨_, ‹_›, rfl⟩


theorem measureQubits_ok {st st' : St} {n lq lb : Nat} {de ov : Bool}
    (h : measureQubits st n de ov lq lb = .ok st') :
    ∃ st1, (if ov then overrideLoop st lq lb (List.range n) else measureLoop st lq lb (List.range n)) = .ok st1 ∧
      st' = if de then dropQubits st1 lq n else st1 := by
  unfold measureQubits at h
  cases ov
  · simp only [Bool.false_eq_true, if_false] at h ⊢
    split at h
    · cases h
    · cases h; exact ⟨_, ‹_›, rfl⟩
  · simp only [if_true] at h ⊢
    split at h
    · cases h
    · cases h; exact ⟨_, ‹_›, rfl⟩

theorem braQubits_ok {st st' : St} {bs : List Nat} {lq : Nat} (h : braQubits st bs lq = .ok st') :
    ∃ st1, braLoop st lq (bs.zipIdx.map fun p => (p.2, p.1)) = .ok st1 ∧ st' = dropQubits st1 lq bs.length := by
  unfold braQubits at h
  split at h
  · cases h
  · cases h; exact ⟨_, ‹_›, rfl⟩

/-! ### Measure -/

theorem measureOne_inv {sp : Sp} {st st' : St} {ρq ρb dreg} {lq lb j : Nat}
    (h : Inv sp st ρq ρb dreg) (hs : measureOne st lq lb j = .ok st') :
    ∃ sp' ρb' dreg', Sp.measureOne sp lq lb j = .ok sp' ∧ Inv sp' st' ρq ρb' dreg' := by
  obtain ⟨q, pp', hq, hadd, rfl⟩ := measureOne_ok hs
  obtain ⟨a, ha, hq⟩ := h.qubit_at hq
  have hws : (dreg.map BV.reg).length = st.pp.dom := by simp [h.ref.ppdom]
  obtain ⟨hrun, hwf', hdom', hcod', hlen, _, hlay⟩ := PP.addWire_run h.ppwf hadd (dreg.map .reg) (.reg st.nb) hws
  have hnb := h.ref.nb
  have hold : ∀ β, β < sp.nb → extend1 ρb sp.nb st.nb β = ρb β := fun β hβ => extend1_old hβ
  have hnew : extend1 ρb sp.nb st.nb sp.nb = st.nb := extend1_new ..
  obtain ⟨hcmds, hids⟩ := h.measure_cmds (List.mem_of_getElem? ha)
  refine ⟨_, extend1 ρb sp.nb st.nb, dreg ++ [st.nb], by simp only [Sp.measureOne, ha]; rfl, ?_⟩
  · refine { ref := { nq := h.ref.nq, nb := ?_, injq := h.ref.injq, injb := ?_, cmds := ?_,
                      qubits := h.ref.qubits, ps := ?_, scal := h.ref.scal, readout := ?_,
                      ppdom := ?_, pp := ?_ },
             qw_lt := h.qw_lt, qsorted := h.qsorted, cmd_ids := ?_, bw_lt := ?_, cg_lt := ?_,
             ps_lt := ?_, sps_lt := ?_, bits_lt := ?_, raw := ?_, ppcod := ?_, ppwf := hwf' }
    · -- ref.nb
      simp [hnb]
    · -- ref.injb
      exact extend1_inj h.ref.injb
    · -- ref.cmds
      exact hq ▸ hcmds
    · -- ref.ps
      intro β hβ
      simp only at hβ ⊢
      by_cases hlt : β < sp.nb
      · rw [hold β hlt]; exact h.ref.ps β hlt
      · have : β = sp.nb := by omega
        subst this
        rw [hnew, PS.get_none_of_not_has (PS.not_has_ge h.ps_lt (Nat.le_refl _)),
            PS.get_none_of_not_has (PS.not_has_ge h.sps_lt (Nat.le_refl _))]
    · -- ref.readout
      exact h.ref.readout.measure h.ps_lt
    · -- ref.ppdom
      simp [hdom', h.ref.ppdom]
    · -- ref.pp
      simp only [List.map_append, List.map_cons, List.map_nil]
      rw [hrun, h.ref.pp]
      rw [Prod.mk.injEq]; refine ⟨?_, ?_⟩
      · exact cg_congr (fun c hc β hβ => (hold β (h.cg_lt c hc β hβ)).symm)
      · rw [insertAt_map, bw_congr (fun β hβ => (hold β (h.bw_lt β hβ)).symm)]
        simp [BV.map, hnew]
    · -- cmd_ids
      exact hids
    · -- bw_lt
      intro β hβ
      rcases mem_insertAt hβ with hβ | hβ
      · exact Nat.lt_succ_of_lt (h.bw_lt β hβ)
      · simp only [List.mem_singleton, BV.reg.injEq] at hβ; subst hβ; simp
    · -- cg_lt
      exact fun c hc β hβ => Nat.lt_succ_of_lt (h.cg_lt c hc β hβ)
    · -- ps_lt
      exact fun r hr => Nat.lt_succ_of_lt (h.ps_lt r hr)
    · -- sps_lt
      exact fun r hr => Nat.lt_succ_of_lt (h.sps_lt r hr)
    · -- bits_lt
      intro r hr
      simp only [List.mem_append, List.mem_singleton] at hr
      rcases hr with (hr | hr) | hr
      · exact Nat.lt_succ_of_lt (h.bits_lt r (List.mem_of_mem_take hr))
      · subst hr; simp
      · exact Nat.lt_succ_of_lt (h.bits_lt r (List.mem_of_mem_drop hr))
    · -- raw
      intro hl
      obtain ⟨hl0, hcodle⟩ := hlay hl
      obtain ⟨hbits, _, _, hlen'⟩ := h.raw_wires hl0
      have hbl : st.bits.length ≤ lb + j := by
        rw [hbits, ← hlen', ← h.ppcod]; exact hcodle
      simp only
      rw [List.take_of_length_le hbl, List.drop_of_length_le hbl, hbits]
      simp
    · -- ppcod
      simp [hcod', h.ppcod, insertAt_length]

theorem measureLoop_inv {sp : Sp} {st st' : St} {ρq ρb dreg} {lq lb : Nat} (js : List Nat)
    (h : Inv sp st ρq ρb dreg) (hs : measureLoop st lq lb js = .ok st') :
    ∃ sp' ρb' dreg', Sp.measureLoop sp lq lb js = .ok sp' ∧ Inv sp' st' ρq ρb' dreg' := by
  induction js generalizing sp st ρb dreg with
  | nil => simp only [measureLoop] at hs; cases hs; exact ⟨sp, ρb, dreg, rfl, h⟩
  | cons j js ih =>
    simp only [measureLoop] at hs
    split at hs
    · cases hs
    · rename_i st1 h1
      obtain ⟨sp1, ρb1, dreg1, e1, inv1⟩ := measureOne_inv h h1
      obtain ⟨sp2, ρb2, dreg2, e2, inv2⟩ := ih inv1 hs
      exact ⟨sp2, ρb2, dreg2, by simp only [Sp.measureLoop, e1]; exact e2, inv2⟩

/-! ### Bra -/

theorem braOne_inv {sp : Sp} {st st' : St} {ρq ρb dreg} {lq : Nat} {jv : Nat × Nat}
    (h : Inv sp st ρq ρb dreg) (hs : braOne st lq jv = .ok st') :
    ∃ sp' ρb', Sp.braOne sp lq jv = .ok sp' ∧ Inv sp' st' ρq ρb' dreg := by
  obtain ⟨q, hq, rfl⟩ := braOne_ok hs
  obtain ⟨a, ha, hq⟩ := h.qubit_at hq
  have hnb := h.ref.nb
  have hold : ∀ β, β < sp.nb → extend1 ρb sp.nb st.nb β = ρb β := fun β hβ => extend1_old hβ
  have hnew : extend1 ρb sp.nb st.nb sp.nb = st.nb := extend1_new ..
  obtain ⟨hcmds, hids⟩ := h.measure_cmds (List.mem_of_getElem? ha)
  refine ⟨_, extend1 ρb sp.nb st.nb, by simp only [Sp.braOne, ha]; rfl, ?_⟩
  refine { ref := { nq := h.ref.nq, nb := ?_, injq := h.ref.injq, injb := ?_, cmds := ?_,
                    qubits := h.ref.qubits, ps := ?_, scal := h.ref.scal, readout := ?_,
                    ppdom := h.ref.ppdom, pp := ?_ },
           qw_lt := h.qw_lt, qsorted := h.qsorted, cmd_ids := ?_, bw_lt := ?_, cg_lt := ?_,
           ps_lt := ?_, sps_lt := ?_, bits_lt := ?_, raw := h.raw, ppcod := h.ppcod, ppwf := h.ppwf }
  · -- ref.nb
    simp [hnb]
  · -- ref.injb
    exact extend1_inj h.ref.injb
  · -- ref.cmds
    exact hq ▸ hcmds
  · -- ref.ps
    intro β hβ
    simp only at hβ ⊢
    rw [PS.get_set, PS.get_set]
    by_cases hlt : β < sp.nb
    · rw [hold β hlt]
      have h1 := h.ref.injb.1 β hlt
      have e1 : ¬ (ρb β = st.nb) := by omega
      have e2 : ¬ (β = sp.nb) := by omega
      simp only [e1, e2, ↓reduceIte]
      exact h.ref.ps β hlt
    · have : β = sp.nb := by omega
      subst this
      simp [hnew]
  · -- ref.readout
    exact h.ref.readout.bra jv.2
  · -- ref.pp
    rw [h.ref.pp]
    rw [Prod.mk.injEq]; refine ⟨?_, ?_⟩
    · exact cg_congr (fun c hc β hβ => (hold β (h.cg_lt c hc β hβ)).symm)
    · exact bw_congr (fun β hβ => (hold β (h.bw_lt β hβ)).symm)
  · -- cmd_ids
    exact hids
  · -- bw_lt
    exact fun β hβ => Nat.lt_succ_of_lt (h.bw_lt β hβ)
  · -- cg_lt
    exact fun c hc β hβ => Nat.lt_succ_of_lt (h.cg_lt c hc β hβ)
  · -- ps_lt
    intro r hr
    simp only [PS.has_set, Bool.or_eq_true, decide_eq_true_eq] at hr
    rcases hr with hr | hr
    · simp only; omega
    · exact Nat.lt_succ_of_lt (h.ps_lt r hr)
  · -- sps_lt
    intro r hr
    simp only [PS.has_set, Bool.or_eq_true, decide_eq_true_eq] at hr
    rcases hr with hr | hr
    · simp only; omega
    · exact Nat.lt_succ_of_lt (h.sps_lt r hr)
  · -- bits_lt
    exact fun r hr => Nat.lt_succ_of_lt (h.bits_lt r hr)

theorem braLoop_inv {sp : Sp} {st st' : St} {ρq ρb dreg} {lq : Nat} (js : List (Nat × Nat))
    (h : Inv sp st ρq ρb dreg) (hs : braLoop st lq js = .ok st') :
    ∃ sp' ρb', Sp.braLoop sp lq js = .ok sp' ∧ Inv sp' st' ρq ρb' dreg := by
  induction js generalizing sp st ρb with
  | nil => simp only [braLoop] at hs; cases hs; exact ⟨sp, ρb, rfl, h⟩
  | cons jv js ih =>
    simp only [braLoop] at hs
    split at hs
    · cases hs
    · rename_i st1 h1
      obtain ⟨sp1, ρb1, e1, inv1⟩ := braOne_inv h h1
      obtain ⟨sp2, ρb2, e2, inv2⟩ := ih inv1 hs
      exact ⟨sp2, ρb2, by simp only [Sp.braLoop, e1]; exact e2, inv2⟩

theorem overrideLoop_inv {sp : Sp} {st st' : St} {ρq ρb dreg} {lq lb : Nat} (js : List Nat)
    (h : Inv sp st ρq ρb dreg) (hraw : st.pp.layers = [])
    (hs : overrideLoop st lq lb js = .ok st') :
    ∃ sp', Sp.overrideLoop sp lq lb js = .ok sp' ∧ Inv sp' st' ρq ρb dreg := by
  induction js generalizing sp st with
  | nil => simp only [overrideLoop] at hs; cases hs; exact ⟨sp, rfl, h⟩
  | cons j js ih =>
    simp only [overrideLoop] at hs
    split at hs
    · rename_i b q hb hq
      obtain ⟨a, ha, hq⟩ := h.qubit_at hq
      -- the bit wire is a register
      obtain ⟨hbits, _, hwires, _⟩ := h.raw_wires hraw
      rw [hbits] at hb
      have hbw : (sp.bw.map (BV.map ρb))[lb + j]? = some (.reg b) := by
        rw [← hwires, List.getElem?_map, hb]; rfl
      rw [List.getElem?_map] at hbw
      cases hv : sp.bw[lb + j]? with
      | none => simp [hv] at hbw
      | some v =>
        simp only [hv, Option.map_some, Option.some.injEq] at hbw
        cases v with
        | out g p => simp [BV.map] at hbw
        | reg β =>
          simp only [BV.map, BV.reg.injEq] at hbw
          have hβ := h.bw_lt β (List.mem_of_getElem? hv)
          have inv1 : Inv { sp with cmds := sp.cmds ++ [⟨"Measure", none, [a], [β]⟩] }
              { st with cmds := st.cmds ++ [⟨"Measure", none, [q], [b]⟩] } ρq ρb dreg := by
            refine { h with ref := { h.ref with cmds := ?_ }, cmd_ids := ?_ }
            · simp [h.ref.cmds, Cmd.map, hq, hbw]
            · exact h.cmd_ids.snoc
                (by intro x hx; simp only [List.mem_singleton] at hx; subst hx
                    exact h.qw_lt _ (List.mem_of_getElem? ha))
                (by intro x hx; simp only [List.mem_singleton] at hx; subst hx; exact hβ)
          obtain ⟨sp2, e2, inv2⟩ := ih inv1 hraw hs
          exact ⟨sp2, by simp only [Sp.overrideLoop, hv, ha]; exact e2, inv2⟩
    · cases hs

/-! ### classical boxes and Swap(bit, bit) through the post-processing -/

theorem classical_inv {sp : Sp} {st st' : St} {ρq ρb dreg} {name : String} {i o lb : Nat}
    (h : Inv sp st ρq ρb dreg) (hs : classical st (.gate name i o) lb = .ok st') :
    ∃ sp', Sp.classical sp name i o lb = .ok sp' ∧ Inv sp' st' ρq ρb dreg := by
  unfold classical at hs
  split at hs
  · cases hs
  · rename_i pp' hpost
    cases hs
    obtain ⟨hrun, hwf', hdom', hcod', hfit⟩ := PP.post_run h.ppwf hpost (dreg.map .reg)
    simp only [PBox.nin, PBox.nout] at hcod' hfit
    have hfit' : lb + i ≤ sp.bw.length := by rw [← h.ppcod]; exact hfit
    have hnot : ¬ (sp.bw.length < lb + i) := by omega
    refine ⟨_, by simp only [Sp.classical, hnot, ↓reduceIte]; rfl, ?_⟩
    refine { h with ref := { h.ref with ppdom := ?_, pp := ?_ }, bw_lt := ?_, cg_lt := ?_, raw := ?_,
                    ppcod := ?_, ppwf := hwf' }
    · simp [hdom', h.ref.ppdom]
    · simp only
      rw [hrun, h.ref.pp]
      simp only [PP.stepRun]
      exact applyCG_map ρb sp.cg sp.bw name i o lb
    · intro β hβ
      simp only [applyCG, List.mem_append] at hβ
      rcases hβ with (hβ | hβ) | hβ
      · exact h.bw_lt β (List.mem_of_mem_take hβ)
      · simp [outs] at hβ
      · exact h.bw_lt β (List.mem_of_mem_drop hβ)
    · intro c hc β hβ
      simp only [applyCG, List.mem_append, List.mem_singleton] at hc
      rcases hc with hc | hc
      · exact h.cg_lt c hc β hβ
      · subst hc
        exact h.bw_lt β (List.mem_of_mem_drop (List.mem_of_mem_take hβ))
    · intro hl
      unfold PP.post at hpost
      split at hpost
      · cases hpost
      · cases hpost; simp at hl
    · simp only
      rw [hcod', h.ppcod, applyCG_snd_length _ _ _ _ _ _ hfit']

theorem swapBits_pp_inv {sp : Sp} {st st' : St} {ρq ρb dreg} {lb : Nat}
    (h : Inv sp st ρq ρb dreg) (hne : st.pp.layers.isEmpty = false) (hs : swapBits st lb = .ok st') :
    sp.bw.length ≥ lb + 2 ∧ Inv { sp with bw := swapAt sp.bw lb } st' ρq ρb dreg := by
  unfold swapBits at hs
  simp only [hne, Bool.false_eq_true, ↓reduceIte] at hs
  split at hs
  · cases hs
  · rename_i pp' hpost
    cases hs
    obtain ⟨hrun, hwf', hdom', hcod', hfit⟩ := PP.post_run h.ppwf hpost (dreg.map .reg)
    simp only [PBox.nin, PBox.nout] at hcod' hfit
    have hfit' : lb + 2 ≤ sp.bw.length := by rw [← h.ppcod]; exact hfit
    refine ⟨hfit', ?_⟩
    refine { h with ref := { h.ref with ppdom := ?_, pp := ?_ }, bw_lt := ?_, raw := ?_,
                    ppcod := ?_, ppwf := hwf' }
    · simp [hdom', h.ref.ppdom]
    · simp only
      rw [hrun, h.ref.pp]
      simp [PP.stepRun, swapAt_map]
    · intro β hβ; exact h.bw_lt β (mem_swapAt hβ)
    · intro hl
      unfold PP.post at hpost
      split at hpost
      · cases hpost
      · cases hpost; simp at hl
    · simp only
      rw [hcod', h.ppcod, swapAt_length]; omega

/-! ### Swap(bit, bit) by renaming registers -/

theorem swapBits_raw_inv {sp : Sp} {st st' : St} {ρq ρb dreg} {lb : Nat}
    (h : Inv sp st ρq ρb dreg) (he : st.pp.layers.isEmpty = true)
    (hs : swapBits st lb = .ok st') :
    ∃ ρb', sp.bw.length ≥ lb + 2 ∧ Inv { sp with bw := swapAt sp.bw lb } st' ρq ρb' dreg := by
  unfold swapBits at hs
  simp only [he, ↓reduceIte] at hs
  have hraw : st.pp.layers = [] := by simpa using he
  split at hs
  · rename_i a b ha hb
    cases hs
    obtain ⟨hbits, hcg, hwires, hbwlen⟩ := h.raw_wires hraw
    rw [hbits] at ha hb
    have hlen : lb + 1 < dreg.length := (List.getElem?_eq_some_iff.mp hb).1
    obtain ⟨ha1, ha2⟩ := h.ref.readout.lt (List.mem_of_getElem? ha)
    obtain ⟨hb1, hb2⟩ := h.ref.readout.lt (List.mem_of_getElem? hb)
    -- neither unit is post-selected: the renaming does not touch the post-selection
    have hps : st.ps.rename [(a, b), (b, a)] = st.ps :=
      PS.rename_of_not_has st.ps _ (by simp [ha2, hb2])
    have hfix : (swapAt dreg lb).map (transp a b) = dreg :=
      swapAt_map_transp (h.ref.readout.1.imp Nat.ne_of_lt) ha hb
    refine ⟨transp a b ∘ ρb, by omega, ?_⟩
    refine { h with ref := { h.ref with injb := ?_, cmds := ?_, ps := ?_, readout := ?_, pp := ?_ },
                    bw_lt := ?_, ps_lt := ?_, ppcod := ?_ }
    · exact transp_comp_inj h.ref.injb ha1 hb1
    · simp only [h.ref.cmds]; exact cmds_rename
    · intro β hβ
      simp only [hps, Function.comp]
      rw [← h.ref.ps β hβ]
      unfold transp
      split
      · rename_i e; rw [e, PS.get_none_of_not_has ha2, PS.get_none_of_not_has hb2]
      · split
        · rename_i _ e; rw [e, PS.get_none_of_not_has ha2, PS.get_none_of_not_has hb2]
        · rfl
    · simp only [hps]; exact h.ref.readout
    · simp only [PP.run, hraw, List.foldl_nil, hcg, List.map_nil, Prod.mk.injEq, true_and]
      have : (swapAt sp.bw lb).map (BV.map (transp a b ∘ ρb)) =
          ((swapAt (sp.bw.map (BV.map ρb)) lb).map (BV.map (transp a b))) := by
        rw [← swapAt_map, List.map_map]
        apply List.map_congr_left
        intro v _
        exact (BV.map_comp _ _ v).symm
      rw [this, ← hwires, ← swapAt_map, List.map_map]
      have : (BV.map (transp a b) ∘ BV.reg) = BV.reg ∘ transp a b := by
        funext r; rfl
      rw [this, ← List.map_map, hfix]
    · intro β hβ; exact h.bw_lt β (mem_swapAt hβ)
    · simp only [hps]; exact h.ps_lt
    · simp only [swapAt_length]; exact h.ppcod
  · cases hs

end DV.Tk
