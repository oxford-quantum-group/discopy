/-
  Proofs/FunctorSum.lean — C04: functors are additive.  The closed form of `F(sum)` (the images of the
  terms, re-validated), `F(a + b) = F(a) + F(b)`, and `F` commutes with `Sum.then`, `Sum.tensor` (and
  `Sum.dagger` under the box-level dagger law), term by term.
-/
import Proofs.FunctorSlice
import Proofs.SumLaws
import Model.FunctorSum

namespace DV

/-! ### `list(map(F, terms))` as a relation -/

/-- `ys` are the images of `xs`, term by term (all applications succeed). -/
inductive Functor.Maps (F : Functor) : List Diagram → List Diagram → Prop
  | nil : Functor.Maps F [] []
  | cons {x y xs ys} : F.apply x = .ok y → Functor.Maps F xs ys → Functor.Maps F (x :: xs) (y :: ys)

theorem Functor.mapE_ok_iff (F : Functor) {xs ys : List Diagram} :
    mapE F.apply xs = .ok ys ↔ F.Maps xs ys := by
  constructor
  · intro h
    induction xs generalizing ys with
    | nil => simp only [mapE, Except.ok.injEq] at h; subst h; exact .nil
    | cons x xs ih =>
      simp only [mapE] at h
      split at h
      · cases h
      · rename_i y hy
        split at h
        · cases h
        · rename_i ys' hys
          cases h
          exact .cons hy (ih hys)
  · intro h
    induction h with
    | nil => rfl
    | cons hy _ ih => simp only [mapE, hy, ih]

theorem Functor.Maps.append {F : Functor} {as as' bs bs' : List Diagram} (ha : F.Maps as as')
    (hb : F.Maps bs bs') : F.Maps (as ++ bs) (as' ++ bs') := by
  induction ha with
  | nil => simpa using hb
  | cons hy _ ih => exact .cons hy ih

theorem Functor.Maps.mem {F : Functor} {xs ys : List Diagram} (h : F.Maps xs ys) {y : Diagram}
    (hy : y ∈ ys) : ∃ x ∈ xs, F.apply x = .ok y := by
  induction h with
  | nil => simp at hy
  | cons hx _ ih =>
    rcases List.mem_cons.mp hy with rfl | hy
    · exact ⟨_, List.mem_cons_self .., hx⟩
    · obtain ⟨x, hx1, hx2⟩ := ih hy
      exact ⟨x, List.mem_cons_of_mem _ hx1, hx2⟩

theorem Functor.Maps.map {F : Functor} {f f' : Diagram → Diagram} {bs bs' : List Diagram}
    (hb : F.Maps bs bs') (h : ∀ g ∈ bs, ∀ g', F.apply g = .ok g' → F.apply (f g) = .ok (f' g')) :
    F.Maps (bs.map f) (bs'.map f') := by
  induction hb with
  | nil => exact .nil
  | cons hy _ ih =>
    exact .cons (h _ (List.mem_cons_self ..) _ hy)
      (ih (fun g hg g' hg' => h g (List.mem_cons_of_mem _ hg) g' hg'))

/-- The images of `[op f g for f in as for g in bs]` are `[op' f' g' for f' in as' for g' in bs']`
    when `F` sends `op` to `op'` on every pair. -/
theorem Functor.Maps.prod {F : Functor} {op op' : Diagram → Diagram → Diagram}
    {as as' bs bs' : List Diagram} (ha : F.Maps as as') (hb : F.Maps bs bs')
    (h : ∀ f ∈ as, ∀ g ∈ bs, ∀ f' g', F.apply f = .ok f' → F.apply g = .ok g' →
      F.apply (op f g) = .ok (op' f' g')) :
    F.Maps (as.flatMap fun f => bs.map (op f)) (as'.flatMap fun f' => bs'.map (op' f')) := by
  induction ha with
  | nil => exact .nil
  | @cons x y xs ys hy _ ih =>
    simp only [List.flatMap_cons]
    exact Functor.Maps.append
      (hb.map (fun g hg g' hg' => h x (List.mem_cons_self ..) g hg y g' hy hg'))
      (ih (fun f hf g hg f' g' hf' hg' => h f (List.mem_cons_of_mem _ hf) g hg f' g' hf' hg'))

/-! ### Inversion and closed form of `F(sum)` -/

theorem Sum.mk?_some_inv {ts : List Diagram} {d c : Ty} {r : Sum}
    (h : Sum.mk? ts (some d) (some c) = .ok r) :
    (∀ t ∈ ts, t.dom = d ∧ t.cod = c) ∧ r = ⟨ts, d, c⟩ := by
  cases ts with
  | nil => simp only [Sum.mk?, Except.ok.injEq] at h; exact ⟨by simp, h.symm⟩
  | cons t ts =>
    simp only [Sum.mk?, Option.getD_some] at h
    split at h
    · rename_i hty
      cases h
      exact ⟨Sum.typesOk_iff.mp hty, rfl⟩
    · cases h

theorem Functor.applySum_inv (F : Functor) {s r : Sum} (h : F.applySum s = .ok r) :
    ∃ ts d c, F.Maps s.terms ts ∧ F.ty s.dom = .ok d ∧ F.ty s.cod = .ok c ∧
      (∀ t ∈ ts, t.dom = d ∧ t.cod = c) ∧ r = ⟨ts, d, c⟩ := by
  unfold Functor.applySum at h
  split at h
  · cases h
  · rename_i ts hts
    split at h
    · cases h
    · rename_i d hd
      split at h
      · cases h
      · rename_i c hc
        obtain ⟨hty, rfl⟩ := Sum.mk?_some_inv h
        exact ⟨ts, d, c, F.mapE_ok_iff.mp hts, hd, hc, hty, rfl⟩

theorem Functor.applySum_eq (F : Functor) {s : Sum} {ts : List Diagram} {d c : Ty}
    (hm : F.Maps s.terms ts) (hd : F.ty s.dom = .ok d) (hc : F.ty s.cod = .ok c)
    (hty : ∀ t ∈ ts, t.dom = d ∧ t.cod = c) : F.applySum s = .ok ⟨ts, d, c⟩ := by
  unfold Functor.applySum
  simp only [F.mapE_ok_iff.mpr hm, hd, hc]
  exact Sum.mk?_some hty

/-- `F` is well-typed on every box of every term. -/
def Functor.okOnSum (F : Functor) (s : Sum) : Prop := ∀ t ∈ s.terms, ∀ b ∈ t.boxes, F.okOn b

/-- Typing of the image of a sum: on a well-typed sum the constructor's re-validation of the images
    (cat.py:655-657) never fails, the image is a well-typed sum from `F(dom)` to `F(cod)`, and its
    terms are the images of the terms. -/
theorem Functor.applySum_props (F : Functor) {s : Sum} {ts : List Diagram} {d c : Ty} (hs : s.WF)
    (hok : F.okOnSum s) (hm : F.Maps s.terms ts) (hd : F.ty s.dom = .ok d)
    (hc : F.ty s.cod = .ok c) :
    F.applySum s = .ok ⟨ts, d, c⟩ ∧ (⟨ts, d, c⟩ : Sum).WF := by
  have hall : ∀ t ∈ ts, t.WF ∧ t.dom = d ∧ t.cod = c := by
    intro t ht
    obtain ⟨x, hx, hxt⟩ := hm.mem ht
    obtain ⟨xw, xd, xc⟩ := hs x hx
    obtain ⟨tw, td, tc⟩ := F.apply_props xw (hok x hx) hxt
    rw [xd, hd] at td; rw [xc, hc] at tc
    exact ⟨tw, (Except.ok.inj td).symm, (Except.ok.inj tc).symm⟩
  exact ⟨F.applySum_eq hm hd hc (fun t ht => (hall t ht).2), hall⟩

/-! ### The laws -/

/-- `F(a + b) = F(a) + F(b)`: no hypothesis on the functor or on the terms beyond the two sums
    having the same types. -/
theorem Functor.applySum_add (F : Functor) {a b ab fa fb : Sum} (hd : a.dom = b.dom)
    (hc : a.cod = b.cod) (hab : a.add b = .ok ab) (hfa : F.applySum a = .ok fa)
    (hfb : F.applySum b = .ok fb) : ∃ r, fa.add fb = .ok r ∧ F.applySum ab = .ok r := by
  obtain ⟨_, rfl⟩ := Sum.mk?_some_inv hab
  obtain ⟨tsa, da, ca, hma, hda, hca, htya, rfl⟩ := F.applySum_inv hfa
  obtain ⟨tsb, db, cb, hmb, hdb, hcb, htyb, rfl⟩ := F.applySum_inv hfb
  rw [← hd, hda] at hdb; rw [← hc, hca] at hcb
  cases hdb; cases hcb
  have hty : ∀ t ∈ tsa ++ tsb, t.dom = da ∧ t.cod = ca := by
    intro t ht
    rcases List.mem_append.mp ht with h | h
    · exact htya t h
    · exact htyb t h
  exact ⟨⟨tsa ++ tsb, da, ca⟩, Sum.add_spec hty,
    F.applySum_eq (s := ⟨a.terms ++ b.terms, a.dom, a.cod⟩) (hma.append hmb) hda hca hty⟩

/-- `F(a >> b) = F(a) >> F(b)` for sums: the images of `[f >> g for f in a for g in b]`. -/
theorem Functor.applySum_then (F : Functor) {a b ab fa fb : Sum} (ha : a.WF) (hb : b.WF)
    (hoka : F.okOnSum a) (hokb : F.okOnSum b) (h : a.cod = b.dom) (hab : a.then b = .ok ab)
    (hfa : F.applySum a = .ok fa) (hfb : F.applySum b = .ok fb) :
    ∃ r, fa.then fb = .ok r ∧ F.applySum ab = .ok r := by
  rw [Sum.then_spec ha hb h] at hab
  cases hab
  obtain ⟨tsa, da, ca, hma, hda, hca, _, rfl⟩ := F.applySum_inv hfa
  obtain ⟨tsb, db, cb, hmb, hdb, hcb, _, rfl⟩ := F.applySum_inv hfb
  have faw := (F.applySum_props ha hoka hma hda hca).2
  have fbw := (F.applySum_props hb hokb hmb hdb hcb).2
  have hcd : ca = db := by rw [h, hdb] at hca; exact (Except.ok.inj hca).symm
  refine ⟨_, Sum.then_spec faw fbw hcd, ?_⟩
  have hm : F.Maps (a.thenD b).terms (Sum.thenD ⟨tsa, da, ca⟩ ⟨tsb, db, cb⟩).terms := by
    apply Functor.Maps.prod hma hmb
    intro f hf g hg f' g' hf' hg'
    obtain ⟨fw, _, fc⟩ := ha f hf
    obtain ⟨gw, gd, _⟩ := hb g hg
    obtain ⟨r, hr1, hr2⟩ := F.apply_then fw gw (hoka f hf)
      (Diagram.then_spec fw gw (by rw [fc, gd, h])) hf' hg'
    rw [(Diagram.then_ok' hr1).2] at hr2
    exact hr2
  exact F.applySum_eq (s := a.thenD b) hm hda hcb
    (fun t ht => (Sum.thenD_wf faw fbw hcd t ht).2)

/-- `F(a @ b) = F(a) @ F(b)` for sums. -/
theorem Functor.applySum_tensor (F : Functor) {a b ab fa fb : Sum} (ha : a.WF) (hb : b.WF)
    (hoka : F.okOnSum a) (hokb : F.okOnSum b) (hab : a.tensor b = .ok ab)
    (hfa : F.applySum a = .ok fa) (hfb : F.applySum b = .ok fb) :
    ∃ r, fa.tensor fb = .ok r ∧ F.applySum ab = .ok r := by
  rw [Sum.tensor_spec ha hb] at hab
  cases hab
  obtain ⟨tsa, da, ca, hma, hda, hca, _, rfl⟩ := F.applySum_inv hfa
  obtain ⟨tsb, db, cb, hmb, hdb, hcb, _, rfl⟩ := F.applySum_inv hfb
  have faw := (F.applySum_props ha hoka hma hda hca).2
  have fbw := (F.applySum_props hb hokb hmb hdb hcb).2
  refine ⟨_, Sum.tensor_spec faw fbw, ?_⟩
  have hm : F.Maps (a.tensorD b).terms (Sum.tensorD ⟨tsa, da, ca⟩ ⟨tsb, db, cb⟩).terms := by
    apply Functor.Maps.prod hma hmb
    intro f hf g hg f' g' hf' hg'
    exact F.apply_tensorD (ha f hf).1 (hb g hg).1 (hoka f hf) (hokb g hg) hf' hg'
  exact F.applySum_eq (s := a.tensorD b) hm (F.ty_append hda hdb) (F.ty_append hca hcb)
    (fun t ht => (Sum.tensorD_wf faw fbw t ht).2)

/-- `F(a†) = F(a)†` for sums whose boxes satisfy the box-level dagger law (cf. `apply_dagger`). -/
theorem Functor.applySum_dagger (F : Functor) {a a' fa : Sum} (ha : a.WF) (hok : F.okOnSum a)
    (hdag : ∀ t ∈ a.terms, ∀ b ∈ t.boxes, ∀ x, F.box b = .ok x → F.box b.dag = .ok x.dagger)
    (had : a.dagger = .ok a') (hfa : F.applySum a = .ok fa) :
    ∃ r, fa.dagger = .ok r ∧ F.applySum a' = .ok r := by
  rw [Sum.dagger_spec ha] at had
  cases had
  obtain ⟨ts, d, c, hm, hd, hc, _, rfl⟩ := F.applySum_inv hfa
  have faw := (F.applySum_props ha hok hm hd hc).2
  refine ⟨_, Sum.dagger_spec faw, ?_⟩
  have hm' : F.Maps a.daggerD.terms (Sum.daggerD ⟨ts, d, c⟩).terms := by
    apply hm.map
    intro g hg g' hg'
    exact F.apply_dagger (ha g hg).1 (hok g hg) (hdag g hg) hg'
  exact F.applySum_eq (s := a.daggerD) hm' hc hd (fun t ht => (Sum.daggerD_wf faw t ht).2)

end DV
