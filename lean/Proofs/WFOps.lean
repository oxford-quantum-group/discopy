/-
  Proofs/WFOps.lean — well-typedness of the public constructor, interchange,
  normal forms, swaps, permutations, cups, caps, transposes, the n-ary `then` / `tensor`; closure
  over the op language.
-/
import Proofs.WF
import Proofs.InterchangePath

namespace DV

/-! ### The scanning constructor -/

theorem scanLayers_spec {ls r : LArrow} {bs : List Box} {os : List Int}
    (hlen : bs.length = os.length) (hw : ls.WF) (h : scanLayers ls bs os = .ok r) :
    r.WF ∧ r.dom = ls.dom ∧ ∃ new, r.boxes = ls.boxes ++ new ∧ new.map (·.box) = bs ∧
      new.map (fun l => (l.left.length : Int)) = os := by
  induction bs generalizing ls os with
  | nil =>
    cases os with
    | nil => simp [scanLayers] at h; subst h; exact ⟨hw, rfl, [], by simp⟩
    | cons o os => simp at hlen
  | cons b bs ih =>
    cases os with
    | nil => simp at hlen
    | cons o os =>
      simp only [scanLayers] at h
      split at h
      · cases h
      · rename_i hoff
        obtain ⟨ls', hls', h⟩ := ok_of_bindA h
        have hw' : ls'.WF := LArrow.then_wf hw (Layer.arrow_wf _) hls'
        obtain ⟨_, rfl⟩ := LArrow.then_ok hls'
        obtain ⟨h1, h2, new, h3, h4, h5⟩ := ih (by simpa using hlen) hw' h
        refine ⟨h1, h2, _ :: new, by rw [h3, List.append_assoc]; rfl, ?_, ?_⟩
        · simp [h4]
        · simp only [ne_eq, Decidable.not_not] at hoff
          simp [h5, hoff]

theorem Diagram.mk?_ok {dom cod : Ty} {bs : List Box} {os : List Int} {d : Diagram}
    (h : Diagram.mk? dom cod bs os = .ok d) :
    d.WF ∧ d.dom = dom ∧ d.cod = cod ∧ d.boxes = bs ∧ d.offsets = os := by
  unfold Diagram.mk? at h
  split at h
  · cases h
  · rename_i hlen
    simp only [ne_eq, Decidable.not_not] at hlen
    obtain ⟨ls, hls, h⟩ := ok_of_bindA h
    obtain ⟨ls', hls', h⟩ := ok_of_bindA h
    cases h
    obtain ⟨h1, h2, new, h3, h4, h5⟩ := scanLayers_spec hlen (LArrow.id_wf dom) hls
    have hw' := LArrow.then_wf h1 (LArrow.id_wf cod) hls'
    obtain ⟨_, rfl⟩ := LArrow.then_ok hls'
    refine ⟨⟨?_, rfl, ?_, ?_, hw'⟩, rfl, rfl, rfl, rfl⟩
    · simpa [LArrow.id] using h2
    · simp [h3, LArrow.id, h4]
    · simp [h3, LArrow.id, h5]

theorem Diagram.mk?_wf {dom cod : Ty} {bs : List Box} {os : List Int} {d : Diagram}
    (h : Diagram.mk? dom cod bs os = .ok d) : d.WF := (Diagram.mk?_ok h).1

/-! ### interchange -/

theorem pySlice_drop_length {α} (xs : List α) (k : Nat) :
    (pySlice xs (some (k : Int)) none).length = xs.length - k := by
  rw [pySlice_drop]; simp

/-- A successful branch selection took one of the two cases, under that case's side condition. -/
theorem interchangeChoice_ok {left : Bool} {off0 off1 : Int} {l0 l1 : Layer}
    {r : Int × Int × Layer × Layer} (h : interchangeChoice left off0 off1 l0 l1 = .ok r) :
    (off1 ≥ off0 + l0.box.cod.length ∧ r = leftCase off0 off1 l0 l1) ∨
    (off0 ≥ off1 + l1.box.dom.length ∧ r = rightCase off0 off1 l0 l1) := by
  rw [interchangeChoice] at h
  by_cases c1 : (left && decide (off1 ≥ off0 + l0.box.cod.length)) = true
  · rw [if_pos c1] at h
    rw [Bool.and_eq_true, decide_eq_true_eq] at c1
    exact .inl ⟨c1.2, (Except.ok.inj h).symm⟩
  · rw [if_neg c1] at h
    by_cases hR : off0 ≥ off1 + l1.box.dom.length
    · rw [if_pos hR] at h
      exact .inr ⟨hR, (Except.ok.inj h).symm⟩
    · rw [if_neg hR] at h
      by_cases hL : off1 ≥ off0 + l0.box.cod.length
      · rw [if_pos hL] at h
        exact .inl ⟨hL, (Except.ok.inj h).symm⟩
      · rw [if_neg hL] at h
        cases h

theorem interchangeChoice_offsets {left : Bool} {off0 off1 o0 o1 : Int} {l0 l1 y0 y1 : Layer}
    (h0 : off0 = l0.left.length) (h1 : off1 = l1.left.length)
    (h : interchangeChoice left off0 off1 l0 l1 = .ok (o0, o1, y0, y1)) :
    o0 = y0.left.length ∧ o1 = y1.left.length ∧ y0.box = l0.box ∧ y1.box = l1.box := by
  subst h0 h1
  rcases interchangeChoice_ok h with ⟨hc, he⟩ | ⟨hc, he⟩
  · rw [leftCase, Prod.mk.injEq, Prod.mk.injEq, Prod.mk.injEq] at he
    obtain ⟨rfl, rfl, rfl, rfl⟩ := he
    refine ⟨rfl, ?_, rfl, rfl⟩
    simp only [List.length_append, pySlice_drop_length]
    omega
  · rw [rightCase, Prod.mk.injEq, Prod.mk.injEq, Prod.mk.injEq] at he
    obtain ⟨rfl, rfl, rfl, rfl⟩ := he
    refine ⟨?_, rfl, rfl, rfl⟩
    simp only [List.length_append, pySlice_drop_length]
    omega

theorem Diagram.splice_wf {d d' : Diagram} {i : Nat} {o0 o1 : Int} {y0 y1 : Layer}
    (hd : d.WF) (hi : i + 1 < d.layers.boxes.length)
    (h0 : o0 = y0.left.length) (h1 : o1 = y1.left.length)
    (h : d.splice i o0 o1 y0 y1 = .ok d') :
    d'.WF ∧ d'.dom = d.dom ∧ d'.cod = d.cod ∧
      d'.layers.boxes = d.layers.boxes.take i ++ [y1, y0] ++ d.layers.boxes.drop (i + 2) := by
  -- `h` went through five `>>`/slice steps in turn: `pre = layers[:i]`, `>> y1`, `>> y0`,
  -- `post = layers[i+2:]`, `>> post`; the new layers are `take i ++ [y1, y0] ++ drop (i+2)` and the
  -- public fields have to be their projections
  unfold Diagram.splice at h
  split at h
  · cases h
  · rename_i pre hpre
    split at h
    · cases h
    · rename_i a1 ha1
      split at h
      · cases h
      · rename_i a2 ha2
        split at h
        · cases h
        · rename_i post hpost
          split at h
          · cases h
          · rename_i ls hls
            cases h
            obtain ⟨pw, pdom, pboxes⟩ := LArrow.slice_prefix hd.chain (by omega) hpre
            obtain ⟨qw, qcod, qboxes⟩ := LArrow.slice_suffix hd.chain (by omega) (by omega) hpost
            have w1 := LArrow.then_wf pw (Layer.arrow_wf _) ha1
            obtain ⟨_, rfl⟩ := LArrow.then_ok ha1
            have w2 := LArrow.then_wf w1 (Layer.arrow_wf _) ha2
            obtain ⟨_, rfl⟩ := LArrow.then_ok ha2
            have w3 := LArrow.then_wf w2 qw hls
            obtain ⟨_, rfl⟩ := LArrow.then_ok hls
            refine ⟨⟨?_, ?_, ?_, ?_, w3⟩, rfl, rfl, ?_⟩
            · simp [pdom, hd.ldom]
            · simp [qcod, hd.lcod]
            · rw [pySlice_take d.boxes, pySlice_drop d.boxes]
              simp [pboxes, qboxes, Layer.arrow, hd.boxes, List.map_take, List.map_drop]
            · rw [pySlice_take d.offsets, pySlice_drop d.offsets]
              simp [pboxes, qboxes, Layer.arrow, hd.offsets, List.map_take, List.map_drop, h0, h1]
            · simp [pboxes, qboxes, Layer.arrow]

/-- An adjacent interchange with layers `l0, l1` at `i, i+1`: branch selection, then splice. -/
theorem Diagram.interchangeAdj_eq {d : Diagram} {i : Nat} {l0 l1 : Layer} (hd : d.WF)
    (e2 : d.layers.boxes[i]? = some l0) (e3 : d.layers.boxes[i+1]? = some l1) (left : Bool) :
    d.interchangeAdj i left =
      match interchangeChoice left l0.left.length l1.left.length l0 l1 with
      | .error e => .error e
      | .ok (o0, o1, y0, y1) => d.splice i o0 o1 y0 y1 := by
  rw [Diagram.interchangeAdj, (hd.fields_at e2).1, (hd.fields_at e3).1, e2, e3]
  rfl

/-- What a successful adjacent interchange `d ↦ d'` at `i` did: it found the layers `l0, l1` at
    `i, i+1`, chose the exchanged pair `y1, y0` from their offsets and put it in their place. -/
structure AdjStep (left : Bool) (d d' : Diagram) (i : Nat) (l0 l1 y0 y1 : Layer) (o0 o1 : Int) :
    Prop where
  at0 : d.layers.boxes[i]? = some l0
  at1 : d.layers.boxes[i+1]? = some l1
  choice : interchangeChoice left l0.left.length l1.left.length l0 l1 = .ok (o0, o1, y0, y1)
  wf : d'.WF
  dom : d'.dom = d.dom
  cod : d'.cod = d.cod
  layers : d'.layers.boxes = d.layers.boxes.take i ++ [y1, y0] ++ d.layers.boxes.drop (i + 2)

theorem Diagram.interchangeAdj_ok {d d' : Diagram} {i : Nat} {left : Bool} (hd : d.WF)
    (h : d.interchangeAdj i left = .ok d') :
    ∃ l0 l1 y0 y1 o0 o1, AdjStep left d d' i l0 l1 y0 y1 o0 o1 := by
  unfold Diagram.interchangeAdj at h
  split at h
  · rename_i off0 off1 l0 l1 e0 e1 e2 e3
    split at h
    · cases h
    · rename_i o0 o1 y0 y1 hch
      cases (hd.fields_at e2).1.symm.trans e0
      cases (hd.fields_at e3).1.symm.trans e1
      obtain ⟨q0, q1, _, _⟩ := interchangeChoice_offsets rfl rfl hch
      obtain ⟨w, hdom, hcod, hl⟩ := Diagram.splice_wf hd (List.getElem?_eq_some_iff.mp e3).1 q0 q1 h
      exact ⟨l0, l1, y0, y1, o0, o1, e2, e3, hch, w, hdom, hcod, hl⟩
  · cases h

theorem Diagram.interchangeAdj_wf {d d' : Diagram} {i : Nat} {left : Bool} (hd : d.WF)
    (h : d.interchangeAdj i left = .ok d') :
    d'.WF ∧ d'.dom = d.dom ∧ d'.cod = d.cod := by
  obtain ⟨_, _, _, _, _, _, s⟩ := Diagram.interchangeAdj_ok hd h
  exact ⟨s.wf, s.dom, s.cod⟩

theorem interchangePath_wf {left : Bool} {ks : List Nat} {d d' : Diagram} (hd : d.WF)
    (h : interchangePath left ks d = .ok d') : d'.WF ∧ d'.dom = d.dom ∧ d'.cod = d.cod := by
  induction ks generalizing d with
  | nil => cases h; exact ⟨hd, rfl, rfl⟩
  | cons k ks ih =>
    obtain ⟨d1, hd1, h⟩ := ok_of_bind h
    obtain ⟨w, e1, e2⟩ := Diagram.interchangeAdj_wf hd hd1
    obtain ⟨w', e1', e2'⟩ := ih w h
    exact ⟨w', e1'.trans e1, e2'.trans e2⟩

theorem Diagram.interchange_wf {d d' : Diagram} {i j : Int} {left : Bool} (hd : d.WF)
    (h : d.interchange i j left = .ok d') : d'.WF ∧ d'.dom = d.dom ∧ d'.cod = d.cod := by
  rw [Diagram.interchange_eq_path] at h
  split at h
  · cases h
  · exact interchangePath_wf hd h

/-! ### Packaged facts for composite operations -/

theorem Diagram.then_props {a b d : Diagram} (ha : a.WF) (hb : b.WF) (h : a.then b = .ok d) :
    d.WF ∧ d.dom = a.dom ∧ d.cod = b.cod := by
  refine ⟨Diagram.then_wf ha hb h, ?_, ?_⟩
  all_goals (obtain ⟨ls, _, rfl⟩ := Diagram.then_ok h; rfl)

theorem Diagram.tensor_props {a b d : Diagram} (ha : a.WF) (hb : b.WF) (h : a.tensor b = .ok d) :
    d.WF ∧ d.dom = a.dom ++ b.dom ∧ d.cod = a.cod ++ b.cod := by
  refine ⟨Diagram.tensor_wf ha hb h, ?_, ?_⟩
  all_goals (rw [Diagram.tensor_spec ha hb] at h; cases h; rfl)

/-! ### normalize / normal_form -/

theorem normalizePass_wf {left : Bool} {n i : Nat} {d d' : Diagram} {acc steps : List Diagram}
    (hd : d.WF) (hacc : ∀ s ∈ acc, s.WF ∧ s.dom = d.dom ∧ s.cod = d.cod)
    (h : normalizePass left n i d acc = .ok (d', steps)) :
    (d'.WF ∧ d'.dom = d.dom ∧ d'.cod = d.cod) ∧
      ∀ s ∈ steps, s.WF ∧ s.dom = d.dom ∧ s.cod = d.cod := by
  induction n generalizing i d acc with
  | zero =>
    simp only [normalizePass, Except.ok.injEq, Prod.mk.injEq] at h
    obtain ⟨rfl, rfl⟩ := h
    exact ⟨⟨hd, rfl, rfl⟩, hacc⟩
  | succ n ih =>
    simp only [normalizePass] at h
    split at h
    · obtain ⟨d1, hd1, h⟩ := ok_of_bind h
      obtain ⟨w, e1, e2⟩ := Diagram.interchange_wf hd hd1
      -- `d1` has the type of `d`, so the invariant about `d1` is the invariant about `d`
      have := ih (i := i + 1) (acc := acc ++ [d1]) w
      rw [e1, e2] at this
      exact this (List.forall_mem_append.mpr ⟨hacc, List.forall_mem_singleton.mpr ⟨w, e1, e2⟩⟩) h
    · exact ih hd hacc h

theorem normalFormLoop_wf {left : Bool} {fuel : Nat} {d d' : Diagram} {cache : List Diagram}
    (hd : d.WF) (h : normalFormLoop left fuel d cache = .ok d') :
    d'.WF ∧ d'.dom = d.dom ∧ d'.cod = d.cod := by
  induction fuel generalizing d cache with
  | zero => simp [normalFormLoop] at h
  | succ fuel ih =>
    simp only [normalFormLoop] at h
    split at h
    · cases h
    · rename_i d1 steps hpass
      obtain ⟨⟨w, e1, e2⟩, _⟩ := normalizePass_wf hd (by simp) hpass
      split at h
      · cases h; exact ⟨hd, rfl, rfl⟩
      · split at h
        · cases h
        · obtain ⟨a, b, c⟩ := ih w h
          exact ⟨a, b.trans e1, c.trans e2⟩

theorem Diagram.normalForm_wf {d d' : Diagram} {left : Bool} {fuel : Nat} (hd : d.WF)
    (h : d.normalForm left fuel = .ok d') : d'.WF ∧ d'.dom = d.dom ∧ d'.cod = d.cod :=
  normalFormLoop_wf hd h

/-! ### swap, permutation -/

theorem swapOne_props {l : Ob} {right : Ty} {d : Diagram} (h : swapOne l right = .ok d) :
    d.WF ∧ d.dom = [l] ++ right ∧ d.cod = right ++ [l] := by
  obtain ⟨w, a, b, _, _⟩ := Diagram.mk?_ok h
  exact ⟨w, a, b⟩

theorem Diagram.swap_props {left right : Ty} {d : Diagram} (h : Diagram.swap left right = .ok d) :
    d.WF ∧ d.dom = left ++ right ∧ d.cod = right ++ left := by
  induction left generalizing d with
  | nil =>
    simp only [Diagram.swap, Except.ok.injEq] at h; subst h
    exact ⟨Diagram.id_wf _, by simp [Diagram.id], by simp [Diagram.id]⟩
  | cons l ls ih =>
    cases ls with
    | nil => simpa [Diagram.swap] using swapOne_props h
    | cons l2 ls =>
      simp only [Diagram.swap] at h
      obtain ⟨rest, hrest, h⟩ := ok_of_bind h
      obtain ⟨rw_, rd, rc⟩ := ih hrest
      obtain ⟨top, htop, h⟩ := ok_of_bind h
      obtain ⟨tw, td, tc⟩ := Diagram.tensor_props (Diagram.id_wf _) rw_ htop
      obtain ⟨s1, hs1, h⟩ := ok_of_bind h
      obtain ⟨sw, sd, sc⟩ := swapOne_props hs1
      obtain ⟨bot, hbot, h⟩ := ok_of_bind h
      obtain ⟨bw, bd, bc⟩ := Diagram.tensor_props sw (Diagram.id_wf _) hbot
      obtain ⟨w, e1, e2⟩ := Diagram.then_props tw bw h
      refine ⟨w, ?_, ?_⟩
      · rw [e1, td, rd]; simp [Diagram.id]
      · rw [e2, bc, sc]; simp [Diagram.id]

theorem permLoop_wf {n i : Nat} {perm : List Int} {d d' : Diagram} (hd : d.WF)
    (h : permLoop n i perm d = .ok d') : d'.WF ∧ d'.dom = d.dom := by
  induction n generalizing i perm d with
  | zero => simp [permLoop] at h; subst h; exact ⟨hd, rfl⟩
  | succ n ih =>
    simp only [permLoop] at h
    split at h
    · cases h
    · split at h
      · cases h
      · rename_i s hs
        obtain ⟨sw, _, _⟩ := Diagram.swap_props hs
        obtain ⟨x, hx, h⟩ := ok_of_bind h
        obtain ⟨xw, _, _⟩ := Diagram.tensor_props (Diagram.id_wf _) sw hx
        obtain ⟨layer, hlayer, h⟩ := ok_of_bind h
        obtain ⟨lw, _, _⟩ := Diagram.tensor_props xw (Diagram.id_wf _) hlayer
        obtain ⟨d1, hd1, h⟩ := ok_of_bind h
        obtain ⟨w1, e1, _⟩ := Diagram.then_props hd lw hd1
        obtain ⟨w, e⟩ := ih w1 h
        exact ⟨w, e.trans e1⟩

theorem Diagram.permutation_props {perm : List Int} {dom : Ty} {d : Diagram}
    (h : Diagram.permutation perm dom = .ok d) : d.WF ∧ d.dom = dom := by
  unfold Diagram.permutation at h
  split at h
  · cases h
  · split at h
    · cases h
    · exact permLoop_wf (Diagram.id_wf dom) h

/-! ### cups, caps -/

theorem cupsLoop_wf {left right : Ty} {rev : Bool} {n i : Nat} {d d' : Diagram} (hd : d.WF)
    (h : cupsLoop left right rev n i d = .ok d') : d'.WF := by
  induction n generalizing i d with
  | zero => simp [cupsLoop] at h; subst h; exact hd
  | succ n ih =>
    simp only [cupsLoop] at h
    split at h
    · split at h
      · cases h
      · rename_i x hx
        obtain ⟨xw, _, _⟩ := Diagram.tensor_props (Diagram.id_wf _) (Diagram.ofBox_wf _) hx
        obtain ⟨layer, hlayer, h⟩ := ok_of_bind h
        obtain ⟨lw, _, _⟩ := Diagram.tensor_props xw (Diagram.id_wf _) hlayer
        obtain ⟨d1, hd1, h⟩ := ok_of_bind h
        have w1 : d1.WF := by
          split at hd1
          · exact Diagram.then_wf lw hd hd1
          · exact Diagram.then_wf hd lw hd1
        exact ih w1 h
    · cases h

theorem Diagram.cups_wf {left right : Ty} {d : Diagram} (h : Diagram.cups left right = .ok d) :
    d.WF := by
  unfold Diagram.cups at h
  split at h
  · cases h
  · exact cupsLoop_wf (Diagram.id_wf _) h

theorem Diagram.caps_wf {left right : Ty} {d : Diagram} (h : Diagram.caps left right = .ok d) :
    d.WF := by
  unfold Diagram.caps at h
  split at h
  · cases h
  · exact cupsLoop_wf (Diagram.id_wf _) h

/-! ### Transposes -/

theorem tensor3_wf {a b c : Except Err Diagram}
    (ha : ∀ x, a = .ok x → x.WF) (hb : ∀ x, b = .ok x → x.WF) (hc : ∀ x, c = .ok x → x.WF) :
    ∀ d, tensor3 a b c = .ok d → d.WF := by
  intro d h
  unfold tensor3 at h
  split at h
  · rename_i x y z
    obtain ⟨xy, hxy, h⟩ := ok_of_bind h
    exact Diagram.tensor_wf (Diagram.tensor_wf (ha x rfl) (hb y rfl) hxy) (hc z rfl) h
  all_goals cases h

theorem then3_wf {a b c : Except Err Diagram}
    (ha : ∀ x, a = .ok x → x.WF) (hb : ∀ x, b = .ok x → x.WF) (hc : ∀ x, c = .ok x → x.WF) :
    ∀ d, then3 a b c = .ok d → d.WF := by
  intro d h
  unfold then3 at h
  split at h
  · rename_i x y z
    obtain ⟨xy, hxy, h⟩ := ok_of_bind h
    exact Diagram.then_wf (Diagram.then_wf (ha x rfl) (hb y rfl) hxy) (hc z rfl) h
  all_goals cases h

theorem Diagram.transpose_wf {d d' : Diagram} {left : Bool} (hd : d.WF)
    (h : d.transpose left = .ok d') : d'.WF := by
  have ok : ∀ {e : Diagram}, e.WF → ∀ x, (Except.ok e : Except Err Diagram) = .ok x → x.WF :=
    fun he x hx => Except.ok.inj hx ▸ he
  have hid := fun t => ok (Diagram.id_wf t)
  have hcaps : ∀ l r x, Diagram.caps l r = .ok x → x.WF := fun _ _ _ => Diagram.caps_wf
  have hcups : ∀ l r x, Diagram.cups l r = .ok x → x.WF := fun _ _ _ => Diagram.cups_wf
  unfold Diagram.transpose at h
  split at h
  · exact then3_wf (tensor3_wf (hid _) (hcaps _ _) (hid _)) (tensor3_wf (hid _) (ok hd) (hid _))
      (tensor3_wf (hcups _ _) (hid _) (hid _)) _ h
  · exact then3_wf (tensor3_wf (hcaps _ _) (hid _) (hid _)) (tensor3_wf (hid _) (ok hd) (hid _))
      (tensor3_wf (hid _) (hcups _ _) (hid _)) _ h

/-! ### The n-ary calling convention of `then` / `tensor` (cat.py:307-310, monoidal.py:384-385,
   monoidal.py:419-422)

  `Junctions c bs`: reading the arguments from the type `c` the receiver ends on, every argument
  starts where the one before it ends — *including* the first one, which has to start on `c`. -/

/-- Every junction of `recv.then(b₁, …, bₙ)` matches: `c = b₁.dom`, `b₁.cod = b₂.dom`, … -/
def Junctions : Ty → List Diagram → Prop
  | _, [] => True
  | c, b :: bs => c = b.dom ∧ Junctions b.cod bs

/-- The codomain the n-ary composite ends on: that of the last argument (of the receiver if there
    is no argument). -/
def lastCod : Ty → List Diagram → Ty
  | c, [] => c
  | _, b :: bs => lastCod b.cod bs

/-- The two outcomes of an n-ary composition of well-typed diagrams, by one walk along the
    arguments: all junctions match and the composite is handed back, or one does not and the
    request is refused with an axiom error. -/
theorem Diagram.thenN_cases {a : Diagram} {bs : List Diagram} (ha : a.WF) (hbs : ∀ b ∈ bs, b.WF) :
    (Junctions a.cod bs ∧ ∃ d, a.thenN bs = .ok d ∧ d.WF ∧ d.dom = a.dom ∧
      d.cod = lastCod a.cod bs ∧ d.boxes = a.boxes ++ (bs.map (·.boxes)).flatten) ∨
    (¬ Junctions a.cod bs ∧ a.thenN bs = .error .axiom) := by
  induction bs generalizing a with
  | nil => exact .inl ⟨trivial, a, rfl, ha, rfl, rfl, by simp⟩
  | cons b bs ih =>
    have hb := hbs b List.mem_cons_self
    by_cases h1 : a.cod = b.dom
    · obtain ⟨x, hx⟩ := (Diagram.then_ok_iff ha hb).mpr h1
      obtain ⟨xw, xd, xc⟩ := Diagram.then_props ha hb hx
      rcases ih xw (fun b' hb' => hbs b' (List.mem_cons_of_mem _ hb')) with
        ⟨hj, d, hd, w, dd, dc, db⟩ | ⟨hj, he⟩
      · refine .inl ⟨⟨h1, xc ▸ hj⟩, d, by simp [Diagram.thenN, hx, hd], w, dd.trans xd,
          by rw [dc, xc]; rfl, ?_⟩
        obtain ⟨ls, _, rfl⟩ := Diagram.then_ok hx
        simp [db]
      · exact .inr ⟨fun hj' => hj (xc ▸ hj'.2), by simp [Diagram.thenN, hx, he]⟩
    · exact .inr ⟨fun hj => h1 hj.1, by simp [Diagram.thenN, Diagram.then_err ha hb h1]⟩

theorem Diagram.thenN_props {a d : Diagram} {bs : List Diagram} (ha : a.WF)
    (hbs : ∀ b ∈ bs, b.WF) (h : a.thenN bs = .ok d) :
    d.WF ∧ d.dom = a.dom ∧ d.cod = lastCod a.cod bs ∧
      d.boxes = a.boxes ++ (bs.map (·.boxes)).flatten := by
  rcases Diagram.thenN_cases ha hbs with ⟨_, d', hd', r⟩ | ⟨_, he⟩
  · cases hd'.symm.trans h; exact r
  · cases he.symm.trans h

/-- The n-ary composition of well-typed diagrams is accepted exactly when every junction matches,
    the one between the receiver and the first argument included (whatever the receiver is: an
    identity is no exception). -/
theorem Diagram.thenN_ok_iff {a : Diagram} {bs : List Diagram} (ha : a.WF) (hbs : ∀ b ∈ bs, b.WF) :
    (∃ d, a.thenN bs = .ok d) ↔ Junctions a.cod bs := by
  rcases Diagram.thenN_cases ha hbs with ⟨hj, d, hd, _⟩ | ⟨hj, he⟩
  · exact ⟨fun _ => hj, fun _ => ⟨d, hd⟩⟩
  · exact ⟨fun ⟨d, h⟩ => (by cases he.symm.trans h), fun h => absurd h hj⟩

/-- … and refused with an axiom error otherwise. -/
theorem Diagram.thenN_refused {a : Diagram} {bs : List Diagram} (ha : a.WF) (hbs : ∀ b ∈ bs, b.WF)
    (h : ¬ Junctions a.cod bs) : a.thenN bs = .error .axiom :=
  (Diagram.thenN_cases ha hbs).elim (fun hj => absurd hj.1 h) (·.2)

/-- The n-ary tensor of well-typed diagrams always succeeds and is well-typed, from the
    concatenated domains to the concatenated codomains. -/
theorem Diagram.tensorN_props {a : Diagram} {bs : List Diagram} (ha : a.WF) (hbs : ∀ b ∈ bs, b.WF) :
    ∃ d, a.tensorN bs = .ok d ∧ d.WF ∧ d.dom = a.dom ++ (bs.map (·.dom)).flatten ∧
      d.cod = a.cod ++ (bs.map (·.cod)).flatten := by
  induction bs generalizing a with
  | nil => exact ⟨a, rfl, ha, by simp, by simp⟩
  | cons b bs ih =>
    have hb := hbs b (List.mem_cons_self ..)
    obtain ⟨x, hx⟩ := Diagram.tensor_total ha hb
    obtain ⟨xw, xd, xc⟩ := Diagram.tensor_props ha hb hx
    obtain ⟨d, hd, w, dd, dc⟩ := ih xw (fun b' hb' => hbs b' (List.mem_cons_of_mem _ hb'))
    exact ⟨d, by simp [Diagram.tensorN, hx, hd], w, by simp [dd, xd], by simp [dc, xc]⟩

theorem Diagram.tensorN_wf {a d : Diagram} {bs : List Diagram} (ha : a.WF) (hbs : ∀ b ∈ bs, b.WF)
    (h : a.tensorN bs = .ok d) : d.WF := by
  obtain ⟨d', hd', w, _⟩ := Diagram.tensorN_props ha hbs
  rw [hd'] at h; cases h; exact w


/-! ### Closure: every expression of the op language evaluates to a well-typed diagram -/

mutual
theorem Expr.eval_wf (e : Expr) {d : Diagram} (h : e.eval = .ok d) : d.WF := by
  match e with
  | .mk dom cod boxes offsets => exact Diagram.mk?_wf h
  | .box b => cases h; exact Diagram.ofBox_wf b
  | .id t => cases h; exact Diagram.id_wf t
  | .then a b =>
    obtain ⟨x, hx, h⟩ := ok_of_bind h
    obtain ⟨y, hy, h⟩ := ok_of_bind h
    exact Diagram.then_wf (Expr.eval_wf a hx) (Expr.eval_wf b hy) h
  | .tensor a b =>
    obtain ⟨x, hx, h⟩ := ok_of_bind h
    obtain ⟨y, hy, h⟩ := ok_of_bind h
    exact Diagram.tensor_wf (Expr.eval_wf a hx) (Expr.eval_wf b hy) h
  | .dagger a =>
    obtain ⟨x, hx, h⟩ := ok_of_bind h
    cases h
    exact Diagram.dagger_wf (Expr.eval_wf a hx)
  | .slice a s t =>
    obtain ⟨x, hx, h⟩ := ok_of_bind h
    exact Diagram.slice_wf s t (Expr.eval_wf a hx) h
  | .sliceRev a s t =>
    obtain ⟨x, hx, h⟩ := ok_of_bind h
    exact Diagram.sliceRev_wf s t (Expr.eval_wf a hx) h
  | .getItem a i =>
    obtain ⟨x, _, h⟩ := ok_of_bind h
    exact Diagram.getItem_wf i h
  | .interchange a i j left =>
    obtain ⟨x, hx, h⟩ := ok_of_bind h
    exact (Diagram.interchange_wf (Expr.eval_wf a hx) h).1
  | .normalForm a left =>
    obtain ⟨x, hx, h⟩ := ok_of_bind h
    exact (Diagram.normalForm_wf (Expr.eval_wf a hx) h).1
  | .swap l r => exact (Diagram.swap_props h).1
  | .perm p dom => exact (Diagram.permutation_props h).1
  | .cups l r => exact Diagram.cups_wf h
  | .caps l r => exact Diagram.caps_wf h
  | .transpose a left =>
    obtain ⟨x, hx, h⟩ := ok_of_bind h
    exact Diagram.transpose_wf (Expr.eval_wf a hx) h
  | .thenN r args =>
    obtain ⟨x, hx, h⟩ := ok_of_bind h
    obtain ⟨xs, hxs, h⟩ := ok_of_bindL h
    exact (Diagram.thenN_props (Expr.eval_wf r hx) (Expr.evalList_wf args hxs) h).1
  | .tensorN r args =>
    obtain ⟨x, hx, h⟩ := ok_of_bind h
    obtain ⟨xs, hxs, h⟩ := ok_of_bindL h
    exact Diagram.tensorN_wf (Expr.eval_wf r hx) (Expr.evalList_wf args hxs) h
theorem Expr.evalList_wf (es : List Expr) {ds : List Diagram} (h : Expr.evalList es = .ok ds) :
    ∀ d ∈ ds, d.WF := by
  match es with
  | [] => cases h; exact fun _ hd => nomatch hd
  | a :: as =>
    obtain ⟨x, hx, h⟩ := ok_of_bind h
    obtain ⟨xs, hxs, h⟩ := ok_of_bindL h
    cases h
    intro d hd
    rcases List.mem_cons.mp hd with rfl | hd
    · exact Expr.eval_wf a hx
    · exact Expr.evalList_wf as hxs d hd
end

end DV
