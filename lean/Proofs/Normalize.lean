/-
  Proofs/Normalize.lean — C06: `interchange(i, j)` on indices in range is a run of adjacent
  moves; every step accepted by `rstep` is a legal single interchange (sound, type-preserving);
  one pass of the model's transcription of `normalize`, when it returns, has yielded such steps
  only; a returned normal form is terminal and a fixed point.
-/
import Proofs.Interchange
import Proofs.InterchangePath
import Model.Rewrite

namespace DV

/-! ### `interchange(i, j)` on indices in range is a run of adjacent moves

The walk of `Diagram.interchange_eq_path`, read back as the model's two loops. -/

theorem Diagram.interchange_down_eq {d : Diagram} {left : Bool} {i n : Nat} {j : Int}
    (hj : j = (i : Int) + n) (h : i + n < d.boxes.length) :
    d.interchange (i : Int) j left = interchangeDown left n i d := by
  subst hj
  rw [Diagram.interchange_eq_path, if_neg (by omega), ← Int.natCast_add, Int.toNat_natCast,
    Int.toNat_natCast, movePath, if_neg (by omega), Nat.add_sub_cancel_left,
    interchangeDown_eq_path]

theorem Diagram.interchange_up_eq {d : Diagram} {left : Bool} {j n : Nat} {i : Int}
    (hi : i = (j : Int) + n) (h : j + n < d.boxes.length) :
    d.interchange i (j : Int) left = interchangeUp left n (j + n) d := by
  subst hi
  rw [Diagram.interchange_eq_path, if_neg (by omega), ← Int.natCast_add, Int.toNat_natCast,
    Int.toNat_natCast, interchangeUp_eq_path, movePath]
  cases n with
  | zero => rw [Nat.add_zero, if_neg (Nat.lt_irrefl j), Nat.sub_self]; rfl
  | succ n => rw [if_pos (by omega), Nat.add_sub_cancel_left]

/-- `interchange(i, i+1)` and `interchange(i+1, i)` are both the adjacent move at `i`. -/
theorem Diagram.interchange_succ_eq {d : Diagram} {left : Bool} {i : Nat} {j : Int}
    (hj : j = (i : Int) + 1) (h : i + 1 < d.boxes.length) :
    d.interchange (i : Int) j left = d.interchangeAdj i left := by
  rw [Diagram.interchange_down_eq (n := 1) hj h]
  simp only [interchangeDown]
  cases d.interchangeAdj i left <;> rfl

theorem Diagram.interchange_pred_eq {d : Diagram} {left : Bool} {i : Nat} {j : Int}
    (hj : j = (i : Int) + 1) (h : i + 1 < d.boxes.length) :
    d.interchange j (i : Int) left = d.interchangeAdj i left := by
  rw [Diagram.interchange_up_eq (n := 1) hj h]
  simp only [interchangeUp, Nat.add_sub_cancel, if_neg (Nat.succ_ne_zero i)]
  cases d.interchangeAdj i left <;> rfl

theorem redex_lt {d : Diagram} {left : Bool} {i : Nat} (h : d.redex left i = true) :
    i + 1 < d.boxes.length := by
  unfold Diagram.redex at h
  split at h
  · rename_i e1 _ _
    exact (List.getElem?_eq_some_iff.mp e1).1
  · cases h

/-- What one accepted step guarantees. -/
structure StepOK (d d' : Diagram) : Prop where
  wf : d'.WF
  dom : d'.dom = d.dom
  cod : d'.cod = d.cod
  exch : Exch d d'
  perm : d'.boxes.Perm d.boxes

theorem rstepAt_ok {left : Bool} {d d' : Diagram} {i : Nat} (hd : d.WF)
    (h : rstepAt left d d' i = true) : StepOK d d' := by
  unfold rstepAt at h
  simp only [Bool.and_eq_true] at h
  obtain ⟨hr, h2⟩ := h
  rw [Diagram.interchange_succ_eq rfl (redex_lt hr)] at h2
  split at h2
  · rename_i x hadj
    have : x = d' := by simpa using h2
    subst this
    obtain ⟨w, a, b⟩ := Diagram.interchangeAdj_wf hd hadj
    exact ⟨w, a, b, Diagram.interchangeAdj_refines hd hadj, Diagram.interchangeAdj_perm hd hadj⟩
  · cases h2

theorem rstep_ok {left : Bool} {d d' : Diagram} (hd : d.WF) (h : rstep left d d' = true) :
    StepOK d d' := by
  unfold rstep at h
  obtain ⟨i, _, hi⟩ := List.any_eq_true.mp h
  exact rstepAt_ok hd hi

/-- Every diagram of an accepted trace is well-typed, has the input's type and boxes, and denotes
    the same morphism under every monoidal functor. -/
theorem checkTrace_ok {left : Bool} {d : Diagram} {steps : List Diagram} {k : Nat} (hd : d.WF)
    (h : checkTrace left d steps k = none) :
    ∀ s ∈ steps, (s.WF ∧ s.dom = d.dom ∧ s.cod = d.cod ∧ s.boxes.Perm d.boxes) ∧
      ∀ {O M : Type} {C : SMC O M} (F : MFunctor C), F.eval s = F.eval d := by
  induction steps generalizing d k with
  | nil => simp
  | cons s ss ih =>
    simp only [checkTrace] at h
    split at h
    · rename_i hs
      have ok := rstep_ok hd hs
      intro t ht
      rcases List.mem_cons.mp ht with rfl | ht
      · exact ⟨⟨ok.wf, ok.dom, ok.cod, ok.perm⟩, fun F => ok.exch.sound F hd⟩
      · obtain ⟨⟨a, b, c, e⟩, f⟩ := ih ok.wf h t ht
        exact ⟨⟨a, b.trans ok.dom, c.trans ok.cod, e.trans ok.perm⟩,
          fun F => (f F).trans (ok.exch.sound F hd)⟩
    · cases h

/-! ### The model's transcription of `normalize` yields an accepted trace -/

theorem checkTrace_append {left : Bool} {d : Diagram} {xs ys : List Diagram} {k : Nat}
    (h1 : checkTrace left d xs k = none) (h2 : checkTrace left (lastOr d xs) ys (k + xs.length) = none) :
    checkTrace left d (xs ++ ys) k = none := by
  induction xs generalizing d k with
  | nil => simpa [lastOr] using h2
  | cons x xs ih =>
    simp only [checkTrace] at h1
    split at h1
    · rename_i hx
      simp only [List.cons_append, checkTrace, hx, if_true]
      apply ih h1
      simpa [lastOr, Nat.add_assoc, Nat.add_comm 1] using h2
    · cases h1

theorem lastOr_append (d : Diagram) (xs ys : List Diagram) :
    lastOr d (xs ++ ys) = lastOr (lastOr d xs) ys := by
  induction xs generalizing d with
  | nil => rfl
  | cons x xs ih => exact ih x

/-- One pass of the model's `normalize` from `d0` (steps so far `acc`, current diagram
    `lastOr d0 acc = d`) extends the accepted trace. -/
theorem normalizePass_trace {left : Bool} {n i : Nat} {d0 d d' : Diagram} {acc steps : List Diagram}
    (hacc : checkTrace left d0 acc 0 = none) (hlast : lastOr d0 acc = d)
    (h : normalizePass left n i d acc = .ok (d', steps)) :
    checkTrace left d0 steps 0 = none ∧ lastOr d0 steps = d' := by
  induction n generalizing i d acc with
  | zero =>
    simp only [normalizePass, Except.ok.injEq, Prod.mk.injEq] at h
    obtain ⟨rfl, rfl⟩ := h
    exact ⟨hacc, hlast⟩
  | succ n ih =>
    simp only [normalizePass] at h
    split at h
    · rename_i hr
      split at h
      · cases h
      · rename_i d1 hd1
        have hstep : rstep left d d1 = true := by
          unfold rstep
          refine List.any_eq_true.mpr ⟨i, ?_, ?_⟩
          · have := redex_lt hr; simp; omega
          · unfold rstepAt; simp [hr, hd1]
        have hacc' : checkTrace left d0 (acc ++ [d1]) 0 = none := by
          apply checkTrace_append hacc
          rw [hlast]; simp [checkTrace, hstep]
        exact ih hacc' (lastOr_append _ _ _) h
    · exact ih hacc hlast h

/-! ### Terminal diagrams and fixed points -/

theorem normalizePass_steps {left : Bool} {n i : Nat} {d d' : Diagram} {acc steps : List Diagram}
    (h : normalizePass left n i d acc = .ok (d', steps)) :
    acc.length ≤ steps.length ∧
      (steps.length = acc.length → d' = d ∧ ∀ k, i ≤ k → k < i + n → d.redex left k = false) := by
  induction n generalizing i d acc with
  | zero =>
    simp only [normalizePass, Except.ok.injEq, Prod.mk.injEq] at h
    obtain ⟨rfl, rfl⟩ := h
    exact ⟨Nat.le_refl _, fun _ => ⟨rfl, fun k h1 h2 => by omega⟩⟩
  | succ n ih =>
    simp only [normalizePass] at h
    split at h
    · split at h
      · cases h
      · obtain ⟨a, _⟩ := ih h
        simp at a
        exact ⟨by omega, fun e => by omega⟩
    · rename_i hr
      obtain ⟨a, b⟩ := ih h
      refine ⟨a, fun e => ?_⟩
      obtain ⟨b1, b2⟩ := b e
      refine ⟨b1, fun k h1 h2 => ?_⟩
      by_cases hk : k = i
      · subst hk; simpa using hr
      · exact b2 k (by omega) (by omega)

theorem normalizePass_of_no_redex {left : Bool} {n i : Nat} {d : Diagram} {acc : List Diagram}
    (h : ∀ k, i ≤ k → k < i + n → d.redex left k = false) :
    normalizePass left n i d acc = .ok (d, acc) := by
  induction n generalizing i with
  | zero => rfl
  | succ n ih =>
    simp only [normalizePass]
    rw [h i (Nat.le_refl _) (by omega)]
    simp only [Bool.false_eq_true, if_false]
    exact ih (fun k h1 h2 => h k (by omega) (by omega))

theorem terminal_iff {left : Bool} {d : Diagram} :
    terminal left d = true ↔ ∀ k, k < d.boxes.length - 1 → d.redex left k = false := by
  unfold terminal
  simp [List.all_eq_true]

/-- A returned normal form has no redex left, and normalising it again returns it unchanged
    (for any positive fuel and any cache). -/
theorem normalFormLoop_fixed {left : Bool} {fuel : Nat} {d n : Diagram} {cache : List Diagram}
    (h : normalFormLoop left fuel d cache = .ok n) :
    terminal left n = true ∧
      ∀ fuel' cache', normalFormLoop left (fuel' + 1) n cache' = .ok n := by
  induction fuel generalizing d cache with
  | zero => simp [normalFormLoop] at h
  | succ fuel ih =>
    simp only [normalFormLoop] at h
    split at h
    · cases h
    · rename_i d1 steps hpass
      split at h
      · rename_i hempty
        injection h with h
        subst h
        have hs : steps = [] := by simpa using hempty
        subst hs
        obtain ⟨_, b⟩ := normalizePass_steps hpass
        obtain ⟨_, b2⟩ := b rfl
        have hnr : ∀ k, k < d.boxes.length - 1 → d.redex left k = false :=
          fun k hk => b2 k (Nat.zero_le _) (by omega)
        refine ⟨terminal_iff.mpr hnr, fun fuel' cache' => ?_⟩
        simp only [normalFormLoop]
        rw [normalizePass_of_no_redex (fun k _ h2 => hnr k (by omega))]
        simp
      · split at h
        · cases h
        · exact ih h

end DV
