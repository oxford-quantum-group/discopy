/-
  Proofs/TkPrepBits.lean — preservation of the invariant by `prepare_bits` (tk.py:166-178)
  inside the fragment: every register the renaming moves is post-selected.
-/
import Proofs.TkBits

namespace DV.Tk
open DV

/-! ### the renamed post-selection -/

theorem find?_key_of_mem {kvs : List (Nat × Nat)} (hs : (kvs.map (·.1)).Pairwise (· ≠ ·))
    {e : Nat × Nat} (he : e ∈ kvs) : kvs.find? (·.1 == e.1) = some e := by
  induction kvs with
  | nil => cases he
  | cons x t ih =>
    simp only [List.map_cons, List.pairwise_cons] at hs
    rcases List.mem_cons.mp he with rfl | he'
    · simp
    · have hne : x.1 ≠ e.1 := hs.1 e.1 (List.mem_map_of_mem he')
      have : (x.1 == e.1) = false := by simpa using hne
      simp only [List.find?_cons, this]
      exact ih hs.2 he'

theorem mem_shiftPairs {start n nb : Nat} {r : Nat × Nat} :
    r ∈ shiftPairs start n nb ↔ start ≤ r.1 ∧ r.1 < nb ∧ r.2 = r.1 + n := by
  simp only [shiftPairs, List.mem_map, List.mem_range'_1]
  constructor
  · rintro ⟨i, ⟨h1, h2⟩, rfl⟩
    exact ⟨h1, by omega, rfl⟩
  · rintro ⟨h1, h2, h3⟩
    exact ⟨r.1, ⟨h1, by omega⟩, by rw [← h3]⟩

/-- Look-up in the post-selection after `rename_units({Bit(i): Bit(i + n) for start ≤ i < nb})`. -/
theorem PS.get_rename_shift (ps : PS) (start n nb : Nat) (hlt : ∀ r, ps.has r = true → r < nb)
    (k : Nat) :
    (ps.rename (shiftPairs start n nb)).get k =
      if k < start then ps.get k else if k < start + n then none else ps.get (k - n) := by
  unfold PS.rename
  have hsome : ∀ i, ps.has i = true → ps.get i = some ((ps.get i).getD 0) := by
    intro i hi
    rw [PS.has_eq_isSome] at hi
    cases hg : ps.get i with
    | none => simp [hg] at hi
    | some v => rfl
  have hfalse : ∀ i, ¬ (i < nb ∧ ps.has i = true) → ps.get i = none := by
    intro i hi
    apply PS.get_none_of_not_has
    cases hh : ps.has i
    · rfl
    · exact absurd ⟨hlt i hh, hh⟩ hi
  -- membership in the two lists the code builds
  have hmem_todo : ∀ r, r ∈ (shiftPairs start n nb).filter (fun r => ps.has r.1) ↔
      start ≤ r.1 ∧ r.1 < nb ∧ r.2 = r.1 + n ∧ ps.has r.1 = true := by
    intro r
    simp only [List.mem_filter, mem_shiftPairs]
    constructor
    · rintro ⟨⟨a, b, c⟩, d⟩; exact ⟨a, b, c, d⟩
    · rintro ⟨a, b, c, d⟩; exact ⟨⟨a, b, c⟩, d⟩
  have hkeys : (((shiftPairs start n nb).filter (fun r => ps.has r.1)).map
      (fun r => (r.2, (ps.get r.1).getD 0))).map (·.1) |>.Pairwise (· ≠ ·) := by
    simp only [List.map_map]
    have : (List.map (fun r : Nat × Nat => r.2) ((shiftPairs start n nb).filter (fun r => ps.has r.1))).Pairwise (· < ·) := by
      rw [List.pairwise_map]
      apply List.Pairwise.filter
      simp only [shiftPairs, List.pairwise_map]
      exact List.Pairwise.imp (by intro a b h; omega) List.pairwise_lt_range'
    exact this.imp (by intro a b h; omega)
  rw [PS.get_foldl_set _ _ _ hkeys, PS.get_foldl_erase]
  by_cases h1 : k < start + n
  · -- no new key is below start + n
    have hnone : List.find? (fun e => e.1 == k) (((shiftPairs start n nb).filter (fun r => ps.has r.1)).map
        (fun r => (r.2, (ps.get r.1).getD 0))) = none := by
      apply List.find?_eq_none.mpr
      intro e he
      obtain ⟨r, hr, rfl⟩ := List.mem_map.mp he
      obtain ⟨a, b, c, d⟩ := (hmem_todo r).mp hr
      simp only [beq_iff_eq]; omega
    rw [hnone]
    simp only
    by_cases h2 : k < start
    · have : k ∉ ((shiftPairs start n nb).filter (fun r => ps.has r.1)).map (·.1) := by
        intro hk
        obtain ⟨r, hr, rfl⟩ := List.mem_map.mp hk
        obtain ⟨a, _⟩ := (hmem_todo r).mp hr
        omega
      simp [this, h2]
    · simp only [h2, h1, ↓reduceIte]
      split
      · rfl
      · rename_i hk
        apply hfalse
        rintro ⟨a, b⟩
        apply hk
        exact List.mem_map.mpr ⟨(k, k + n), (hmem_todo _).mpr ⟨by omega, a, rfl, b⟩, rfl⟩
  · have h2 : ¬ (k < start) := by omega
    simp only [h2, h1, ↓reduceIte]
    by_cases hi : (k - n) < nb ∧ ps.has (k - n) = true
    · have hmem : ((k - n) + n, (ps.get (k - n)).getD 0) ∈
          ((shiftPairs start n nb).filter (fun r => ps.has r.1)).map (fun r => (r.2, (ps.get r.1).getD 0)) :=
        List.mem_map.mpr ⟨(k - n, k - n + n), (hmem_todo _).mpr ⟨by omega, hi.1, rfl, hi.2⟩, rfl⟩
      have := find?_key_of_mem hkeys hmem
      have hk : k - n + n = k := by omega
      simp only [hk] at this
      rw [this]
      simp only
      exact (hsome _ hi.2).symm
    · have hnone : List.find? (fun e => e.1 == k) (((shiftPairs start n nb).filter (fun r => ps.has r.1)).map
          (fun r => (r.2, (ps.get r.1).getD 0))) = none := by
        apply List.find?_eq_none.mpr
        intro e he
        obtain ⟨r, hr, rfl⟩ := List.mem_map.mp he
        obtain ⟨a, b, c, d⟩ := (hmem_todo r).mp hr
        simp only [beq_iff_eq]
        intro hk
        apply hi
        have : k - n = r.1 := by omega
        rw [this]; exact ⟨b, d⟩
      rw [hnone]
      simp only
      rw [hfalse _ hi]
      split
      · rfl
      · rename_i hk
        apply hfalse
        rintro ⟨a, b⟩
        apply hk
        exact List.mem_map.mpr ⟨(k, k + n), (hmem_todo _).mpr ⟨by omega, a, rfl, b⟩, rfl⟩

/-- A shifted register carries the post-selection of the register it was. -/
theorem PS.get_rename_shiftFrom (ps : PS) (start n nb : Nat) (hlt : ∀ r, ps.has r = true → r < nb)
    (r : Nat) : (ps.rename (shiftPairs start n nb)).get (shiftFrom start n r) = ps.get r := by
  rw [PS.get_rename_shift ps start n nb hlt]
  unfold shiftFrom
  split
  · rw [if_neg (by omega), if_neg (by omega), Nat.add_sub_cancel]
  · rw [if_pos (by omega)]

theorem PS.has_rename_shift (ps : PS) (start n nb : Nat) (hlt : ∀ r, ps.has r = true → r < nb)
    (k : Nat) :
    (ps.rename (shiftPairs start n nb)).has k =
      if k < start then ps.has k else if k < start + n then false else ps.has (k - n) := by
  rw [PS.has_eq_isSome, PS.get_rename_shift ps start n nb hlt k]
  split
  · rw [PS.has_eq_isSome]
  · split
    · rfl
    · rw [PS.has_eq_isSome]

theorem PS.has_rename_shift_lt {ps : PS} {start n nb : Nat} (hlt : ∀ r, ps.has r = true → r < nb) {r : Nat}
    (hr : (ps.rename (shiftPairs start n nb)).has r = true) : r < nb + n := by
  rw [PS.has_rename_shift ps start n nb hlt] at hr
  by_cases h1 : r < start
  · rw [if_pos h1] at hr
    exact Nat.lt_add_right n (hlt r hr)
  · by_cases h2 : r < start + n
    · rw [if_neg h1, if_pos h2] at hr; cases hr
    · rw [if_neg h1, if_neg h2] at hr
      have := hlt _ hr
      omega

theorem IsReadout.lt_start {st : St} {dreg : List Nat} {start : Nat} (h : IsReadout st dreg)
    (hcl : ∀ r, r < st.nb → start ≤ r → st.ps.has r = true) : ∀ r ∈ dreg, r < start := by
  intro r hr
  obtain ⟨h1, h2⟩ := h.lt hr
  rcases Nat.lt_or_ge r start with h' | h'
  · exact h'
  · have := hcl r h1 h'; rw [h2] at this; cases this

/-- The shift moves post-selected registers only: the new registers join the read-out ones. -/
theorem IsReadout.prepareBits {st : St} {dreg : List Nat} {start n : Nat} (h : IsReadout st dreg)
    (hlt : ∀ r, st.ps.has r = true → r < st.nb) (hstart : start ≤ st.nb)
    (hcl : ∀ r, r < st.nb → start ≤ r → st.ps.has r = true) :
    IsReadout { st with nb := st.nb + n, ps := st.ps.rename (shiftPairs start n st.nb) }
      (dreg ++ List.range' start n) := by
  have hdlt := h.lt_start hcl
  obtain ⟨hp, hm⟩ := h
  constructor
  · rw [List.pairwise_append]
    refine ⟨hp, List.pairwise_lt_range', ?_⟩
    intro x hx y hy
    exact Nat.lt_of_lt_of_le (hdlt x hx) (List.mem_range'_1.mp hy).1
  · intro r
    simp only [List.mem_append, List.mem_range'_1, PS.has_rename_shift st.ps start n st.nb hlt, hm r]
    by_cases h1 : r < start
    · simp only [h1, ↓reduceIte]
      constructor
      · rintro (⟨a, b⟩ | ⟨a, b⟩)
        · exact ⟨by omega, b⟩
        · omega
      · rintro ⟨a, b⟩; exact .inl ⟨by omega, b⟩
    · by_cases h2 : r < start + n
      · simp only [h1, h2, ↓reduceIte]
        constructor
        · intro _; exact ⟨by omega, trivial⟩
        · intro _; exact .inr ⟨by omega, trivial⟩
      · simp only [h1, h2, ↓reduceIte]
        constructor
        · rintro (⟨a, b⟩ | ⟨a, b⟩)
          · have := hcl r a (by omega); rw [b] at this; cases this
          · cases b  -- `r` would be one of the new registers, but `start + n ≤ r`
        · rintro ⟨a, b⟩
          have := hcl (r - n) (by omega) (by omega)
          rw [b] at this; cases this

/-! ### the new post-processing wires -/

theorem insertAt_nil {α} (xs : List α) (k : Nat) : insertAt xs k [] = xs := by
  simp [insertAt]

theorem insertAt_insertAt {α} (xs : List α) (p : Nat) (x : α) (ys : List α) (hp : p ≤ xs.length) :
    insertAt (insertAt xs p [x]) (p + 1) ys = insertAt xs p (x :: ys) := by
  unfold insertAt
  have hl : (xs.take p).length = p := take_length_le hp
  have e1 : (xs.take p ++ [x] ++ xs.drop p).take (p + 1) = xs.take p ++ [x] := by
    rw [List.take_append_of_le_length (by simp [hl])]
    apply List.take_of_length_le; simp [hl]
  have e2 : (xs.take p ++ [x] ++ xs.drop p).drop (p + 1) = xs.drop p := by
    have : (xs.take p ++ [x]).length = p + 1 := by simp [hl]
    rw [List.drop_append_of_le_length (by omega), List.drop_of_length_le (by omega)]
    simp
  rw [e1, e2]; simp

theorem addWires_run {pp pp' : PP} {lb i k : Nat} (hwf : pp.WF) (h : addWires pp lb i k = .ok pp')
    (ws xs : List BV) (hws : ws.length = pp.dom) (hxs : xs.length = k) :
    pp'.run (ws ++ xs) = ((pp.run ws).1, insertAt (pp.run ws).2 (lb + i) xs) ∧ pp'.WF ∧
      pp'.dom = pp.dom + k ∧ pp'.cod = pp.cod + k ∧ (pp'.layers = [] → pp.layers = []) := by
  induction k generalizing pp ws xs i with
  | zero =>
    simp only [addWires] at h
    cases h
    have : xs = [] := List.length_eq_zero_iff.mp hxs
    subst this
    simp [insertAt_nil, hwf]
  | succ k ih =>
    simp only [addWires] at h
    split at h
    · cases h
    · rename_i pp1 hadd
      obtain ⟨x, xs', rfl⟩ : ∃ x xs', xs = x :: xs' := by
        cases xs with
        | nil => simp at hxs
        | cons x t => exact ⟨x, t, rfl⟩
      obtain ⟨hrun, hwf1, hdom1, hcod1, hlen, hle, hlay⟩ := PP.addWire_run hwf hadd ws x hws
      obtain ⟨hrun2, hwf2, hdom2, hcod2, hlay2⟩ :=
        ih hwf1 h (ws ++ [x]) xs' (by simp [hws, hdom1]) (by simpa using hxs)
      refine ⟨?_, hwf2, by omega, by omega, fun hl => (hlay (hlay2 hl)).1⟩
      have : ws ++ x :: xs' = ws ++ [x] ++ xs' := by simp
      rw [this, hrun2, hrun]
      simp only
      have e : lb + (i + 1) = lb + i + 1 := by omega
      rw [e, insertAt_insertAt _ _ _ _ (by rw [hlen]; exact hle)]

/-! ### Bits -/

theorem prepareBits_ok {st st' : St} {n lb : Nat} (h : prepareBits st n lb = .ok st') :
    ∃ start pp', startOf st.bits st.nb lb = .ok start ∧ addWires st.pp lb 0 n = .ok pp' ∧
      st' = { st with nb := st.nb + n, cmds := st.cmds.map (Cmd.map id (shiftFrom start n))
                      ps := st.ps.rename (shiftPairs start n st.nb), pp := pp'
                      bits := insertRegs st.bits lb start n } := by
  unfold prepareBits at h
  split at h
  · cases h
  · unfold prepareBitsAt at h
    split at h
    · cases h
    · cases h; exact ⟨_, _, ‹_›, ‹_›, rfl⟩

theorem prepareBits_inv {sp : Sp} {st st' : St} {ρq ρb dreg} {n lb : Nat}
    (h : Inv sp st ρq ρb dreg) (hs : prepareBits st n lb = .ok st')
    (hclean : ∀ start, startOf st.bits st.nb lb = .ok start →
      ∀ r, r < st.nb → start ≤ r → st.ps.has r = true) :
    ∃ ρb' dreg', Inv { sp with nb := sp.nb + n
                               bw := insertAt sp.bw lb ((List.range' sp.nb n).map .reg) } st' ρq ρb' dreg' := by
  obtain ⟨start, pp', hst, hadd, rfl⟩ := prepareBits_ok hs
  have hcl := hclean start hst
  have hnb := h.ref.nb
  have hstart : start ≤ st.nb := startOf_le h.bits_lt hst
  have hdlt := h.ref.readout.lt_start hcl
  have hws : (dreg.map BV.reg).length = st.pp.dom := by simp [h.ref.ppdom]
  obtain ⟨hrun, hwf', hdom', hcod', hlay⟩ :=
    addWires_run h.ppwf hadd (dreg.map .reg) ((List.range' start n).map .reg) hws (by simp)
  have hold : ∀ β, β < sp.nb → extend ρb sp.nb start n β = shiftFrom start n (ρb β) := by
    intro β hβ; simp [extend, hβ]
  obtain ⟨hbw_d, hcg_d⟩ := h.bw_in_dreg
  -- registers of live wires / classical inputs are not moved
  have hfix : ∀ β, β < sp.nb → ρb β ∈ dreg → extend ρb sp.nb start n β = ρb β := by
    intro β hβ hd
    rw [hold β hβ]
    have := hdlt _ hd
    simp only [shiftFrom]; split <;> omega
  have hps' := PS.get_rename_shift st.ps start n st.nb h.ps_lt
  refine ⟨extend ρb sp.nb start n, dreg ++ List.range' start n, ?_⟩
  refine { ref := { nq := h.ref.nq, nb := ?_, injq := h.ref.injq, injb := ?_, cmds := ?_,
                    qubits := h.ref.qubits, ps := ?_, scal := h.ref.scal, readout := ?_,
                    ppdom := ?_, pp := ?_ },
           qw_lt := h.qw_lt, qsorted := h.qsorted, cmd_ids := ?_, bw_lt := ?_, cg_lt := ?_,
           ps_lt := ?_, sps_lt := ?_, bits_lt := ?_, raw := ?_, ppcod := ?_, ppwf := hwf' }
  · -- ref.nb
    simp [hnb]
  · -- ref.injb
    exact extend_inj h.ref.injb hstart
  · -- ref.cmds
    simp only
    rw [h.ref.cmds, cmds_rename]
    exact cmds_congr h.cmd_ids (fun _ _ => rfl) (fun β hβ => (hold β hβ).symm)
  · -- ref.ps
    intro β hβ
    simp only at hβ ⊢
    by_cases hlt : β < sp.nb
    · rw [hold β hlt, PS.get_rename_shiftFrom st.ps start n st.nb h.ps_lt, h.ref.ps β hlt]
    · have e : extend ρb sp.nb start n β = start + (β - sp.nb) := by simp [extend, hlt]
      rw [e, hps']
      have e1 : ¬ (start + (β - sp.nb) < start) := by omega
      have e2 : start + (β - sp.nb) < start + n := by omega
      simp only [e1, e2, ↓reduceIte]
      exact (PS.get_none_of_not_has (PS.not_has_ge h.sps_lt (by omega))).symm
  · -- ref.readout
    exact h.ref.readout.prepareBits h.ps_lt hstart hcl
  · -- ref.ppdom
    simp [hdom', h.ref.ppdom]
  · -- ref.pp
    simp only [List.map_append]
    rw [hrun, h.ref.pp]
    simp only [Nat.add_zero]
    rw [Prod.mk.injEq]; refine ⟨?_, ?_⟩
    · exact cg_congr fun c hc β hβ => (hfix β (h.cg_lt c hc β hβ) (hcg_d c hc β hβ)).symm
    · rw [insertAt_map]
      congr 1
      · exact bw_congr fun β hβ => (hfix β (h.bw_lt β hβ) (hbw_d β hβ)).symm
      · have : (BV.map (extend ρb sp.nb start n) ∘ BV.reg) = BV.reg ∘ (extend ρb sp.nb start n) := by
          funext r; rfl
        rw [List.map_map, this, ← List.map_map]
        congr 1
        symm
        apply map_range'
        intro i hi
        have : ¬ (sp.nb + i < sp.nb) := by omega
        simp only [extend, this, ↓reduceIte]; omega
  · -- cmd_ids
    exact h.cmd_ids.mono (Nat.le_refl _) (by simp)
  · -- bw_lt
    intro β hβ
    rcases mem_insertAt hβ with hβ | hβ
    · exact Nat.lt_add_right n (h.bw_lt β hβ)
    · obtain ⟨i, hi, e⟩ := List.mem_map.mp hβ
      cases e
      have := (List.mem_range'_1.mp hi).2; simp only; omega
  · -- cg_lt
    exact fun c hc β hβ => Nat.lt_add_right n (h.cg_lt c hc β hβ)
  · -- ps_lt
    exact fun r hr => PS.has_rename_shift_lt h.ps_lt hr
  · -- sps_lt
    exact fun r hr => Nat.lt_add_right n (h.sps_lt r hr)
  · -- bits_lt
    simp only
    exact insertRegs_lt h.bits_lt hstart
  · -- raw
    intro hl
    have hb := h.raw (hlay hl)
    simp only
    -- nothing lies to the right of the new bits: every read-out register is below `start`
    have hdrop : dreg.drop lb = [] := by
      rw [hb] at hst
      obtain ⟨_, h2, _⟩ := startOf_spec h.ref.readout.1 (hb ▸ h.bits_lt) hst
      apply List.eq_nil_iff_forall_not_mem.mpr
      intro y hy
      have := hdlt y (List.mem_of_mem_drop hy)
      have := h2 y hy
      omega
    have htake : dreg.take lb = dreg := by
      have := List.take_append_drop lb dreg
      rw [hdrop, List.append_nil] at this; exact this
    rw [hb]; simp [insertRegs, hdrop, htake]
  · -- ppcod
    simp [hcod', h.ppcod, insertAt_length]

end DV.Tk
