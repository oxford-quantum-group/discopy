/-
  Proofs/TensorArray.lean — specifications of the modelled numpy primitives on multi-indices:
  `transpose` (for any permutation of the axes), numpy's `moveaxis` order for the two patterns
  tensor.py uses (exchange two adjacent blocks of axes inside a window; the last axes moved to a
  given position), and `contract`.  (`tensordotAxes`, `identity`, `conj`: Proofs/TensorOps.lean.)
-/
import Proofs.TensorIndex
import Mathlib.Data.List.Sort

namespace DV
open NDArray

/-! ### permutations of axes -/

theorem getD_of_lt {α} {l : List α} {i : Nat} (d : α) (h : i < l.length) : l.getD i d = l[i] := by
  simp [List.getD_eq_getElem?_getD, h]

theorem range'_split (p a b : Nat) :
    List.range' p (a + b) = List.range' p a ++ List.range' (p + a) b :=
  List.range'_append_1.symm

theorem range'_split4 (p a b c d : Nat) :
    List.range' p (a + b + c + d) = List.range' p a ++ List.range' (p + a) b
      ++ List.range' (p + a + b) c ++ List.range' (p + a + b + c) d := by
  rw [range'_split, range'_split, range'_split]
  simp only [Nat.add_assoc]

theorem pyRange_zero (n : Nat) : pyRange 0 n = List.range' 0 n := rfl

theorem pyRange_add (a n : Nat) : pyRange a (a + n) = List.range' a n := by
  unfold pyRange; rw [Nat.add_sub_cancel_left]

theorem zip_append4 {α β} {a1 a2 a3 a4 : List α} {b1 b2 b3 b4 : List β}
    (h1 : a1.length = b1.length) (h2 : a2.length = b2.length) (h3 : a3.length = b3.length) :
    (a1 ++ a2 ++ a3 ++ a4).zip (b1 ++ b2 ++ b3 ++ b4)
      = a1.zip b1 ++ a2.zip b2 ++ a3.zip b3 ++ a4.zip b4 := by
  rw [List.zip_append (by simp [h1, h2, h3]), List.zip_append (by simp [h1, h2]),
    List.zip_append h1]

/-- `axes` lists every axis `< n` exactly once. -/
def IsPermOf (n : Nat) (axes : List Nat) : Prop := axes.Perm (List.range n)

theorem IsPermOf.length_eq {n : Nat} {axes : List Nat} (h : IsPermOf n axes) : axes.length = n := by
  rw [List.Perm.length_eq h, List.length_range]

theorem IsPermOf.mem_iff {n a : Nat} {axes : List Nat} (h : IsPermOf n axes) : a ∈ axes ↔ a < n := by
  rw [List.Perm.mem_iff h, List.mem_range]

theorem permuteBy_append (o₁ o₂ y : List Nat) :
    permuteBy (o₁ ++ o₂) y = permuteBy o₁ y ++ permuteBy o₂ y := by
  simp [permuteBy]

@[simp] theorem permuteBy_length (o y : List Nat) : (permuteBy o y).length = o.length := by
  simp [permuteBy]

theorem permuteBy_range' (p l : Nat) (y : List Nat) (h : p + l ≤ y.length) :
    permuteBy (List.range' p l) y = (y.drop p).take l := by
  apply List.ext_getElem
  · simp only [permuteBy_length, List.length_range', List.length_take, List.length_drop]; omega
  · intro i h1 h2
    simp only [permuteBy_length, List.length_range'] at h1
    simp only [permuteBy, List.getElem_map, List.getElem_range', List.getElem_take,
      List.getElem_drop]
    rw [getD_of_lt _ (by omega)]
    simp

theorem permuteBy_range (y : List Nat) : permuteBy (List.range y.length) y = y := by
  rw [List.range_eq_range', permuteBy_range' 0 y.length y (by omega)]
  simp

/-- the block `b` of `a ++ b ++ c` -/
theorem permuteBy_block (a b c : List Nat) :
    permuteBy (List.range' a.length b.length) (a ++ b ++ c) = b := by
  rw [permuteBy_range' _ _ _ (by simp)]
  simp [List.append_assoc]

theorem permuteBy_block0 (b c : List Nat) :
    permuteBy (List.range b.length) (b ++ c) = b := by
  have := permuteBy_block [] b c
  simpa [List.range_eq_range'] using this

theorem unpermute_permuteBy {n : Nat} {axes y : List Nat} (h : IsPermOf n axes)
    (hy : y.length = n) : unpermute axes (permuteBy axes y) = y := by
  have h1 := h.length_eq
  have h2 := fun p (hp : p < n) => h.mem_iff.2 hp
  apply List.ext_getElem
  · simp [unpermute, h1, hy]
  · intro p hp1 hp2
    have hp : p < n := by simpa [unpermute, h1] using hp1
    have hmem : p ∈ axes := h2 p hp
    have hlt : axes.idxOf p < axes.length := List.idxOf_lt_length_iff.2 hmem
    simp only [unpermute, List.getElem_map, List.getElem_range, permuteBy]
    rw [getD_of_lt _ (by simpa using hlt)]
    simp only [List.getElem_map, List.getElem_idxOf hlt]
    rw [getD_of_lt _ hp2]

theorem inRange_permuteBy {s y axes : List Nat} (h : ∀ a ∈ axes, a < s.length)
    (hy : InRange s y) : InRange (permuteBy axes s) (permuteBy axes y) := by
  rw [inRange_iff_getD] at hy ⊢
  refine ⟨by simp, fun p hp => ?_⟩
  have hp' : p < axes.length := by simpa using hp
  simp only [permuteBy]
  rw [getD_of_lt _ (by simpa using hp'), getD_of_lt _ (by simpa using hp')]
  simp only [List.getElem_map]
  exact hy.2 _ (h _ (List.getElem_mem hp'))

section
variable {R : Type} [Zero R]

theorem transpose_shape (a : NDArray R) (axes : List Nat) :
    (a.transpose axes).shape = permuteBy axes a.shape := rfl

/-- `a.transpose(axes)[y[axes[0]], y[axes[1]], …] = a[y]`. -/
theorem transpose_get (a : NDArray R) {axes y : List Nat} (h : IsPermOf a.ndim axes)
    (hy : InRange a.shape y) :
    (a.transpose axes).get (permuteBy axes y) = a.get y := by
  unfold NDArray.transpose
  rw [ofFn_get _ _ (inRange_permuteBy (fun _ ha => h.mem_iff.1 ha) hy),
    unpermute_permuteBy h hy.length_eq]

end

/-! ### exchanging two adjacent blocks of axes -/

/-- The order `[P, Y, X, Q]` of the axes `[P, X, Y, Q]`. -/
def swapOrder (p x y q : Nat) : List Nat :=
  List.range p ++ List.range' (p + x) y ++ List.range' p x ++ List.range' (p + x + y) q

theorem isPermOf_swapOrder (p x y q : Nat) : IsPermOf (p + x + y + q) (swapOrder p x y q) := by
  have e : List.range (p + x + y + q)
      = List.range p ++ (List.range' p x ++ List.range' (p + x) y) ++ List.range' (p + x + y) q := by
    simp only [List.range_eq_range']
    rw [range'_split4 0 p x y q]
    simp only [Nat.zero_add, List.append_assoc]
  unfold IsPermOf swapOrder
  rw [e, List.append_assoc (List.range p)]
  exact (List.perm_append_comm.append_left _).append_right _

theorem permuteBy_swapOrder (P X Y Q : List Nat) :
    permuteBy (swapOrder P.length X.length Y.length Q.length) (P ++ X ++ Y ++ Q)
      = P ++ Y ++ X ++ Q := by
  simp only [swapOrder, permuteBy_append]
  have e1 : permuteBy (List.range P.length) (P ++ X ++ Y ++ Q) = P := by
    have := permuteBy_block0 P (X ++ Y ++ Q); simpa [List.append_assoc] using this
  have e2 : permuteBy (List.range' (P.length + X.length) Y.length) (P ++ X ++ Y ++ Q) = Y := by
    have := permuteBy_block (P ++ X) Y Q
    simpa [List.append_assoc, Nat.add_assoc] using this
  have e3 : permuteBy (List.range' P.length X.length) (P ++ X ++ Y ++ Q) = X := by
    have := permuteBy_block P X (Y ++ Q); simpa [List.append_assoc] using this
  have e4 : permuteBy (List.range' (P.length + X.length + Y.length) Q.length) (P ++ X ++ Y ++ Q)
      = Q := by
    have := permuteBy_block (P ++ X ++ Y) Q []
    simpa [List.append_assoc, Nat.add_assoc] using this
  rw [e1, e2, e3, e4]

section
variable {R : Type} [Zero R]

theorem transpose_swapOrder_shape (a : NDArray R) {P X Y Q : List Nat}
    (hs : a.shape = P ++ X ++ Y ++ Q) :
    (a.transpose (swapOrder P.length X.length Y.length Q.length)).shape = P ++ Y ++ X ++ Q := by
  rw [transpose_shape, hs, permuteBy_swapOrder]

/-- Transposing with `swapOrder` exchanges the index blocks. -/
theorem transpose_swapOrder_get (a : NDArray R) {P X Y Q p x y q : List Nat}
    (hs : a.shape = P ++ X ++ Y ++ Q)
    (hp : InRange P p) (hx : InRange X x) (hy : InRange Y y) (hq : InRange Q q) :
    (a.transpose (swapOrder P.length X.length Y.length Q.length)).get (p ++ y ++ x ++ q)
      = a.get (p ++ x ++ y ++ q) := by
  have hperm : IsPermOf a.ndim (swapOrder P.length X.length Y.length Q.length) := by
    have := isPermOf_swapOrder P.length X.length Y.length Q.length
    simpa [NDArray.ndim, hs, Nat.add_assoc] using this
  have hin : InRange a.shape (p ++ x ++ y ++ q) := by
    rw [hs]; exact inRange_append (inRange_append (inRange_append hp hx) hy) hq
  have := transpose_get a hperm hin
  rw [← hp.length_eq, ← hx.length_eq, ← hy.length_eq, ← hq.length_eq] at this ⊢
  rw [permuteBy_swapOrder] at this
  exact this

end

/-! ### numpy's `moveaxis`: the computation of `order` -/

theorem insertPair_eq_orderedInsert (x : Nat × Nat) :
    ∀ l, insertPair x l = List.orderedInsert (fun a b => pairLe a b = true) x l
  | [] => rfl
  | y :: l => by
    simp only [insertPair, List.orderedInsert_cons, insertPair_eq_orderedInsert x l]

theorem sortPairs_eq_insertionSort :
    ∀ l, sortPairs l = List.insertionSort (fun a b => pairLe a b = true) l
  | [] => rfl
  | x :: l => by
    simp only [sortPairs, List.insertionSort_cons, sortPairs_eq_insertionSort l,
      insertPair_eq_orderedInsert]

theorem pairLe_iff (a b : Nat × Nat) :
    pairLe a b = true ↔ a.1 < b.1 ∨ (a.1 = b.1 ∧ a.2 ≤ b.2) := by
  simp only [pairLe, Bool.or_eq_true, Bool.and_eq_true, decide_eq_true_eq, beq_iff_eq]

instance : Std.Total (fun a b : Nat × Nat => pairLe a b = true) :=
  ⟨fun a b => by rw [pairLe_iff, pairLe_iff]; omega⟩

instance : IsTrans (Nat × Nat) (fun a b => pairLe a b = true) :=
  ⟨fun a b c => by rw [pairLe_iff, pairLe_iff, pairLe_iff]; omega⟩

/-- Sorting is determined by any strictly increasing (in the first component) rearrangement. -/
theorem sortPairs_eq_of_perm {l L : List (Nat × Nat)} (hp : L.Perm l)
    (hs : L.Pairwise (fun a b => a.1 < b.1)) : sortPairs l = L := by
  rw [sortPairs_eq_insertionSort]
  have h1 : (List.insertionSort (fun a b => pairLe a b = true) l).Pairwise
      (fun a b => pairLe a b = true) := List.pairwise_insertionSort _ l
  have h2 : L.Pairwise (fun a b => pairLe a b = true) :=
    hs.imp (fun {a b} h => (pairLe_iff a b).2 (Or.inl h))
  have h3 : (List.insertionSort (fun a b => pairLe a b = true) l).Perm L :=
    (List.perm_insertionSort _ l).trans hp.symm
  refine List.Perm.eq_of_pairwise ?_ h1 h2 h3
  intro a b _ _ hab hba
  rw [pairLe_iff] at hab hba
  ext <;> omega

theorem foldl_pyInsert_consecutive : ∀ (vals pre post : List Nat),
    ((List.range' pre.length vals.length).zip vals).foldl (fun o ds => pyInsert o ds.1 ds.2)
      (pre ++ post) = pre ++ vals ++ post
  | [], pre, post => by simp
  | v :: vals, pre, post => by
    simp only [List.length_cons, List.range'_succ, List.zip_cons_cons, List.foldl_cons]
    have e : pyInsert (pre ++ post) pre.length v = (pre ++ [v]) ++ post := by
      simp [pyInsert]
    rw [e]
    have := foldl_pyInsert_consecutive vals (pre ++ [v]) post
    simp only [List.length_append, List.length_cons, List.length_nil, Nat.zero_add] at this
    rw [this]
    simp

theorem moveaxisOrder_eq {ndim : Nat} {source target vals pre post : List Nat}
    (hrest : (List.range ndim).filter (fun n => !source.contains n) = pre ++ post)
    (hsort : sortPairs (target.zip source) = (List.range' pre.length vals.length).zip vals) :
    moveaxisOrder ndim source target = pre ++ vals ++ post := by
  unfold moveaxisOrder
  rw [hrest, hsort, foldl_pyInsert_consecutive]

theorem filter_notin_range' (p k q : Nat) :
    (List.range (p + k + q)).filter (fun n => !(List.range' p k).contains n)
      = List.range p ++ List.range' (p + k) q := by
  have e : List.range (p + k + q) = List.range p ++ List.range' p k ++ List.range' (p + k) q := by
    simp only [List.range_eq_range']
    rw [← List.range'_append_1, ← List.range'_append_1]
    simp
  rw [e, List.filter_append, List.filter_append]
  have f1 : (List.range p).filter (fun n => !(List.range' p k).contains n) = List.range p := by
    apply List.filter_eq_self.2
    intro a ha
    simp only [List.mem_range] at ha
    simp only [List.contains_eq_mem, List.mem_range'_1, Bool.not_eq_eq_eq_not, Bool.not_true,
      decide_eq_false_iff_not]
    omega
  have f2 : (List.range' p k).filter (fun n => !(List.range' p k).contains n) = [] := by
    apply List.filter_eq_nil_iff.2
    intro a ha
    simp [ha]
  have f3 : (List.range' (p + k) q).filter (fun n => !(List.range' p k).contains n)
      = List.range' (p + k) q := by
    apply List.filter_eq_self.2
    intro a ha
    simp only [List.mem_range'_1] at ha
    simp only [List.contains_eq_mem, List.mem_range'_1, Bool.not_eq_eq_eq_not, Bool.not_true,
      decide_eq_false_iff_not]
    omega
  rw [f1, f2, f3]
  simp

theorem pairwise_zip_range' (start : Nat) (vals : List Nat) :
    ((List.range' start vals.length).zip vals).Pairwise (fun a b => a.1 < b.1) := by
  have h : (((List.range' start vals.length).zip vals).map Prod.fst).Pairwise (· < ·) := by
    rw [List.map_fst_zip (by simp)]
    exact List.pairwise_lt_range'
  exact List.pairwise_map.1 h

/-- The targets of the pattern "exchange the blocks X and Y of the window [W, X, Y, Z]". -/
def swapTargets (p w x y z : Nat) : List Nat :=
  List.range' p w ++ List.range' (p + w + y) x ++ List.range' (p + w) y
    ++ List.range' (p + w + x + y) z

/-- Sorting by target when the targets of two adjacent blocks are exchanged: the blocks of
    sources come out exchanged. -/
theorem sortPairs_zip_blocks {t1 t2 t3 t4 s1 s2 s3 s4 : List Nat}
    (h1 : t1.length = s1.length) (h2 : t2.length = s2.length) (h3 : t3.length = s3.length)
    (hs : ((t1 ++ t3 ++ t2 ++ t4).zip (s1 ++ s3 ++ s2 ++ s4)).Pairwise (fun a b => a.1 < b.1)) :
    sortPairs ((t1 ++ t2 ++ t3 ++ t4).zip (s1 ++ s2 ++ s3 ++ s4))
      = (t1 ++ t3 ++ t2 ++ t4).zip (s1 ++ s3 ++ s2 ++ s4) := by
  refine sortPairs_eq_of_perm ?_ hs
  rw [zip_append4 h1 h3 h2, zip_append4 h1 h2 h3]
  simp only [List.append_assoc]
  apply List.Perm.append_left
  rw [← List.append_assoc, ← List.append_assoc]
  exact List.Perm.append_right _ List.perm_append_comm

/-- numpy's `order` for that pattern: `[.., W, Y, X, Z, ..]`. -/
theorem moveaxisOrder_blockswap (p w x y z q : Nat) :
    moveaxisOrder (p + w + x + y + z + q) (List.range' p (w + x + y + z)) (swapTargets p w x y z)
      = swapOrder (p + w) x y (z + q) := by
  have hrest := filter_notin_range' p (w + x + y + z) q
  have hn : p + (w + x + y + z) + q = p + w + x + y + z + q := by omega
  rw [hn] at hrest
  -- the targets in increasing order are `range' p (w + y + x + z)`; the sources in that order:
  have hlen : (List.range' p w ++ List.range' (p + w + x) y ++ List.range' (p + w) x
      ++ List.range' (p + w + x + y) z).length = w + y + x + z := by
    simp only [List.length_append, List.length_range']
  have hT : List.range' p w ++ List.range' (p + w) y ++ List.range' (p + w + y) x
      ++ List.range' (p + w + x + y) z = List.range' p (w + y + x + z) := by
    rw [range'_split4 p w y x z, Nat.add_right_comm (p + w) y x]
  have hsort : sortPairs ((swapTargets p w x y z).zip (List.range' p (w + x + y + z)))
      = (List.range' (List.range p).length (List.range' p w ++ List.range' (p + w + x) y
          ++ List.range' (p + w) x ++ List.range' (p + w + x + y) z).length).zip
          (List.range' p w ++ List.range' (p + w + x) y ++ List.range' (p + w) x
            ++ List.range' (p + w + x + y) z) := by
    rw [List.length_range, hlen, ← hT, range'_split4 p w x y z]
    refine sortPairs_zip_blocks (by simp) (by simp) (by simp) ?_
    rw [hT, ← hlen]
    exact pairwise_zip_range' _ _
  rw [moveaxisOrder_eq (ndim := p + w + x + y + z + q) hrest hsort]
  simp only [swapOrder, List.range_eq_range']
  have a1 : List.range' 0 (p + w) = List.range' 0 p ++ List.range' p w := by
    rw [range'_split]; simp
  have a2 : List.range' (p + w + x + y) (z + q)
      = List.range' (p + w + x + y) z ++ List.range' (p + (w + x + y + z)) q := by
    rw [range'_split]
    congr 2
    omega
  rw [a1, a2]
  simp [List.append_assoc]

/-- numpy's `order` when the last `k` axes move to position `p`: `[P, R, K] ↦ [P, K, R]`. -/
theorem moveaxisOrder_moveback (p r k : Nat) :
    moveaxisOrder (p + r + k) (List.range' (p + r) k) (List.range' p k) = swapOrder p r k 0 := by
  have hrest := filter_notin_range' (p + r) k 0
  simp only [Nat.add_zero, List.range'_zero, List.append_nil] at hrest
  have e : List.range (p + r) = List.range p ++ List.range' p r := by
    simp only [List.range_eq_range']
    rw [← List.range'_append_1]; simp
  rw [e] at hrest
  have hsort : sortPairs ((List.range' p k).zip (List.range' (p + r) k))
      = (List.range' (List.range p).length (List.range' (p + r) k).length).zip
          (List.range' (p + r) k) := by
    apply sortPairs_eq_of_perm
    · simp
    · exact pairwise_zip_range' _ _
  rw [moveaxisOrder_eq (ndim := p + r + k) hrest hsort]
  simp [swapOrder]

/-! ### contraction -/

section
variable {R : Type} [CommSemiring R]

theorem contract_shape (a b : NDArray R) (k : Nat) {sa c sb : List Nat}
    (ha : a.shape = sa ++ c) (hb : b.shape = c ++ sb) (hk : k = c.length) :
    (contract a b k).shape = sa ++ sb := by
  subst hk
  simp [contract, ofFn, NDArray.ndim, ha, hb]

theorem contract_get (a b : NDArray R) (k : Nat) {sa c sb i l : List Nat}
    (ha : a.shape = sa ++ c) (hb : b.shape = c ++ sb) (hk : k = c.length)
    (hi : InRange sa i) (hl : InRange sb l) :
    (contract a b k).get (i ++ l)
      = sumOver c (fun j => a.get (i ++ j) * b.get (j ++ l)) := by
  subst hk
  have h1 : a.ndim - c.length = sa.length := by simp [NDArray.ndim, ha]
  have h2 : List.take (a.ndim - c.length) a.shape ++ List.drop c.length b.shape = sa ++ sb := by
    simp [h1, ha, hb]
  unfold contract
  rw [h2, ofFn_get _ _ (inRange_append hi hl)]
  simp only [contractEntry, h1, hb, List.take_left', take_append_of_inRange l hi,
    drop_append_of_inRange l hi]
  rfl

end

end DV
