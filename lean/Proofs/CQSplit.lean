/-
  Proofs/CQSplit.lean — the mixed evaluation of a circuit without mixed boxes is the classical
  part (read as it is) next to the doubled quantum part: `eval_split_go`.

  `CQMap.hybrid dom cod a u` is the classical-quantum map `a ⊗ ū ⊗ u`.  Such maps are closed
  under composition (`hybrid_comp`) and under the tensor of classical-quantum maps
  (`hybrid_tensor`: the block permutation of `CQMap.tensor` sorts the classical wires of both
  factors before the quantum ones, which is exactly the Kronecker product of the classical parts
  next to the doubled Kronecker product of the quantum parts), and every box that is not mixed
  is of this form (`LBox.NonMixed.split`).  For every commutative star-ring.

  The chain `hybrid_step` / `layer_split` / `eval_split_go` runs parallel to `pure_step` /
  `layer_doubled` / `eval_doubled_go` of Proofs/CQ.lean, and doubling is the case of a trivial
  classical part (`hybrid_one1`); clause (a) is still proved on its own, because its hypothesis
  `LBox.Pure` is about ANY box whose interpretation is the doubled `evalPure`, while this file
  speaks of the fixed parts `evalC`, `evalQ` of the listed box kinds, and `evalPureGo` is not
  `evalQGo` for a box outside that list.
-/
import Proofs.CQ
import Model.CQSplit

namespace DV.CQ

set_option linter.unusedSectionVars false

variable {R : Type} [CommRing R] [StarRing R]

namespace CQMap

@[simp] theorem hybrid_dom (d e : CQTy) (a u : Mat R) : (hybrid d e a u).dom = d := rfl
@[simp] theorem hybrid_cod (d e : CQTy) (a u : Mat R) : (hybrid d e a u).cod = e := rfl

theorem hybrid_f (d e : CQTy) (a u : Mat R) (c q p c' q' p' : Nat) :
    (hybrid d e a u).f c q p c' q' p' = a.f c c' * (star (u.f q q') * u.f p p') := rfl

/-- `(a ⊗ ū ⊗ u) ≫ (a' ⊗ ū' ⊗ u') = (a ≫ a') ⊗ conj(u ≫ u') ⊗ (u ≫ u')`. -/
theorem hybrid_comp (d m e : CQTy) (a u a' u' : Mat R) (ha : a.c = m.C) (hu : u.c = m.Q) :
    (hybrid d m a u).comp (hybrid m e a' u') = hybrid d e (a.comp a') (u.comp u') := by
  refine CQMap.ext rfl rfl fun c q p c' q' p' => ?_
  show sum3 m.C m.Q (fun x y z => (a.f c x * (star (u.f q y) * u.f p z)) *
        (a'.f x c' * (star (u'.f y q') * u'.f z p'))) =
    (sumN a.c fun x => a.f c x * a'.f x c') *
      (star (sumN u.c fun y => u.f q y * u'.f y q') * (sumN u.c fun z => u.f p z * u'.f z p'))
  rw [star_sumN, sumN_mul_sumN, sumN_mul_sumN, ha, hu]
  unfold sum3
  refine sumN_congr fun x _ => sumN_congr fun y _ => ?_
  rw [mul_sumN]
  refine sumN_congr fun z _ => ?_
  beta_reduce
  rw [star_mul']
  ring

/-- The tensor of classical-quantum maps (cqmap.py:163-186) of two such maps is again one:
    Kronecker products of the classical parts and of the amplitude parts. -/
theorem hybrid_tensor (d e d' e' : CQTy) (a u a' u' : Mat R)
    (har : a'.r = d'.C) (hac : a'.c = e'.C) (hur : u'.r = d'.Q) (huc : u'.c = e'.Q) :
    (hybrid d e a u).tensor (hybrid d' e' a' u') =
      hybrid (d.tensor d') (e.tensor e') (a.kron a') (u.kron u') := by
  refine CQMap.ext rfl rfl fun c q p c' q' p' => ?_
  show (a.f (c / d'.C) (c' / e'.C) * (star (u.f (q / d'.Q) (q' / e'.Q)) * u.f (p / d'.Q) (p' / e'.Q))) *
      (a'.f (c % d'.C) (c' % e'.C) * (star (u'.f (q % d'.Q) (q' % e'.Q)) * u'.f (p % d'.Q) (p' % e'.Q))) =
    (a.f (c / a'.r) (c' / a'.c) * a'.f (c % a'.r) (c' % a'.c)) *
      (star (u.f (q / u'.r) (q' / u'.c) * u'.f (q % u'.r) (q' % u'.c)) *
        (u.f (p / u'.r) (p' / u'.c) * u'.f (p % u'.r) (p' % u'.c)))
  rw [har, hac, hur, huc, star_mul']
  ring

/-- The identity is of this form. -/
theorem hybrid_id (t : CQTy) :
    hybrid t t (Mat.id t.C : Mat R) (Mat.id t.Q) = CQMap.id t := by
  refine CQMap.ext rfl rfl fun c q p c' q' p' => ?_
  show (iv (c = c') : R) * (star (iv (q = q')) * iv (p = p')) = iv (c = c' ∧ q = q' ∧ p = p')
  rw [star_iv, iv_and, iv_and]

theorem hybrid_congr (d e : CQTy) {a a' u u' : Mat R} (ha : a ≈ₘ a') (hu : u ≈ₘ u')
    (har : a'.r = d.C) (hac : a'.c = e.C) (hur : u'.r = d.Q) (huc : u'.c = e.Q) :
    hybrid d e a u ≈ hybrid d e a' u' := by
  refine ⟨rfl, rfl, fun c q p c' q' p' hc hq hp hc' hq' hp' => ?_⟩
  rw [hybrid_dom, ← har, ← ha.1] at hc
  rw [hybrid_dom, ← hur, ← hu.1] at hq hp
  rw [hybrid_cod, ← hac, ← ha.2.1] at hc'
  rw [hybrid_cod, ← huc, ← hu.2.1] at hq' hp'
  rw [hybrid_f, hybrid_f, ha.2.2 c c' hc hc', hu.2.2 q q' hq hq', hu.2.2 p p' hp hp']

/-- `(a ⊗ ū ⊗ u)† = a† ⊗ conj(u†) ⊗ u†`. -/
theorem hybrid_dagger (d e : CQTy) (a u : Mat R) :
    (hybrid d e a u).dagger = hybrid e d a.dagger u.dagger := by
  refine CQMap.ext rfl rfl fun c q p c' q' p' => ?_
  show star (a.f c' c * (star (u.f q' q) * u.f p' p)) =
    star (a.f c' c) * (star (star (u.f q' q)) * star (u.f p' p))
  rw [star_mul', star_mul']

theorem hybrid_one1 (d e : List Nat) (u : Mat R) :
    hybrid (.ofQ d) (.ofQ e) Mat.one1 u = CQMap.pure d e u := by
  refine CQMap.ext rfl rfl fun c q p c' q' p' => ?_
  exact one_mul _

theorem flat_one (c : Nat) : flat 1 c 0 0 = c := by simp [flat]

theorem ofMat_eqv_hybrid (d e : CQTy) (u : Mat R) (hd : d.Q = 1) (he : e.Q = 1) :
    ofMat d e u ≈ hybrid d e u Mat.one1 := by
  refine ⟨rfl, rfl, fun x q p x' q' p' _ hq hp _ hq' hp' => ?_⟩
  rw [ofMat_dom, hd, Nat.lt_one_iff] at hq hp
  rw [ofMat_cod, he, Nat.lt_one_iff] at hq' hp'
  subst hq hp hq' hp'
  show u.f (flat d.Q x 0 0) (flat e.Q x' 0 0) = u.f x x' * (star 1 * 1)
  rw [hd, he, flat_one, flat_one, star_one, mul_one, mul_one]

/-- One round of the evaluation: composing two such maps, and tabulating on either side. -/
theorem hybrid_step {acc L : CQMap R} {d m e : CQTy} {a u a' u' : Mat R}
    (hacc : acc ≈ hybrid d m a u) (hL : L ≈ hybrid m e a' u')
    (har : a.r = d.C) (hac : a.c = m.C) (hur : u.r = d.Q) (huc : u.c = m.Q)
    (hac' : a'.c = e.C) (huc' : u'.c = e.Q) :
    (acc.comp L).memo ≈ hybrid d e (a.comp a').memo (u.comp u').memo := by
  refine (memo_eqv _).trans ((comp_congr hacc hL (hacc.2.1.trans hL.1.symm)).trans ?_)
  rw [hybrid_comp _ _ _ _ _ _ _ hac huc]
  exact (hybrid_congr d e (Mat.memo_eqv (a.comp a')) (Mat.memo_eqv (u.comp u'))
    har hac' hur huc').symm

end CQMap

/-! ### boxes that are not mixed -/

/-- A box whose mixed interpretation is its classical part next to its doubled quantum part. -/
structure LBox.Split (b : LBox R) : Prop where
  rC : b.evalC.r = (F b.dom).C
  cC : b.evalC.c = (F b.cod).C
  rQ : b.evalQ.r = (F b.dom).Q
  cQ : b.evalQ.c = (F b.cod).Q
  split : b.eval ≈ CQMap.hybrid (F b.dom) (F b.cod) b.evalC b.evalQ

/-- The boxes of a circuit without mixed boxes (cqmap.py:290-295, monoidal.py:836-838):
    classical gates on bits (`Bits`, `ClassicalGate`, `Copy`, `Match`, weights; also flagged
    daggers), quantum boxes on qubits (`Ket`, `Bra`, gates, rotations; flagged daggers), pure
    scalars, swaps of any two types. -/
inductive LBox.NonMixed : LBox R → Prop
  | classical (dag : Bool) (d c : WTy) (u : Mat R) (hd : allB d) (hc : allB c)
      (hr : u.r = prodL (dims d)) (hcc : u.c = prodL (dims c)) : NonMixed ⟨dag, .classical d c u⟩
  | quantum (dag : Bool) (d c : WTy) (u : Mat R) (hd : allQ d) (hc : allQ c)
      (hr : u.r = prodL (dims d)) (hcc : u.c = prodL (dims c)) : NonMixed ⟨dag, .quantum d c u⟩
  | scalar (dag : Bool) (z : R) : NonMixed ⟨dag, .scalar false z⟩
  | swap (l r : WTy) : NonMixed ⟨false, .swap l r⟩

/-- The flagged dagger of such a box is again one (`cat.Functor.__call__` daggers the result). -/
theorem LBox.Split.dagger {box : CBox R} (h : LBox.Split ⟨false, box⟩) : LBox.Split ⟨true, box⟩ := by
  refine ⟨h.cC, h.rC, h.cQ, h.rQ, ?_⟩
  show box.ar.dagger ≈ CQMap.hybrid (F box.cod) (F box.dom) box.arC.dagger box.arQ.dagger
  rw [← CQMap.hybrid_dagger]
  exact CQMap.dagger_congr h.split

theorem LBox.Split.classical (dag : Bool) (d c : WTy) (u : Mat R) (hd : allB d) (hc : allB c)
    (hr : u.r = prodL (dims d)) (hcc : u.c = prodL (dims c)) :
    LBox.Split ⟨dag, .classical d c u⟩ := by
  have ed := F_allB hd
  have ec := F_allB hc
  have h : LBox.Split ⟨false, .classical d c u⟩ :=
    ⟨hr.trans (congrArg CQTy.C ed.symm), hcc.trans (congrArg CQTy.C ec.symm),
      congrArg CQTy.Q ed.symm, congrArg CQTy.Q ec.symm,
      CQMap.ofMat_eqv_hybrid (F d) (F c) u (congrArg CQTy.Q ed) (congrArg CQTy.Q ec)⟩
  cases dag
  · exact h
  · exact h.dagger

theorem LBox.Split.quantum (dag : Bool) (d c : WTy) (u : Mat R) (hd : allQ d) (hc : allQ c)
    (hr : u.r = prodL (dims d)) (hcc : u.c = prodL (dims c)) :
    LBox.Split ⟨dag, .quantum d c u⟩ := by
  have ed := F_allQ hd
  have ec := F_allQ hc
  have h : LBox.Split ⟨false, .quantum d c u⟩ := by
    refine ⟨congrArg CQTy.C ed.symm, congrArg CQTy.C ec.symm, hr.trans (congrArg CQTy.Q ed.symm),
      hcc.trans (congrArg CQTy.Q ec.symm), ?_⟩
    show CQMap.pure (F d).q (F c).q u ≈ CQMap.hybrid (F d) (F c) Mat.one1 u
    rw [ed, ec, CQMap.hybrid_one1]
    exact CQMap.Eqv.rfl' _
  cases dag
  · exact h
  · exact h.dagger

theorem LBox.Split.scalar (dag : Bool) (z : R) : LBox.Split ⟨dag, .scalar false z⟩ := by
  have h : LBox.Split ⟨false, .scalar false z⟩ :=
    ⟨rfl, rfl, rfl, rfl, rfl, rfl, fun _ _ _ _ _ _ _ _ _ _ _ _ => (one_mul (star z * z)).symm⟩
  cases dag
  · exact h
  · exact h.dagger

theorem LBox.Split.swap (l r : WTy) : LBox.Split (R := R) ⟨false, .swap l r⟩ := by
  refine ⟨?_, ?_, ?_, ?_, ?_, ?_, ?_⟩
  · show (F l).C * (F r).C = (F (l ++ r)).C
    rw [F_append, CQTy.tensor_C]
  · show (F r).C * (F l).C = (F (r ++ l)).C
    rw [F_append, CQTy.tensor_C]
  · show (F l).Q * (F r).Q = (F (l ++ r)).Q
    rw [F_append, CQTy.tensor_Q]
  · show (F r).Q * (F l).Q = (F (r ++ l)).Q
    rw [F_append, CQTy.tensor_Q]
  · show (F l).tensor (F r) = F (l ++ r)
    rw [F_append]
  · show (F r).tensor (F l) = F (r ++ l)
    rw [F_append]
  · intro c q p c' q' p' _ _ _ _ _ _
    show (Mat.swap (F l).C (F r).C).f c c' * (Mat.swap (F l).Q (F r).Q).f q q' *
        (Mat.swap (F l).Q (F r).Q).f p p' =
      (Mat.swap (F l).C (F r).C).f c c' *
        (star ((Mat.swap (F l).Q (F r).Q).f q q') * (Mat.swap (F l).Q (F r).Q).f p p')
    rw [Mat.star_swap_f, mul_assoc]

theorem LBox.NonMixed.split {b : LBox R} (h : b.NonMixed) : b.Split := by
  cases h with
  | classical dag d c u hd hc hr hcc => exact .classical dag d c u hd hc hr hcc
  | quantum dag d c u hd hc hr hcc => exact .quantum dag d c u hd hc hr hcc
  | scalar dag z => exact .scalar dag z
  | swap l r => exact .swap l r

theorem LBox.Split.typed_dom {b : LBox R} (h : b.Split) : b.eval.dom = F b.dom := h.split.1
theorem LBox.Split.typed_cod {b : LBox R} (h : b.Split) : b.eval.cod = F b.cod := h.split.2.1

/-! ### layers and whole circuits -/

theorem layerC_c (l r : WTy) (b : LBox R) (hb : b.Split) :
    (layerC l b r).c = (F (l ++ b.cod ++ r)).C := by
  rw [layerC, Mat.memo_c, Mat.kron_c, Mat.kron_c, Mat.memo_c, hb.cC, F_append, F_append,
    CQTy.tensor_C, CQTy.tensor_C]
  rfl

theorem layerQ_c (l r : WTy) (b : LBox R) (hb : b.Split) :
    (layerQ l b r).c = (F (l ++ b.cod ++ r)).Q := by
  rw [layerQ, Mat.memo_c, Mat.kron_c, Mat.kron_c, Mat.memo_c, hb.cQ, F_append, F_append,
    CQTy.tensor_Q, CQTy.tensor_Q]
  rfl

/-- One layer `id ⊗ box ⊗ id` of the mixed evaluation, for ANY types left and right of the box
    (bits and qubits in any order): the layer of the classical part next to the doubled layer of
    the quantum part. -/
theorem layer_split (l r : WTy) (b : LBox R) (hb : b.Split) :
    layerMap l b r ≈
      CQMap.hybrid (F (l ++ b.dom ++ r)) (F (l ++ b.cod ++ r)) (layerC l b r) (layerQ l b r) := by
  rw [F_append, F_append, F_append, F_append]
  -- the two plain layers without their tabulations, factor by factor
  have e : CQMap.hybrid (((F l).tensor (F b.dom)).tensor (F r)) (((F l).tensor (F b.cod)).tensor (F r))
        (layerC l b r) (layerQ l b r) ≈
      ((CQMap.hybrid (F l) (F l) (Mat.id (F l).C) (Mat.id (F l).Q)).tensor
        (CQMap.hybrid (F b.dom) (F b.cod) b.evalC b.evalQ)).tensor
        (CQMap.hybrid (F r) (F r) (Mat.id (F r).C) (Mat.id (F r).Q)) := by
    rw [CQMap.hybrid_tensor _ _ _ _ _ _ _ _ hb.rC hb.cC hb.rQ hb.cQ,
      CQMap.hybrid_tensor _ _ _ _ _ _ _ _ rfl rfl rfl rfl]
    refine CQMap.hybrid_congr _ _ (Mat.layer_eqv _ _ _) (Mat.layer_eqv _ _ _) ?_ ?_ ?_ ?_
    · rw [CQTy.tensor_C, CQTy.tensor_C, ← hb.rC]; rfl
    · rw [CQTy.tensor_C, CQTy.tensor_C, ← hb.cC]; rfl
    · rw [CQTy.tensor_Q, CQTy.tensor_Q, ← hb.rQ]; rfl
    · rw [CQTy.tensor_Q, CQTy.tensor_Q, ← hb.cQ]; rfl
  refine ((layerMap_eqv l r b).trans
    (CQMap.tensor_congr (CQMap.tensor_congr ?_ hb.split) ?_)).trans e.symm
  · rw [CQMap.hybrid_id]; exact CQMap.Eqv.rfl' _
  · rw [CQMap.hybrid_id]; exact CQMap.Eqv.rfl' _

/-- The induction over the boxes: the accumulated map stays of the form `a ⊗ ū ⊗ u`, `a` and `u`
    being the two plain contractions. -/
theorem eval_split_go (boxes : List (Nat × LBox R)) :
    ∀ (acc : CQMap R) (accC accQ : Mat R) (dom scan : WTy),
      acc ≈ CQMap.hybrid (F dom) (F scan) accC accQ →
      accC.r = (F dom).C → accC.c = (F scan).C → accQ.r = (F dom).Q → accQ.c = (F scan).Q →
      WT scan boxes → (∀ ob ∈ boxes, ob.2.Split) →
      ∃ m, evalMixedGo acc scan boxes = .ok m ∧
        m ≈ CQMap.hybrid (F dom) (F (finalScan scan boxes))
              (evalCGo accC scan boxes) (evalQGo accQ scan boxes) := by
  induction boxes with
  | nil => intro acc accC accQ dom scan h _ _ _ _ _ _; exact ⟨acc, rfl, h⟩
  | cons ob rest ih =>
    obtain ⟨off, b⟩ := ob
    intro acc accC accQ dom scan hacc hCr hCc hQr hQc hWT hb
    have hp := hb (off, b) (List.mem_cons_self)
    have hL := layer_split (scan.take off) (scan.drop (off + b.dom.length)) b hp
    rw [← scan_split hWT.1] at hL
    rw [evalMixedGo_cons rest (hL.1.trans hacc.2.1.symm), evalCGo, evalQGo, finalScan]
    exact ih _ _ _ dom _
      (CQMap.hybrid_step hacc hL hCr hCc hQr hQc (layerC_c _ _ b hp) (layerQ_c _ _ b hp))
      (by rw [Mat.memo_r, Mat.comp_r, hCr]) (by rw [Mat.memo_c, Mat.comp_c, layerC_c _ _ b hp]; rfl)
      (by rw [Mat.memo_r, Mat.comp_r, hQr]) (by rw [Mat.memo_c, Mat.comp_c, layerQ_c _ _ b hp]; rfl)
      hWT.2 (fun ob hob => hb ob (List.mem_cons_of_mem _ hob))

end DV.CQ
