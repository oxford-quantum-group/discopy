/-
  Proofs/Nx2Roundtrip.lean — `nx2diagram(diagram2nx(d)) = d` for every well-typed `d`, provided
  every box WITHOUT inputs carries its offset as the `offset` attribute of its node (boxes with
  inputs need nothing: their offset is found from the first input wire).
-/
import Proofs.NxEdges
import Proofs.LayoutDiagram
import Proofs.Eq

namespace DV.Dz
open DV DV.Layout

/-! ### Decorated layout nodes -/

section
variable (d : Diagram) (attr : Nat → OffAttr)

theorem decorate_input (i : Nat) :
    decorate d attr (inputNode i) = .input (d.dom.getD i default) i := rfl

theorem decorate_output (i : Nat) :
    decorate d attr (outputNode i) = .output (d.cod.getD i default) i := rfl

variable {k : Nat} {b : Box}

theorem decorate_box (hb : d.boxes[k]? = some b) :
    decorate d attr (boxNode k) = .box b k (attr k) := by
  rw [← getD_of_getElem? (d := default) hb]; rfl

theorem decorate_dom (hb : d.boxes[k]? = some b) (i : Nat) :
    decorate d attr (domNode k i) = .dom (b.dom.getD i default) i k := by
  rw [← getD_of_getElem? (d := default) hb]; rfl

theorem decorate_cod (hb : d.boxes[k]? = some b) (i : Nat) :
    decorate d attr (codNode k i) = .cod (b.cod.getD i default) i k := by
  rw [← getD_of_getElem? (d := default) hb]; rfl

theorem map_inputs :
    ((List.range d.dom.length).map inputNode).map (decorate d attr) = inputNodes d.dom := by
  apply List.ext_getElem (by simp [inputNodes])
  intro i h1 h2
  simp only [List.getElem_map, List.getElem_range, inputNodes, List.getElem_mapIdx, decorate_input]
  rw [getD_eq]

theorem map_cods (hb : d.boxes[k]? = some b) :
    ((List.range b.cod.length).map (codNode k)).map (decorate d attr) = codNodes b.cod k := by
  apply List.ext_getElem (by simp [codNodes])
  intro i h1 h2
  simp only [List.getElem_map, List.getElem_range, codNodes, List.getElem_mapIdx,
    decorate_cod d attr hb]
  rw [getD_eq]

/-- The decorated edges of the `dom` ports, from index `i0`. -/
theorem flatten_domEdges (bn : GNode) (k : Nat) (fo : Nat → Ob) (fw : Nat → GNode) :
    ∀ (n i0 : Nat),
      ((List.range' i0 n).map (fun i => [(fw i, GNode.dom (fo i) i k), (GNode.dom (fo i) i k, bn)])).flatten
        = domEdges bn k i0 ((List.range' i0 n).map fo) ((List.range' i0 n).map fw) := by
  intro n
  induction n with
  | zero => intro i0; rfl
  | succ n ih =>
    intro i0
    simp only [List.range'_succ, List.map_cons, List.flatten_cons, domEdges, ih (i0 + 1)]
    rfl

theorem range_map_getD {α} [Inhabited α] (l : List α) :
    (List.range l.length).map (fun i => l.getD i default) = l := by
  apply List.ext_getElem (by simp)
  intro i h1 h2
  rw [List.getElem_map, List.getElem_range, getD_eq]

theorem range_map_block {α β} [Inhabited α] (f : α → β) (l : List α) (off m : Nat)
    (h : off + m ≤ l.length) :
    (List.range m).map (fun i => f (l.getD (off + i) default)) = ((l.map f).drop off).take m := by
  apply List.ext_getElem (by simp; omega)
  intro i h1 h2
  rw [List.getElem_map, List.getElem_range, List.getElem_take, List.getElem_drop, List.getElem_map,
    getD_eq]

theorem map_boxEdges (hb : d.boxes[k]? = some b) (scanL : List Node)
    (off : Nat) (hin : off + b.dom.length ≤ scanL.length) :
    (boxEdges scanL ⟨b.dom.length, b.cod.length, off⟩ k).map
        (fun e => (decorate d attr e.1, decorate d attr e.2))
      = stepEdges k b (attr k) (((scanL.map (decorate d attr)).drop off).take b.dom.length) := by
  unfold boxEdges stepEdges
  simp only [List.map_append, List.map_flatten, List.map_map]
  congr 1
  · have := flatten_domEdges (.box b k (attr k)) k (fun i => b.dom.getD i default)
      (fun i => decorate d attr (scanL.getD (off + i) default)) b.dom.length 0
    rw [← List.range_eq_range', range_map_getD, range_map_block (decorate d attr) scanL off _ hin]
      at this
    rw [← this]
    simp only [Function.comp_def, List.map_cons, List.map_nil, decorate_dom d attr hb,
      decorate_box d attr hb]
  · rw [codEdges, ← map_cods d attr hb, List.map_map, List.map_map]
    simp only [Function.comp_def, decorate_box d attr hb]

theorem map_nextScan (hb : d.boxes[k]? = some b) (scanL : List Node) (off : Nat) :
    (nextScan scanL ⟨b.dom.length, b.cod.length, off⟩ k).map (decorate d attr)
      = nextOpen (scanL.map (decorate d attr)) off b.dom.length b.cod k := by
  unfold nextScan nextOpen
  simp only [List.map_append, List.map_take, List.map_drop, map_cods d attr hb]

/-! ### Along the layers -/

/-- The box nodes' `(box, attribute)` for depths `k, k+1, …`. -/
def stepsB : Nat → List Box → List (Box × OffAttr)
  | _, [] => []
  | k, b :: bs => (b, attr k) :: stepsB (k + 1) bs

/-- The open wires after the boxes `k, k+1, …`. -/
def lastScan : List Node → Nat → List Step → List Node
  | scan, _, [] => scan
  | scan, k, st :: r => lastScan (nextScan scan st k) (k + 1) r

theorem run_lastScan (n : Nat) : ∀ (steps : List Step) (s : St) (k : Nat),
    (run n s k steps).scan = lastScan s.scan k steps := by
  intro steps
  induction steps with
  | nil => intro s k; rfl
  | cons st r ih => intro s k; simp only [run, lastScan, ih]; rfl

/-- The layout's lists, decorated, in the vocabulary of Proofs/NxEdges.lean — by induction along
    the layers `ls` that are still to come (box `k` onwards, open wires `scanL` of types `s`):
    1. the decorated edges of these boxes are the canonical `stepsEdges`;
    2. the decorated scans form `PlanarSteps`, at the offsets `left.length`, ending in the last scan;
    3. the last scan has the types `d.cod`;
    4. no decorated node of these boxes is an input node;
    5. the box nodes among them are `boxNodesFrom`, carrying the attributes `attr`. -/
theorem decorated_layers (hattr : ∀ k b o, d.boxes[k]? = some b → d.offsets[k]? = some o →
      b.dom = [] → (attr k).get = some o) (hwf : d.WF) :
    ∀ (ls pre : List Layer) (k : Nat) (scanL : List Node) (s : Ty),
      d.layers.boxes = pre ++ ls → pre.length = k → Chain s ls d.cod →
      (scanL.map (decorate d attr)).map GNode.obj? = s.map some →
      (edgesFrom scanL k (ls.map stepOfLayer)).map (fun e => (decorate d attr e.1, decorate d attr e.2))
          = stepsEdges (scanL.map (decorate d attr)) k (stepsB attr k (ls.map (·.box)))
              (ls.map (fun l => l.left.length))
        ∧ PlanarSteps (scanL.map (decorate d attr)) k (stepsB attr k (ls.map (·.box)))
            (ls.map (fun l => l.left.length))
            ((lastScan scanL k (ls.map stepOfLayer)).map (decorate d attr))
        ∧ ((lastScan scanL k (ls.map stepOfLayer)).map (decorate d attr)).map GNode.obj?
            = d.cod.map some
        ∧ ((nodesFrom k (ls.map stepOfLayer)).map (decorate d attr)).filter GNode.isInput = []
        ∧ ((nodesFrom k (ls.map stepOfLayer)).map (decorate d attr)).filter GNode.isBox
            = boxNodesFrom k (stepsB attr k (ls.map (·.box))) := by
  intro ls
  induction ls with
  | nil =>
    intro pre k scanL s _ _ hc hty
    simp only [Chain] at hc
    subst hc
    exact ⟨rfl, rfl, hty, rfl, rfl⟩
  | cons l ls ih =>
    intro pre k scanL s hpre hk hc hty
    obtain ⟨h1, h2⟩ := hc
    have hb : d.boxes[k]? = some l.box := by
      rw [hwf.boxes, hpre, List.map_append, List.getElem?_append_right (by simp [hk])]
      simp [hk]
    have ho : d.offsets[k]? = some (l.left.length : Int) := by
      rw [hwf.offsets, hpre, List.map_append, List.getElem?_append_right (by simp [hk])]
      simp [hk]
    have hlen : scanL.length = s.length := by
      have := length_of_map_obj hty; rwa [List.length_map] at this
    have hin : l.left.length + l.box.dom.length ≤ scanL.length := by
      rw [hlen, h1]; simp [Layer.dom]
    have hst : stepOfLayer l = ⟨l.box.dom.length, l.box.cod.length, l.left.length⟩ := rfl
    have hty' : ((nextScan scanL (stepOfLayer l) k).map (decorate d attr)).map GNode.obj?
        = l.cod.map some := by
      rw [hst, map_nextScan d attr hb, nextOpen_obj hty, h1]
      simp [Layer.dom, Layer.cod, List.drop_append]
    obtain ⟨e1, e2, e3, e4, e5⟩ := ih (pre ++ [l]) (k + 1) (nextScan scanL (stepOfLayer l) k) l.cod
      (by rw [hpre]; simp) (by simp [hk]) h2 hty'
    have hblock : (((scanL.map (decorate d attr)).drop l.left.length).take l.box.dom.length).map
        GNode.obj? = l.box.dom.map some := by
      rw [List.map_take, List.map_drop, hty, h1]
      simp [Layer.dom]
    refine ⟨?_, ⟨by simpa using hin, hblock, fun hd => hattr k l.box _ hb ho hd, ?_⟩, ?_, ?_, ?_⟩
    · simp only [List.map_cons, edgesFrom, stepsB, stepsEdges, List.map_append]
      rw [hst, map_boxEdges d attr hb scanL _ hin, ← map_nextScan d attr hb, ← hst]
      exact congrArg _ e1
    · simp only [List.map_cons, lastScan]
      rw [← map_nextScan d attr hb, ← hst]
      exact e2
    · simpa only [List.map_cons, lastScan] using e3
    · simp only [List.map_cons, nodesFrom, List.map_append, List.filter_append, e4,
        List.append_nil]
      rw [List.filter_eq_nil_iff]
      intro v hv
      obtain ⟨u, hu, rfl⟩ := List.mem_map.mp hv
      rcases mem_stepNodes.mp hu with rfl | ⟨i, -, rfl⟩ | ⟨i, -, rfl⟩ <;> exact Bool.false_ne_true
    · have hbox := decorate_box d attr hb
      have hports : ∀ (f : Nat → Node) (n : Nat), (∀ i, (decorate d attr (f i)).isBox = false) →
          (((List.range n).map f).map (decorate d attr)).filter GNode.isBox = [] := by
        intro f n hf
        rw [List.filter_eq_nil_iff]
        intro v hv
        obtain ⟨u, hu, rfl⟩ := List.mem_map.mp hv
        obtain ⟨i, -, rfl⟩ := List.mem_map.mp hu
        rw [hf i]; exact Bool.false_ne_true
      have hd1 := hports (domNode k) (stepOfLayer l).m fun _ => rfl
      have hd2 := hports (codNode k) (stepOfLayer l).c fun _ => rfl
      simp only [List.map_cons, nodesFrom, List.map_append, List.filter_append, e5, stepsB,
        boxNodesFrom, stepNodes, hd1, hd2, List.map_nil, hbox, List.append_nil]
      rfl

end

/-! ### The round trip -/

theorem roundTrip_ok {d : Diagram} (hwf : d.WF) (attr : Nat → OffAttr)
    (hattr : ∀ k b o, d.boxes[k]? = some b → d.offsets[k]? = some o → b.dom = [] →
      (attr k).get = some o) : roundTrip d attr = .ok d := by
  unfold roundTrip
  rw [diagram2nx_of_wf hwf]
  dsimp only  -- the `match` on the result just rewritten
  have hsw := shapeOf_wf hwf
  have hsteps := shapeOf_steps hwf
  have hchain : Chain d.dom d.layers.boxes d.cod := by
    have := hwf.chain; unfold LArrow.WF at this; rwa [hwf.ldom, hwf.lcod] at this
  obtain ⟨hedgesL, hplanar, hfinTy, hnoInput, hboxesL⟩ := decorated_layers d attr hattr hwf d.layers.boxes [] 0
    ((List.range d.dom.length).map inputNode) d.dom (by simp) rfl hchain
    (by rw [map_inputs d attr, inputNodes_obj])
  rw [map_inputs d attr] at hedgesL hplanar
  -- 1. The nodes and the edges of the decorated graph, as lists.
  have hfin : (finalSt (shapeOf d)).scan
      = lastScan ((List.range d.dom.length).map inputNode) 0 (d.layers.boxes.map stepOfLayer) := by
    unfold finalSt
    rw [run_lastScan, hsteps]
    rfl
  have hnodes : (nxGraph d attr (layout (shapeOf d))).nodes
      = inputNodes d.dom ++ (nodesFrom 0 (d.layers.boxes.map stepOfLayer)).map (decorate d attr)
        ++ ((List.range d.cod.length).map outputNode).map (decorate d attr) := by
    show (layout (shapeOf d)).nodes.map (fun q => decorate d attr q.node) = _
    have : (layout (shapeOf d)).nodes.map (fun q => decorate d attr q.node)
        = (keys (layout (shapeOf d)).nodes).map (decorate d attr) := by simp [keys]
    rw [this, layout_keys, allNodes, hsteps]
    simp only [List.map_append]
    rw [show (shapeOf d).nIn = d.dom.length from rfl, show (shapeOf d).nOut = d.cod.length from rfl,
      map_inputs d attr]
  generalize hfs : lastScan ((List.range d.dom.length).map inputNode) 0
      (d.layers.boxes.map stepOfLayer) = fin at hfin hplanar hfinTy
  have hedges : (nxGraph d attr (layout (shapeOf d))).edges
      = stepsEdges (inputNodes d.dom) 0 (stepsB attr 0 (d.layers.boxes.map (·.box)))
          (d.layers.boxes.map (fun l => l.left.length))
        ++ (outEdges fin d.cod.length).map
            (fun e => (decorate d attr e.1, decorate d attr e.2)) := by
    show (layout (shapeOf d)).edges.map _ = _
    rw [layout_edges, hfin, List.map_append, hsteps, show (shapeOf d).nIn = d.dom.length from rfl, hedgesL]
    rfl
  -- 2. The four hypotheses of `nx2diagram_of_view`: inputs, box nodes, edge view, and that
  --    `nx2diagram` never reads the edges into the output nodes.
  have hout : ∀ v ∈ ((List.range d.cod.length).map outputNode).map (decorate d attr),
      v.isInput = false ∧ v.isBox = false := by
    intro v hv
    obtain ⟨u, hu, rfl⟩ := List.mem_map.mp hv
    obtain ⟨i, -, rfl⟩ := List.mem_map.mp hu
    exact ⟨rfl, rfl⟩
  have hin : (nxGraph d attr (layout (shapeOf d))).inputs = inputNodes d.dom := by
    unfold NxGraph.inputs
    rw [hnodes, List.filter_append, List.filter_append, hnoInput, inputNodes_filter_isInput,
      List.filter_eq_nil_iff.mpr fun v hv => by rw [(hout v hv).1]; simp]
    simp
  have hbx : (nxGraph d attr (layout (shapeOf d))).boxNodes
      = boxNodesFrom 0 (stepsB attr 0 (d.layers.boxes.map (·.box))) := by
    unfold NxGraph.boxNodes
    rw [hnodes, List.filter_append, List.filter_append, hboxesL, inputNodes_filter_isBox,
      List.filter_eq_nil_iff.mpr fun v hv => by rw [(hout v hv).2]; simp]
    simp
  have hlenfin : fin.length = d.cod.length := by
    have := length_of_map_obj hfinTy; rwa [List.length_map] at this
  have hview : EdgeView (nxGraph d attr (layout (shapeOf d)))
      (nxGraph d attr (layout (shapeOf d))).edges := by
    refine ⟨fun _ _ => rfl, fun e he => ?_⟩
    obtain ⟨e0, he0, rfl⟩ := List.mem_map.mp he
    obtain ⟨q, hq, hq2⟩ := List.mem_map.mp (layout_edges_placed _ hsw e0 he0).2
    exact List.mem_map.mpr ⟨q, hq, by rw [hq2]⟩
  rw [hedges] at hview
  have hpost : ∀ e ∈ (outEdges fin d.cod.length).map
      (fun e => (decorate d attr e.1, decorate d attr e.2)), ∀ j, Avoids j e := by
    intro e he j
    obtain ⟨e0, he0, rfl⟩ := List.mem_map.mp he
    simp only [outEdges, List.mem_map, List.mem_range] at he0
    obtain ⟨i, hi, rfl⟩ := he0
    refine ⟨fun o i' e => (by cases e), fun b a e => ?_⟩
    -- the source is an open wire, so it has an `obj` and is no box node
    have hi' : i < fin.length := by omega
    have hm : (decorate d attr (fin.getD i default)).obj?
        ∈ ((fin.map (decorate d attr)).map GNode.obj?) := by
      rw [getD_eq hi']
      exact List.mem_map.mpr ⟨_, List.mem_map.mpr ⟨_, List.getElem_mem hi', rfl⟩, rfl⟩
    rw [hfinTy] at hm
    obtain ⟨o, -, ho⟩ := List.mem_map.mp hm
    simp only at e
    rw [e] at ho
    cases ho
  obtain ⟨d', hd', hwf', hdom', hcod', hboxes', hoffs'⟩ := nx2diagram_of_view hin hbx hview hpost hplanar
  -- 3. The diagram returned has the four public fields of `d`, hence is `d`.
  rw [hd']
  congr 1
  refine Diagram.eq_of_eqv hwf' hwf (Diagram.eqv_iff.mpr ⟨hdom', ?_, ?_, ?_⟩)
  · rw [hfinTy] at hcod'
    exact (map_some_inj hcod').symm
  · rw [hboxes', hwf.boxes]
    generalize d.layers.boxes.map (·.box) = bs
    generalize (0 : Nat) = k
    induction bs generalizing k with
    | nil => rfl
    | cons b bs ih => simp [stepsB, ih]
  · rw [hoffs', hwf.offsets]; simp

end DV.Dz
