/-
  Proofs/WF.lean — well-typedness (`Diagram.WF`) and its preservation by the basic operations
  of `Model/Diagram.lean` (composition, tensor, dagger, slices — these in closed form —, indexing).
-/
import Model.Expr

namespace DV

/-! ### Definitions -/

/-- `Chain s ls c`: reading the layers from type `s`, each layer finds `s = left ++ box.dom ++ right`
    and the reading ends at `c`. -/
def Chain : Ty → List Layer → Ty → Prop
  | s, [], c => s = c
  | s, l :: ls, c => s = l.dom ∧ Chain l.cod ls c

def LArrow.WF (a : LArrow) : Prop := Chain a.dom a.boxes a.cod

/-- The statement of C01 for one diagram value. -/
structure Diagram.WF (d : Diagram) : Prop where
  ldom : d.layers.dom = d.dom
  lcod : d.layers.cod = d.cod
  boxes : d.boxes = d.layers.boxes.map (·.box)
  offsets : d.offsets = d.layers.boxes.map (fun l => (l.left.length : Int))
  chain : d.layers.WF

theorem Diagram.WF.chain' {d : Diagram} (h : d.WF) : Chain d.dom d.layers.boxes d.cod := by
  have := h.chain; rwa [LArrow.WF, h.ldom, h.lcod] at this

theorem Diagram.WF.layer_at {d : Diagram} (hd : d.WF) {k : Nat} {b : Box} {o : Int}
    (hb : d.boxes[k]? = some b) (ho : d.offsets[k]? = some o) :
    ∃ l, d.layers.boxes[k]? = some l ∧ l.box = b ∧ (l.left.length : Int) = o := by
  rw [hd.boxes, List.getElem?_map, Option.map_eq_some_iff] at hb
  obtain ⟨l, hl, rfl⟩ := hb
  rw [hd.offsets, List.getElem?_map, hl] at ho
  exact ⟨l, hl, rfl, Option.some.inj ho⟩

theorem Diagram.WF.fields_at {d : Diagram} (hd : d.WF) {i : Nat} {l : Layer}
    (e : d.layers.boxes[i]? = some l) :
    d.offsets[i]? = some (l.left.length : Int) ∧ d.boxes[i]? = some l.box := by
  rw [hd.offsets, hd.boxes, List.getElem?_map, List.getElem?_map, e]
  exact ⟨rfl, rfl⟩

/-! ### Propagated errors

The model writes `x >>= f` as a `match` that hands an error on.  When the whole is `ok`, so was `x`. -/

theorem ok_of_bind {β} {x : Except Err Diagram} {f : Diagram → Except Err β} {r : β}
    (h : (match x with | .error e => (.error e : Except Err β) | .ok v => f v) = .ok r) :
    ∃ v, x = .ok v ∧ f v = .ok r := by
  cases x with
  | error e => cases h
  | ok v => exact ⟨v, rfl, h⟩

theorem ok_of_bindA {β} {x : Except Err LArrow} {f : LArrow → Except Err β} {r : β}
    (h : (match x with | .error e => (.error e : Except Err β) | .ok v => f v) = .ok r) :
    ∃ v, x = .ok v ∧ f v = .ok r := by
  cases x with
  | error e => cases h
  | ok v => exact ⟨v, rfl, h⟩

theorem ok_of_bindL {β} {x : Except Err (List Diagram)} {f : List Diagram → Except Err β} {r : β}
    (h : (match x with | .error e => (.error e : Except Err β) | .ok v => f v) = .ok r) :
    ∃ v, x = .ok v ∧ f v = .ok r := by
  cases x with
  | error e => cases h
  | ok v => exact ⟨v, rfl, h⟩

/-! ### Chain lemmas -/

theorem chain_append {s c : Ty} {xs ys : List Layer} :
    Chain s (xs ++ ys) c ↔ ∃ m, Chain s xs m ∧ Chain m ys c := by
  induction xs generalizing s with
  | nil => simp [Chain]
  | cons x xs ih =>
    simp only [List.cons_append, Chain, ih]
    constructor
    · rintro ⟨h, m, h1, h2⟩; exact ⟨m, ⟨h, h1⟩, h2⟩
    · rintro ⟨m, ⟨h, h1⟩, h2⟩; exact ⟨h, m, h1, h2⟩

theorem chain_single {s c : Ty} {l : Layer} : Chain s [l] c ↔ s = l.dom ∧ l.cod = c := by
  simp [Chain]

theorem chain_head_dom {s c : Ty} {x : Layer} {xs : List Layer} (h : Chain s (x :: xs) c) :
    s = x.dom := h.1

theorem chain_unique {s c c' : Ty} {xs : List Layer} (h : Chain s xs c) (h' : Chain s xs c') :
    c = c' := by
  induction xs generalizing s with
  | nil => simp [Chain] at h h'; rw [← h, ← h']
  | cons x xs ih => exact ih h.2 h'.2

theorem chain_start_unique {s s' c : Ty} {xs : List Layer} (h : Chain s xs c) (h' : Chain s' xs c) :
    s = s' := by
  cases xs with
  | nil => simp [Chain] at h h'; rw [h, h']
  | cons x xs => rw [h.1, h'.1]

theorem chain_take_drop {s c : Ty} {xs : List Layer} (n : Nat) (h : Chain s xs c) :
    ∃ m, Chain s (xs.take n) m ∧ Chain m (xs.drop n) c :=
  chain_append.mp ((List.take_append_drop n xs).symm ▸ h)

theorem chain_drop {s c : Ty} {xs : List Layer} (n : Nat) (h : Chain s xs c) :
    ∃ s', Chain s' (xs.drop n) c :=
  (chain_take_drop n h).imp fun _ h => h.2

theorem chain_take {s c : Ty} {xs : List Layer} (n : Nat) (h : Chain s xs c) :
    ∃ c', Chain s (xs.take n) c' :=
  (chain_take_drop n h).imp fun _ h => h.1

theorem chain_cons_last {s c : Ty} {x : Layer} {xs : List Layer} (h : Chain s (x :: xs) c) :
    s = x.dom ∧ ((x :: xs).getLastD x).cod = c := by
  refine ⟨h.1, ?_⟩
  induction xs generalizing s x with
  | nil => simpa [Chain] using h.2
  | cons y ys ih =>
    have := ih h.2
    simpa [List.getLastD] using this

theorem chain_sub {s c : Ty} {xs : List Layer} (m k : Nat) (h : Chain s xs c) :
    ∃ s' c', Chain s' ((xs.drop m).take k) c' := by
  obtain ⟨s', h1⟩ := chain_drop m h
  exact ⟨s', chain_take k h1⟩

/-! ### Box and layer dagger -/

@[simp] theorem Box.dag_dom (b : Box) : b.dag.dom = b.cod := by
  unfold Box.dag; cases b.kind <;> rfl
@[simp] theorem Box.dag_cod (b : Box) : b.dag.cod = b.dom := by
  unfold Box.dag; cases b.kind <;> rfl
@[simp] theorem Layer.dag_dom (l : Layer) : l.dag.dom = l.cod := by
  simp [Layer.dag, Layer.dom, Layer.cod]
@[simp] theorem Layer.dag_cod (l : Layer) : l.dag.cod = l.dom := by
  simp [Layer.dag, Layer.dom, Layer.cod]
@[simp] theorem Layer.dag_left (l : Layer) : l.dag.left = l.left := rfl
@[simp] theorem Layer.dag_box (l : Layer) : l.dag.box = l.box.dag := rfl

theorem Box.dag_dag (b : Box) : b.dag.dag = b := by
  cases b with
  | mk kind name dom cod dagger data => cases kind <;> simp [Box.dag]

/-- Reading a list backwards through images that exchange domain and codomain. -/
theorem chain_reverse {α} {t t' : α → Layer} (hdom : ∀ x, (t' x).dom = (t x).cod)
    (hcod : ∀ x, (t' x).cod = (t x).dom) {s c : Ty} {xs : List α} (h : Chain s (xs.map t) c) :
    Chain c (xs.reverse.map t') s := by
  induction xs generalizing s with
  | nil => exact Eq.symm h
  | cons x xs ih =>
    rw [List.reverse_cons, List.map_append]
    exact chain_append.mpr ⟨(t x).cod, ih h.2, (hdom x).symm, (hcod x).trans h.1.symm⟩

theorem chain_dag {s c : Ty} {xs : List Layer} (h : Chain s xs c) :
    Chain c (xs.reverse.map Layer.dag) s :=
  chain_reverse (t := id) Layer.dag_dom Layer.dag_cod ((List.map_id xs).symm ▸ h)

/-! ### Identity, boxes -/

theorem Diagram.id_wf (t : Ty) : (Diagram.id t).WF :=
  ⟨rfl, rfl, rfl, rfl, by simp [Diagram.id, LArrow.WF, LArrow.id, Chain]⟩

theorem Diagram.ofBox_wf (b : Box) : (Diagram.ofBox b).WF :=
  ⟨rfl, rfl, rfl, rfl, by simp [Diagram.ofBox, LArrow.WF, Chain, Layer.dom, Layer.cod]⟩

/-! ### LArrow.then -/

theorem LArrow.then_ok {a b r : LArrow} (h : a.then b = .ok r) :
    a.cod = b.dom ∧ r = ⟨a.dom, b.cod, a.boxes ++ b.boxes⟩ := by
  unfold LArrow.then at h
  split at h
  · cases h
  · rename_i hne
    simp only [ne_eq, Decidable.not_not] at hne
    exact ⟨hne, by cases h; rfl⟩

theorem LArrow.then_eq_ok {a b : LArrow} (h : a.cod = b.dom) :
    a.then b = .ok ⟨a.dom, b.cod, a.boxes ++ b.boxes⟩ := by
  simp [LArrow.then, h]

theorem LArrow.then_err {a b : LArrow} (h : a.cod ≠ b.dom) : a.then b = .error .axiom := by
  simp [LArrow.then, h]

theorem LArrow.then_wf {a b r : LArrow} (ha : a.WF) (hb : b.WF) (h : a.then b = .ok r) : r.WF := by
  obtain ⟨hc, rfl⟩ := LArrow.then_ok h
  exact chain_append.mpr ⟨a.cod, ha, by rw [hc]; exact hb⟩

theorem Layer.arrow_wf (l : Layer) : l.arrow.WF := by
  simp [Layer.arrow, LArrow.WF, Chain]

theorem LArrow.id_wf (t : Ty) : (LArrow.id t).WF := by simp [LArrow.id, LArrow.WF, Chain]

/-! ### then -/

theorem Diagram.then_ok {a b d : Diagram} (h : a.then b = .ok d) :
    ∃ ls, a.layers.then b.layers = .ok ls ∧
      d = ⟨a.dom, b.cod, a.boxes ++ b.boxes, a.offsets ++ b.offsets, ls⟩ := by
  obtain ⟨ls, hls, h⟩ := ok_of_bindA h
  exact ⟨ls, hls, (Except.ok.inj h).symm⟩

theorem Diagram.then_wf {a b d : Diagram} (ha : a.WF) (hb : b.WF) (h : a.then b = .ok d) :
    d.WF := by
  obtain ⟨ls, hls, rfl⟩ := Diagram.then_ok h
  have hw := LArrow.then_wf ha.chain hb.chain hls
  obtain ⟨_, rfl⟩ := LArrow.then_ok hls
  exact ⟨ha.ldom, hb.lcod, by simp [ha.boxes, hb.boxes], by simp [ha.offsets, hb.offsets], hw⟩

/-- On well-typed operands `>>` succeeds exactly when the types match, and is refused
    with an axiom error otherwise. -/
theorem Diagram.then_ok_iff {a b : Diagram} (ha : a.WF) (hb : b.WF) :
    (∃ d, a.then b = .ok d) ↔ a.cod = b.dom := by
  rw [← ha.lcod, ← hb.ldom]
  constructor
  · rintro ⟨d, h⟩
    obtain ⟨ls, hls, _⟩ := Diagram.then_ok h
    exact (LArrow.then_ok hls).1
  · intro h
    simp [Diagram.then, LArrow.then_eq_ok h]

theorem Diagram.then_err {a b : Diagram} (ha : a.WF) (hb : b.WF) (h : a.cod ≠ b.dom) :
    a.then b = .error .axiom := by
  rw [← ha.lcod, ← hb.ldom] at h
  simp [Diagram.then, LArrow.then_err h]

/-! ### tensor -/

def whiskR (t : Ty) (l : Layer) : Layer := ⟨l.left, l.box, l.right ++ t⟩
def whiskL (t : Ty) (l : Layer) : Layer := ⟨t ++ l.left, l.box, l.right⟩

/-- Rewriting every layer by `f` carries a reading along, if `f` acts on the layer types by `g`. -/
theorem chain_map {f : Layer → Layer} {g : Ty → Ty} (hdom : ∀ l, (f l).dom = g l.dom)
    (hcod : ∀ l, (f l).cod = g l.cod) {s c : Ty} {ls : List Layer} (h : Chain s ls c) :
    Chain (g s) (ls.map f) (g c) := by
  induction ls generalizing s with
  | nil => exact congrArg g h
  | cons x xs ih => exact ⟨(congrArg g h.1).trans (hdom x).symm, hcod x ▸ ih h.2⟩

theorem chain_whiskR {s c : Ty} {ls : List Layer} (t : Ty) (h : Chain s ls c) :
    Chain (s ++ t) (ls.map (whiskR t)) (c ++ t) :=
  chain_map (g := (· ++ t)) (fun l => by simp [whiskR, Layer.dom])
    (fun l => by simp [whiskR, Layer.cod]) h

theorem chain_whiskL {s c : Ty} {ls : List Layer} (t : Ty) (h : Chain s ls c) :
    Chain (t ++ s) (ls.map (whiskL t)) (t ++ c) :=
  chain_map (g := (t ++ ·)) (fun l => by simp [whiskL, Layer.dom])
    (fun l => by simp [whiskL, Layer.cod]) h

theorem foldLayers_ok {f : Layer → Layer} {acc : LArrow} {ls : List Layer} {c : Ty}
    (h : Chain acc.cod (ls.map f) c) :
    foldLayers f acc ls = .ok ⟨acc.dom, c, acc.boxes ++ ls.map f⟩ := by
  induction ls generalizing acc with
  | nil =>
    simp [Chain] at h
    cases acc; simp_all [foldLayers]
  | cons x xs ih =>
    obtain ⟨h1, h2⟩ := h
    have : acc.thenLayer (f x) = .ok ⟨acc.dom, (f x).cod, acc.boxes ++ [f x]⟩ := by
      simp [LArrow.thenLayer, LArrow.then, Layer.arrow, h1]
    simp only [foldLayers, this]
    have := ih (acc := ⟨acc.dom, (f x).cod, acc.boxes ++ [f x]⟩) h2
    simpa using this

/-- The two halves of the layers of `a @ b`: `a` whiskered by `b.dom`, then `b` by `a.cod`. -/
theorem Diagram.WF.tensor_chain {a b : Diagram} (ha : a.WF) (hb : b.WF) :
    Chain (a.dom ++ b.dom) (a.layers.boxes.map (whiskR b.dom)) (a.cod ++ b.dom) ∧
    Chain (a.cod ++ b.dom) (b.layers.boxes.map (whiskL a.cod)) (a.cod ++ b.cod) :=
  ⟨chain_whiskR b.dom ha.chain', chain_whiskL a.cod hb.chain'⟩

/-- Closed form of `a @ b` on well-typed operands: it always succeeds. -/
theorem Diagram.tensor_spec {a b : Diagram} (ha : a.WF) (hb : b.WF) :
    a.tensor b = .ok ⟨a.dom ++ b.dom, a.cod ++ b.cod, a.boxes ++ b.boxes,
      a.offsets ++ b.offsets.map (· + (a.cod.length : Int)),
      ⟨a.dom ++ b.dom, a.cod ++ b.cod,
        a.layers.boxes.map (whiskR b.dom) ++ b.layers.boxes.map (whiskL a.cod)⟩⟩ := by
  obtain ⟨h1, h2⟩ := ha.tensor_chain hb
  have e1 : foldLayers (fun l => ⟨l.left, l.box, l.right ++ b.dom⟩) (LArrow.id (a.dom ++ b.dom))
      a.layers.boxes = _ := foldLayers_ok (f := whiskR b.dom) h1
  have e2 : foldLayers (fun l => ⟨a.cod ++ l.left, l.box, l.right⟩) _ b.layers.boxes = _ :=
    foldLayers_ok (f := whiskL a.cod)
      (acc := ⟨(LArrow.id (a.dom ++ b.dom)).dom, a.cod ++ b.dom,
        (LArrow.id (a.dom ++ b.dom)).boxes ++ a.layers.boxes.map (whiskR b.dom)⟩) h2
  unfold Diagram.tensor
  simp only [e1]
  simp only [e2]
  simp [LArrow.id]

theorem Diagram.tensor_wf {a b d : Diagram} (ha : a.WF) (hb : b.WF) (h : a.tensor b = .ok d) :
    d.WF := by
  rw [Diagram.tensor_spec ha hb] at h
  cases h
  obtain ⟨h1, h2⟩ := ha.tensor_chain hb
  refine ⟨rfl, rfl, ?_, ?_, chain_append.mpr ⟨_, h1, h2⟩⟩
  · simp [ha.boxes, hb.boxes, whiskR, whiskL, Function.comp_def]
  · simp [ha.offsets, hb.offsets, whiskR, whiskL, Function.comp_def, Int.add_comm]

theorem Diagram.tensor_total {a b : Diagram} (ha : a.WF) (hb : b.WF) : ∃ d, a.tensor b = .ok d :=
  ⟨_, Diagram.tensor_spec ha hb⟩

theorem Diagram.ofLayers_wf {ls : LArrow} (h : ls.WF) : (Diagram.ofLayers ls).WF :=
  ⟨rfl, rfl, rfl, rfl, h⟩

theorem Diagram.WF.eq_ofLayers {d : Diagram} (h : d.WF) : d = Diagram.ofLayers d.layers := by
  obtain ⟨dom, cod, boxes, offsets, layers⟩ := d
  obtain ⟨h1, h2, h3, h4, _⟩ := h
  simp only at h1 h2 h3 h4
  rw [Diagram.ofLayers, h1, h2, ← h3, ← h4]

theorem Diagram.ext_layers {a b : Diagram} (ha : a.WF) (hb : b.WF) (h : a.layers = b.layers) :
    a = b := by
  rw [ha.eq_ofLayers, hb.eq_ofLayers, h]

theorem Diagram.WF.ext {d1 d2 : Diagram} (h1 : d1.WF) (h2 : d2.WF) (hdom : d1.dom = d2.dom)
    (hcod : d1.cod = d2.cod) (hl : d1.layers.boxes = d2.layers.boxes) : d1 = d2 := by
  have ext : ∀ x y : LArrow, x.dom = y.dom → x.cod = y.cod → x.boxes = y.boxes → x = y := by
    rintro ⟨⟩ ⟨⟩ rfl rfl rfl; rfl
  exact Diagram.ext_layers h1 h2 (ext _ _ (h1.ldom.trans (hdom.trans h2.ldom.symm))
    (h1.lcod.trans (hcod.trans h2.lcod.symm)) hl)

theorem LArrow.dag_wf {a : LArrow} (h : a.WF) : a.dag.WF := chain_dag h

theorem Diagram.dagger_wf {d : Diagram} (h : d.WF) : d.dagger.WF :=
  Diagram.ofLayers_wf (LArrow.dag_wf h.chain)

theorem pyIdx_nat (n i : Nat) : pyIdx n (i : Int) = min i n := by
  unfold pyIdx
  have : ¬ ((i : Int) < 0) := by omega
  simp [this]

theorem pyIdx_le (n : Nat) (i : Int) : pyIdx n i ≤ n := by
  unfold pyIdx
  by_cases h1 : i < 0
  · rw [if_pos h1]
    by_cases h2 : i + n < 0
    · rw [if_pos h2]; exact Nat.zero_le n
    · rw [if_neg h2]
      exact Int.toNat_le.mpr (Int.le_of_lt (Int.add_lt_of_lt_sub_right (by rwa [Int.sub_self])))
  · rw [if_neg h1]; exact Nat.min_le_right _ _

theorem pyIdx_lt {n : Nat} {i : Int} (h : i < n) (hn : 0 < n) : pyIdx n i < n := by
  unfold pyIdx
  by_cases h1 : i < 0
  · rw [if_pos h1]
    by_cases h2 : i + n < 0
    · rw [if_pos h2]; exact hn
    · rw [if_neg h2]
      exact (Int.toNat_lt (Int.not_lt.mp h2)).mpr (Int.add_lt_of_lt_sub_right (by rwa [Int.sub_self]))
  · rw [if_neg h1]
    exact Nat.lt_of_le_of_lt (Nat.min_le_left _ _) ((Int.toNat_lt (Int.not_lt.mp h1)).mpr h)

theorem pySlice_prefix {α} (xs : List α) (i : Int) :
    pySlice xs none (some i) = xs.take (pyIdx xs.length i) := by
  simp [pySlice, pyLo, pyHi]

theorem pySlice_suffix {α} (xs : List α) (i : Int) :
    pySlice xs (some i) none = xs.drop (pyIdx xs.length i) := by
  simp only [pySlice, pyLo, pyHi]
  apply List.take_of_length_le
  simp

theorem pySlice_take {α} (xs : List α) (i : Nat) : pySlice xs none (some (i : Int)) = xs.take i := by
  simp [pySlice_prefix, pyIdx_nat, List.take_eq_take_iff]

theorem pySlice_drop {α} (xs : List α) (i : Nat) : pySlice xs (some (i : Int)) none = xs.drop i := by
  simp [pySlice_suffix, pyIdx_nat, List.drop_eq_drop_iff]

theorem pySlice_map {α β} (f : α → β) (xs : List α) (a b : Option Int) :
    pySlice (xs.map f) a b = (pySlice xs a b).map f := by
  simp [pySlice, List.map_take, List.map_drop]

/-- The layer arrow of a non-empty chain slice. -/
theorem LArrow.slice_cons_eq {s c : Ty} {b : Layer} {bs : List Layer} (h : Chain s (b :: bs) c) :
    (⟨b.dom, ((b :: bs).getLastD b).cod, b :: bs⟩ : LArrow) = ⟨s, c, b :: bs⟩ := by
  obtain ⟨h1, h2⟩ := chain_cons_last h
  rw [← h1, h2]

theorem pyLo_eq (n : Nat) (i : Option Int) : pyLo n i = pyIdx n (i.getD 0) := by
  cases i with
  | none => simp [pyLo, pyIdx]
  | some s => rfl

/-! The three regions of a bound `s` against the length `n`: beyond the end, before the start, inside. -/

theorem pyIdx_of_ge {n : Nat} {s : Int} (h : (n : Int) ≤ s) : pyIdx n s = n := by
  unfold pyIdx
  rw [if_neg (by omega)]
  exact Nat.min_eq_right (Int.le_toNat (by omega) |>.mpr h)

theorem pyIdx_of_le_neg {n : Nat} {s : Int} (h : s ≤ -(n : Int)) (h' : ¬ (n : Int) ≤ s) :
    pyIdx n s = 0 := by
  unfold pyIdx
  rw [if_pos (by omega)]
  split
  · rfl
  · exact Int.toNat_eq_zero.mpr (by omega)

theorem pyGet?_eq_pyIdx {α} (xs : List α) (s : Int) (h1 : -(xs.length : Int) < s)
    (h2 : s < (xs.length : Int)) : pyGet? xs s = xs[pyIdx xs.length s]? := by
  unfold pyGet? pyIdx
  by_cases hs : s < 0
  · have h : ¬ (s + (xs.length : Int) < 0) := by omega
    rw [if_pos hs, if_neg h, if_pos hs, if_neg h]
  · rw [if_neg hs, if_neg hs, Nat.min_eq_left (by omega)]

/-- The empty-slice branch: the identity on the type reached before layer `pyLo n start`. -/
theorem LArrow.sliceEmpty_spec {a : LArrow} (i : Option Int) {m : Ty}
    (h1 : Chain a.dom (a.boxes.take (pyLo a.boxes.length i)) m)
    (h3 : Chain m (a.boxes.drop (pyLo a.boxes.length i)) a.cod) :
    a.sliceEmpty i = .ok ⟨m, m, []⟩ := by
  rw [pyLo_eq] at h1 h3
  unfold LArrow.sliceEmpty
  generalize i.getD 0 = s at h1 h3 ⊢
  by_cases c1 : s ≥ (a.boxes.length : Int)
  · -- nothing is left to read
    rw [pyIdx_of_ge c1, List.drop_length] at h3
    obtain rfl : m = a.cod := h3
    rw [if_pos c1]; rfl
  · rw [if_neg c1]
    by_cases c2 : s ≤ -(a.boxes.length : Int)
    · rw [pyIdx_of_le_neg c2 c1, List.take_zero] at h1
      obtain rfl : a.dom = m := h1
      rw [if_pos c2]; rfl
    · have hlt := pyIdx_lt (n := a.boxes.length) (i := s) (by omega) (by omega)
      rw [if_neg c2, pyGet?_eq_pyIdx _ _ (by omega) (by omega), List.getElem?_eq_getElem hlt]
      rw [List.drop_eq_getElem_cons hlt] at h3
      simp only [LArrow.id]
      rw [h3.1]

/-- `arrow[i:j]` for all Python bounds: the layers `pyLo .. pyHi` between the types `m1`, `m2`
    the chain reaches there. -/
theorem LArrow.slice_spec {a : LArrow} (i j : Option Int) {m1 m2 : Ty}
    (h1 : Chain a.dom (a.boxes.take (pyLo a.boxes.length i)) m1)
    (h2 : Chain m1 ((a.boxes.drop (pyLo a.boxes.length i)).take
      (pyHi a.boxes.length j - pyLo a.boxes.length i)) m2)
    (h3 : Chain m1 (a.boxes.drop (pyLo a.boxes.length i)) a.cod) :
    a.slice i j = .ok ⟨m1, m2, (a.boxes.drop (pyLo a.boxes.length i)).take
      (pyHi a.boxes.length j - pyLo a.boxes.length i)⟩ := by
  unfold LArrow.slice
  have e : pySlice a.boxes i j = (a.boxes.drop (pyLo a.boxes.length i)).take
      (pyHi a.boxes.length j - pyLo a.boxes.length i) := rfl
  rw [e]
  split
  · rename_i hnil
    rw [hnil] at h2 ⊢
    have : m1 = m2 := by simpa [Chain] using h2
    subst this
    exact LArrow.sliceEmpty_spec i h1 h3
  · rename_i b bs hb
    rw [hb] at h2 ⊢
    rw [LArrow.slice_cons_eq h2]

/-- `a[:i]` for every integer `i`: the first `pyIdx n i` layers, read from the domain. -/
theorem LArrow.slice_prefix_spec {a : LArrow} (ha : a.WF) (i : Int) {m : Ty}
    (hm : Chain a.dom (a.boxes.take (pyIdx a.boxes.length i)) m) :
    a.slice none (some i) = .ok ⟨a.dom, m, a.boxes.take (pyIdx a.boxes.length i)⟩ :=
  LArrow.slice_spec none (some i) rfl hm ha

/-- `a[i:]` for every integer `i`: the remaining layers, read down to the codomain. -/
theorem LArrow.slice_suffix_spec {a : LArrow} (ha : a.WF) (i : Int) {m : Ty}
    (hm : Chain m (a.boxes.drop (pyIdx a.boxes.length i)) a.cod) :
    a.slice (some i) none = .ok ⟨m, a.cod, a.boxes.drop (pyIdx a.boxes.length i)⟩ := by
  obtain ⟨m', h1, h3⟩ := chain_take_drop (pyIdx a.boxes.length i) ha
  cases chain_start_unique hm h3
  have e : (a.boxes.drop (pyIdx a.boxes.length i)).take
      (a.boxes.length - pyIdx a.boxes.length i) = a.boxes.drop (pyIdx a.boxes.length i) :=
    List.take_of_length_le (by rw [List.length_drop]; exact Nat.le_refl _)
  exact e ▸ LArrow.slice_spec (some i) none h1 (e.symm ▸ hm) hm

theorem LArrow.slice_prefix {a pre : LArrow} {i : Nat} (ha : a.WF) (hi : i < a.boxes.length)
    (h : a.slice none (some (i : Int)) = .ok pre) :
    pre.WF ∧ pre.dom = a.dom ∧ pre.boxes = a.boxes.take i := by
  obtain ⟨m, hm⟩ := chain_take (pyIdx a.boxes.length i) ha
  rw [LArrow.slice_prefix_spec ha i hm] at h
  cases h
  exact ⟨hm, rfl, by rw [pyIdx_nat, Nat.min_eq_left (Nat.le_of_lt hi)]⟩

theorem LArrow.slice_suffix {a post : LArrow} {k : Nat} (ha : a.WF) (hk : k ≤ a.boxes.length)
    (_hk0 : 0 < k) (h : a.slice (some (k : Int)) none = .ok post) :
    post.WF ∧ post.cod = a.cod ∧ post.boxes = a.boxes.drop k := by
  obtain ⟨m, hm⟩ := chain_drop (pyIdx a.boxes.length k) ha
  rw [LArrow.slice_suffix_spec ha k hm] at h
  cases h
  exact ⟨hm, rfl, by rw [pyIdx_nat, Nat.min_eq_left hk]⟩

/-! Prefix and suffix slices exist whether or not the arrow is well-typed. -/

theorem LArrow.slice_prefix_total {a : LArrow} {i : Nat} (hi : i < a.boxes.length) :
    ∃ pre, a.slice none (some (i : Int)) = .ok pre := by
  unfold LArrow.slice
  split
  · obtain ⟨b, bs, hb⟩ := List.exists_cons_of_length_pos (Nat.zero_lt_of_lt hi)
    have : ¬ ((bs.length : Int) + 1 ≤ 0) := by omega
    simp [LArrow.sliceEmpty, hb, pyGet?, this]
  · exact ⟨_, rfl⟩

theorem LArrow.slice_suffix_total {a : LArrow} {k : Nat} :
    ∃ post, a.slice (some (k : Int)) none = .ok post := by
  unfold LArrow.slice
  split
  · rename_i hnil
    have h0 : (k : Int) ≥ a.boxes.length :=
      Int.ofNat_le.mpr (List.drop_eq_nil_iff.mp (pySlice_drop a.boxes k ▸ hnil))
    exact ⟨_, if_pos h0⟩
  · exact ⟨_, rfl⟩

theorem LArrow.slice_wf {a r : LArrow} (s t : Option Int) (ha : a.WF) (h : a.slice s t = .ok r) :
    r.WF := by
  obtain ⟨m1, h1, h3⟩ := chain_take_drop (pyLo a.boxes.length s) ha
  obtain ⟨m2, h2⟩ := chain_take (pyHi a.boxes.length t - pyLo a.boxes.length s) h3
  rw [LArrow.slice_spec s t h1 h2 h3] at h
  cases h
  exact h2

theorem LArrow.sliceRevEmpty_wf {a r : LArrow} (s : Option Int) (h : a.sliceRevEmpty s = .ok r) :
    r.WF := by
  unfold LArrow.sliceRevEmpty LArrow.idAfter at h
  split at h
  · cases h; simp [LArrow.WF, Chain]
  · split at h
    · cases h; simp [LArrow.WF, Chain]
    · cases h

theorem LArrow.sliceRev_wf {a r : LArrow} (s t : Option Int) (ha : a.WF)
    (h : a.sliceRev s t = .ok r) : r.WF := by
  unfold LArrow.sliceRev at h
  split at h
  · exact LArrow.sliceRevEmpty_wf s h
  · rename_i b bs hb
    cases h
    unfold pySliceRev at hb
    obtain ⟨s', c', hc⟩ := chain_sub _ _ ha
    have hd := chain_dag hc
    rw [hb] at hd
    obtain ⟨h1, h2⟩ := chain_cons_last hd
    show Chain b.dom (b :: bs) _
    rw [← h1, h2]; exact hd

theorem Diagram.sliceRev_wf {d d' : Diagram} (s t : Option Int) (hd : d.WF)
    (h : d.sliceRev s t = .ok d') : d'.WF := by
  obtain ⟨ls, hls, h⟩ := ok_of_bindA h
  cases h
  exact Diagram.ofLayers_wf (LArrow.sliceRev_wf s t hd.chain hls)

theorem Diagram.slice_wf {d d' : Diagram} (s t : Option Int) (hd : d.WF)
    (h : d.slice s t = .ok d') : d'.WF := by
  obtain ⟨ls, hls, h⟩ := ok_of_bindA h
  cases h
  exact Diagram.ofLayers_wf (LArrow.slice_wf s t hd.chain hls)

theorem Diagram.getItem_wf {d d' : Diagram} (i : Int) (h : d.getItem i = .ok d') : d'.WF := by
  unfold Diagram.getItem at h
  split at h
  · cases h
  · obtain ⟨x, hx, h⟩ := ok_of_bind h
    exact Diagram.tensor_wf (Diagram.tensor_wf (Diagram.id_wf _) (Diagram.ofBox_wf _) hx)
      (Diagram.id_wf _) h

end DV
