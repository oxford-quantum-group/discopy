/-
  Proofs/SMC.lean — "under every monoidal functor".

  The target of a monoidal functor is an *untyped partial strict monoidal algebra*: a plain
  structure (a parameter of the theorems, not an axiom).  The laws that mention a composite are
  conditional on composability (the tensor is total and its laws are not), so any strict monoidal
  category is an instance: take `M` = all its morphisms and give `comp f g` an arbitrary value, say
  `f`, when `cod f ≠ dom g` — no law looks at such a composite.  By strictification so is every
  monoidal category.
-/
import Proofs.WF

namespace DV

structure SMC (O M : Type) where
  dom : M → List O
  cod : M → List O
  id : List O → M
  comp : M → M → M
  tens : M → M → M
  dom_id : ∀ a, dom (id a) = a
  cod_id : ∀ a, cod (id a) = a
  dom_comp : ∀ f g, cod f = dom g → dom (comp f g) = dom f
  cod_comp : ∀ f g, cod f = dom g → cod (comp f g) = cod g
  dom_tens : ∀ f g, dom (tens f g) = dom f ++ dom g
  cod_tens : ∀ f g, cod (tens f g) = cod f ++ cod g
  id_comp : ∀ f, comp (id (dom f)) f = f
  comp_id : ∀ f, comp f (id (cod f)) = f
  comp_assoc : ∀ f g h, cod f = dom g → cod g = dom h → comp (comp f g) h = comp f (comp g h)
  tens_assoc : ∀ f g h, tens (tens f g) h = tens f (tens g h)
  id_nil_tens : ∀ f, tens (id []) f = f
  tens_id_nil : ∀ f, tens f (id []) = f
  tens_id_id : ∀ a b, tens (id a) (id b) = id (a ++ b)
  interchange : ∀ f g f' g', cod f = dom f' → cod g = dom g' →
    comp (tens f g) (tens f' g') = tens (comp f f') (comp g g')

/-- A monoidal functor into `C`: images of objects (lists, possibly empty) and of boxes, with
    the only requirement that box images have the image types. -/
structure MFunctor {O M : Type} (C : SMC O M) where
  ob : Ob → List O
  ar : Box → M
  dom_ar : ∀ b, C.dom (ar b) = b.dom.flatMap ob
  cod_ar : ∀ b, C.cod (ar b) = b.cod.flatMap ob

namespace MFunctor
variable {O M : Type} {C : SMC O M} (F : MFunctor C)

def ty (t : Ty) : List O := t.flatMap F.ob

@[simp] theorem ty_append (a b : Ty) : F.ty (a ++ b) = F.ty a ++ F.ty b := by simp [ty]
@[simp] theorem ty_nil : F.ty [] = [] := rfl

/-- `id(F left) ⊗ F(box) ⊗ id(F right)` -/
def layer (l : Layer) : M := C.tens (C.tens (C.id (F.ty l.left)) (F.ar l.box)) (C.id (F.ty l.right))

theorem dom_layer (l : Layer) : C.dom (F.layer l) = F.ty l.dom := by
  simp [layer, C.dom_tens, C.dom_id, F.dom_ar, Layer.dom, ty]

theorem cod_layer (l : Layer) : C.cod (F.layer l) = F.ty l.cod := by
  simp [layer, C.cod_tens, C.cod_id, F.cod_ar, Layer.cod, ty]

/-- The denotation of a list of layers read from type `s`. -/
def layers (s : Ty) (ls : List Layer) : M := ls.foldl (fun acc l => C.comp acc (F.layer l)) (C.id (F.ty s))

/-- `⟦d⟧`: the image of a diagram. -/
def eval (d : Diagram) : M := F.layers d.dom d.layers.boxes

end MFunctor

/-! ### The exchange law on layers -/

section
variable {O M : Type} (C : SMC O M)

theorem SMC.tens3_id (a b c : List O) :
    C.tens (C.tens (C.id a) (C.id b)) (C.id c) = C.id (a ++ b ++ c) := by
  rw [C.tens_id_id, C.tens_id_id]

/-- `(f ⊗ id) ∘ (id ⊗ g) = f ⊗ g = (id ⊗ g) ∘ (f ⊗ id)` in the form needed for layers. -/
theorem SMC.exchange_core (f g : M) :
    C.comp (C.tens f (C.id (C.dom g))) (C.tens (C.id (C.cod f)) g) = C.tens f g ∧
    C.comp (C.tens (C.id (C.dom f)) g) (C.tens f (C.id (C.cod g))) = C.tens f g := by
  constructor
  · rw [C.interchange _ _ _ _ (by rw [C.dom_id]) (by rw [C.cod_id]), C.comp_id, C.id_comp]
  · rw [C.interchange _ _ _ _ (by rw [C.cod_id]) (by rw [C.dom_id]), C.id_comp, C.comp_id]

end

section
variable {O M : Type} {C : SMC O M} (F : MFunctor C)

theorem MFunctor.layer_right (p : Ty) (g : Box) (r : Ty) :
    F.layer ⟨p, g, r⟩ = C.tens (C.id (F.ty p)) (C.tens (F.ar g) (C.id (F.ty r))) :=
  C.tens_assoc _ _ _

theorem MFunctor.layer_left (l : Ty) (f : Box) (m q : Ty) :
    F.layer ⟨l, f, m ++ q⟩ =
      C.tens (C.tens (C.tens (C.id (F.ty l)) (F.ar f)) (C.id (F.ty m))) (C.id (F.ty q)) := by
  rw [MFunctor.layer, MFunctor.ty_append, ← C.tens_id_id, ← C.tens_assoc]

/-- Both stackings of two disconnected boxes `f` (left) and `g` (right) denote
    `id l ⊗ f ⊗ id m ⊗ g ⊗ id r`. -/
theorem MFunctor.layer_exchange (l m r : Ty) (f g : Box) :
    C.comp (F.layer ⟨l, f, m ++ g.dom ++ r⟩) (F.layer ⟨l ++ f.cod ++ m, g, r⟩) =
    C.comp (F.layer ⟨l ++ f.dom ++ m, g, r⟩) (F.layer ⟨l, f, m ++ g.cod ++ r⟩) := by
  -- with `A = id l ⊗ f ⊗ id m` and `B = g ⊗ id r` the four layers are
  -- `A ⊗ id (dom B)`, `id (cod A) ⊗ B`, `id (dom A) ⊗ B`, `A ⊗ id (cod B)`
  have dB : C.dom (C.tens (F.ar g) (C.id (F.ty r))) = F.ty (g.dom ++ r) := by
    rw [C.dom_tens, C.dom_id, F.dom_ar, F.ty_append]; rfl
  have cB : C.cod (C.tens (F.ar g) (C.id (F.ty r))) = F.ty (g.cod ++ r) := by
    rw [C.cod_tens, C.cod_id, F.cod_ar, F.ty_append]; rfl
  have dA : C.dom (C.tens (C.tens (C.id (F.ty l)) (F.ar f)) (C.id (F.ty m)))
      = F.ty (l ++ f.dom ++ m) := by
    rw [C.dom_tens, C.dom_tens, C.dom_id, C.dom_id, F.dom_ar, F.ty_append, F.ty_append]; rfl
  have cA : C.cod (C.tens (C.tens (C.id (F.ty l)) (F.ar f)) (C.id (F.ty m)))
      = F.ty (l ++ f.cod ++ m) := by
    rw [C.cod_tens, C.cod_tens, C.cod_id, C.cod_id, F.cod_ar, F.ty_append, F.ty_append]; rfl
  rw [List.append_assoc m, List.append_assoc m, F.layer_left, F.layer_left, F.layer_right,
    F.layer_right, ← dB, ← cB, ← dA, ← cA, (C.exchange_core _ _).1, (C.exchange_core _ _).2]

end

end DV
