import Model.CQ

/-!
# `get_counts()` reads `init_and_discard().eval(mixed=True)` (circuit.py:309-318)

`enumFrom` through `List.zipIdx`, and `Circuit.getCounts` once the prepared-and-discarded circuit
evaluates: what `C12_counts_glue_partial` and `counts_keys_increasing` (Props/C12.lean) rest on.
-/

namespace DV.CQ

theorem enumFrom_eq_zipIdx {α} (l : List α) :
    ∀ s, enumFrom s l = (l.zipIdx s).map fun p => (p.2, p.1) := by
  induction l with
  | nil => intro s; rfl
  | cons x xs ih => intro s; rw [enumFrom, ih, List.zipIdx_cons, List.map_cons]

theorem mem_enumFrom {α} (l : List α) (s k : Nat) (y : α) :
    (k, y) ∈ enumFrom s l ↔ s ≤ k ∧ l[k - s]? = some y := by
  rw [enumFrom_eq_zipIdx, List.mem_map]
  constructor
  · rintro ⟨⟨a, i⟩, h, e⟩
    cases e
    exact List.mem_zipIdx_iff_le_and_getElem?_sub.mp h
  · intro h
    exact ⟨(y, k), List.mem_zipIdx_iff_le_and_getElem?_sub.mpr h, rfl⟩

/-- `get_counts()`, once `init_and_discard()` evaluates to `m`: the non-zero entries of `m`, keyed
    by their flat index. -/
theorem getCounts_of_eval (c : Circuit D8) (m : CQMap D8)
    (h : c.initAndDiscard.evalMixed = .ok m) :
    c.getCounts = .ok (((enumFrom 0 m.toList).filter fun p => p.2 != 0).map
      fun p => (p.1, p.2.re)) := by
  simp only [Circuit.getCounts, Circuit.eval, Bool.true_or, if_true, h, Value.entries]

end DV.CQ
