/-
  Proofs/CircuitAlg.lean — whole circuits and whole ZX diagrams over an arbitrary commutative (star)
  ring: the lifting from single boxes to composites (C11 `circuit_unitary`, `circuit_dagger`; C16
  `circuit2zx_sound`, `zx_diagram_dagger`).

  A circuit / diagram in `boxes/offsets` form is a list of LAYERS `(l, U, r)`; its value is the ordered
  product of the matrices `1_l ⊗ U ⊗ 1_r` (`evalLayers`: literally the recursion of `evalCircFrom` and
  `evalZXFrom` of Model/Gates.lean — `evalCircFrom_eq`, `evalZXFrom_eq`).  `LTyped n L m`: the layers
  compose, from `n` to `m` qubits, every box matrix being `2^a × 2^b` on `l + a + r` wires.

  PROVED for every typed list of layers, by induction from the laws of Proofs/MatAlg.lean:
    * `evalLayers_isMat`, `evalLayersFrom_eq_mul`, `evalLayers_append`, `evalLayers_cons`;
    * `evalLayers_isometry`/`_coisometry`: if every box satisfies `U·U† = 1` (`U†·U = 1`) so does the
      composite;
    * `evalLayers_dagger`: the reversed list of daggered layers evaluates to the conjugate transpose;
    * `evalLayers_whisker`: shifting every layer by `l` wires on the left and `r` on the right is `1_l ⊗ – ⊗ 1_r`;
    * `evalLayers_scaled`: if layer by layer `V_i = k_i • U_i` then the composites differ by `∏ k_i`.
  The ZX instances: `evalZX_dagger` (whole diagrams, from `zxb_dagger` on generators) and
  `evalZX_shift` (whiskering of a sub-diagram: the functor `circuit2zx` places the image of a gate at
  its offset).
-/
import Proofs.MatAlg

namespace DV.Gates

variable {R : Type}

/-- Layers `(left, box matrix, right)`. -/
abbrev Layers (R : Type) := List (Nat × Mat R × Nat)

/-- The matrix of one layer, `1_l ⊗ U ⊗ 1_r`. -/
def layerMat [Zero R] [One R] [Mul R] (x : Nat × Mat R × Nat) : Mat R :=
  kron (idQ x.1) (kron x.2.1 (idQ x.2.2))

/-- The recursion shared by `evalCircFrom` and `evalZXFrom`. -/
def evalLayersFrom [Zero R] [One R] [Add R] [Mul R] (acc : Mat R) : Layers R → Mat R
  | [] => acc
  | x :: rest => evalLayersFrom (mul acc (layerMat x)) rest

def evalLayers [Zero R] [One R] [Add R] [Mul R] (n : Nat) (L : Layers R) : Mat R :=
  evalLayersFrom (idQ n) L

/-- The layers compose from `n` to `m` qubits; the box of a layer is a `2^a × 2^b` matrix. -/
inductive LTyped : Nat → Layers R → Nat → Prop
  | nil (n : Nat) : LTyped n [] n
  | cons {l a b r m : Nat} {U : Mat R} {rest : Layers R} :
      IsMat (pow2 a) (pow2 b) U → LTyped (l + b + r) rest m → LTyped (l + a + r) ((l, U, r) :: rest) m

theorem LTyped.cast {n n' m : Nat} {L : Layers R} (h : LTyped n L m) (e : n = n') : LTyped n' L m :=
  e ▸ h

theorem LTyped.append {n k m : Nat} {L L' : Layers R} (h : LTyped n L k) (h' : LTyped k L' m) :
    LTyped n (L ++ L') m := by
  induction h with
  | nil n => exact h'
  | cons hU _ ih => exact LTyped.cons hU (ih h')

/-- The circuits of Model/Gates.lean are lists of layers. -/
theorem evalCircFrom_eq (acc : M8) (c : Circ) :
    evalCircFrom acc c = evalLayersFrom acc (c.map fun x => (x.1, x.2.1.eval, x.2.2)) := by
  induction c generalizing acc with
  | nil => rfl
  | cons x rest ih =>
    obtain ⟨l, g, r⟩ := x
    simp only [evalCircFrom, List.map_cons, evalLayersFrom, layerMat]
    exact ih _

/-- The layers of a ZX diagram on `w` wires (`evalZXFrom`). -/
def zxLayers [Zero R] [One R] [Add R] [Mul R] [Neg R] (ρ : R) : Nat → ZXD R → Layers R
  | _, [] => []
  | w, (b, off) :: rest => (off, b.mat ρ, w - off - b.dom) :: zxLayers ρ (w - b.dom + b.cod) rest

theorem evalZXFrom_eq [Zero R] [One R] [Add R] [Mul R] [Neg R] (ρ : R) (w : Nat) (acc : Mat R)
    (d : ZXD R) : evalZXFrom ρ w acc d = evalLayersFrom acc (zxLayers ρ w d) := by
  induction d generalizing w acc with
  | nil => rfl
  | cons x rest ih =>
    obtain ⟨b, off⟩ := x
    simp only [evalZXFrom, zxLayers, evalLayersFrom, layerMat]
    exact ih _ _

theorem evalZX_eq [Zero R] [One R] [Add R] [Mul R] [Neg R] (ρ : R) (w : Nat) (d : ZXD R) :
    evalZX ρ w d = evalLayers w (zxLayers ρ w d) := evalZXFrom_eq ρ w _ d

section Ring
variable [CommRing R]

theorem isMat_layerMat {l a b r : Nat} {U : Mat R} (hU : IsMat (pow2 a) (pow2 b) U) :
    IsMat (pow2 (l + a + r)) (pow2 (l + b + r)) (layerMat (l, U, r)) := by
  have := (isMat_idQ (R := R) l).kron (hU.kron (isMat_idQ r))
  rwa [← pow2_add, ← pow2_add, ← pow2_add, ← pow2_add, ← Nat.add_assoc, ← Nat.add_assoc] at this

/-- Accumulator form: `evalLayersFrom acc L = acc · evalLayers n L`. -/
theorem evalLayersFrom_eq_mul {n m : Nat} {L : Layers R} (h : LTyped n L m) :
    ∀ {p : Nat} {acc : Mat R}, IsMat p (pow2 n) acc →
      IsMat p (pow2 m) (evalLayersFrom acc L) ∧
      evalLayersFrom acc L = mul acc (evalLayers n L) := by
  induction h with
  | nil n =>
    intro p acc hacc
    exact ⟨hacc, by simp only [evalLayers, evalLayersFrom]; rw [idQ, mul_identity (pow2_pos n) hacc]⟩
  | @cons l a b r m U rest hU _ ih =>
    intro p acc hacc
    have hL := isMat_layerMat (l := l) (r := r) hU
    have h1 := ih (hacc.mul (pow2_pos _) hL)
    have h2 := ih ((isMat_idQ (R := R) (l + a + r)).mul (pow2_pos _) hL)
    refine ⟨h1.1, ?_⟩
    simp only [evalLayers, evalLayersFrom] at h1 h2 ⊢
    rw [h1.2, h2.2]
    rw [← mul_assoc_of_isMat (pow2_pos _) (pow2_pos _) hacc
      ((isMat_idQ (R := R) (l + a + r)).mul (pow2_pos _) hL) (ih (isMat_idQ _)).1]
    congr 1
    rw [idQ, identity_mul (pow2_pos _) hL]

theorem evalLayers_isMat {n m : Nat} {L : Layers R} (h : LTyped n L m) :
    IsMat (pow2 n) (pow2 m) (evalLayers n L) := (evalLayersFrom_eq_mul h (isMat_idQ n)).1

/-- First layer, then the rest. -/
theorem evalLayers_cons {l a b r m : Nat} {U : Mat R} {rest : Layers R}
    (hU : IsMat (pow2 a) (pow2 b) U) (h : LTyped (l + b + r) rest m) :
    evalLayers (l + a + r) ((l, U, r) :: rest) = mul (layerMat (l, U, r)) (evalLayers (l + b + r) rest) := by
  have hL := isMat_layerMat (l := l) (r := r) hU
  simp only [evalLayers, evalLayersFrom]
  rw [idQ, identity_mul (pow2_pos _) hL]
  exact (evalLayersFrom_eq_mul h hL).2

theorem evalLayersFrom_append (acc : Mat R) (L L' : Layers R) :
    evalLayersFrom acc (L ++ L') = evalLayersFrom (evalLayersFrom acc L) L' := by
  induction L generalizing acc with
  | nil => rfl
  | cons x rest ih => simp only [List.cons_append, evalLayersFrom]; exact ih _

theorem mul_idQ_idQ (n : Nat) : mul (idQ (R := R) n) (idQ n) = idQ n :=
  mul_identity (pow2_pos _) (isMat_identity _)

/-- Composition of diagrams is the product. -/
theorem evalLayers_append {n k m : Nat} {L L' : Layers R} (h : LTyped n L k) (h' : LTyped k L' m) :
    evalLayers n (L ++ L') = mul (evalLayers n L) (evalLayers k L') := by
  unfold evalLayers
  rw [evalLayersFrom_append]
  exact (evalLayersFrom_eq_mul h' (evalLayers_isMat h)).2

/-! ### scalar multiples, layer by layer -/

/-- `L'` has the boxes of `L` scaled: `V_i = k_i • U_i`; `K` is the product of the `k_i`. -/
inductive LScaled : Layers R → Layers R → R → Prop
  | nil : LScaled [] [] 1
  | cons {l r : Nat} {U : Mat R} {k K : R} {L L' : Layers R} :
      LScaled L L' K → LScaled ((l, U, r) :: L) ((l, msmul k U, r) :: L') (k * K)

theorem LScaled.typed {L L' : Layers R} {K : R} (hs : LScaled L L' K) {n m : Nat} (h : LTyped n L m) :
    LTyped n L' m := by
  induction hs generalizing n with
  | nil => exact h
  | cons _ ih =>
    cases h with
    | cons hU hrest => exact LTyped.cons (hU.msmul _) (ih hrest)

/-- **One overall scalar**: if box by box `V_i = k_i • U_i`, the composites differ by `∏ k_i`. -/
theorem evalLayers_scaled {L L' : Layers R} {K : R} (hs : LScaled L L' K) {n m : Nat}
    (h : LTyped n L m) : evalLayers n L' = msmul K (evalLayers n L) := by
  induction hs generalizing n with
  | nil =>
    cases h
    rw [msmul_one (evalLayers_isMat (LTyped.nil _))]
  | @cons l r U k K L L' hs' ih =>
    cases h with
    | @cons _ a b _ _ _ _ hU hrest =>
      rw [evalLayers_cons (hU.msmul k) (hs'.typed hrest), evalLayers_cons hU hrest, ih hrest]
      have hL := isMat_layerMat (l := l) (r := r) hU
      have hE := evalLayers_isMat hrest
      have e : layerMat (l, msmul k U, r) = msmul k (layerMat (l, U, r)) := by
        simp only [layerMat]
        rw [kron_msmul_left k hU (isMat_idQ r), kron_msmul_right k (isMat_idQ l) (hU.kron (isMat_idQ r))]
      rw [e, mul_msmul_left k (pow2_pos _) hL (hE.msmul K), mul_msmul_right K (pow2_pos _) hL hE,
        msmul_msmul k K (hL.mul (pow2_pos _) hE)]

/-! ### whiskering -/

/-- Every layer moved `l` wires to the right, with `r` further wires on its right. -/
def whisker (l r : Nat) (L : Layers R) : Layers R := L.map fun x => (l + x.1, x.2.1, x.2.2 + r)

omit [CommRing R] in
theorem whisker_typed (l r : Nat) {n m : Nat} {L : Layers R} (h : LTyped n L m) :
    LTyped (l + n + r) (whisker l r L) (l + m + r) := by
  induction h with
  | nil n => exact LTyped.nil _
  | @cons l' a b r' m U rest hU _ ih =>
    simp only [whisker, List.map_cons] at ih ⊢
    have e1 : l + (l' + a + r') + r = (l + l') + a + (r' + r) := by omega
    have e2 : l + (l' + b + r') + r = (l + l') + b + (r' + r) := by omega
    rw [e1]; rw [e2] at ih
    exact LTyped.cons hU ih

theorem layerMat_whisker (l r : Nat) {l' a b r' : Nat} {U : Mat R} (hU : IsMat (pow2 a) (pow2 b) U) :
    layerMat (l + l', U, r' + r) = kron (idQ l) (kron (layerMat (l', U, r')) (idQ r)) := by
  simp only [layerMat]
  have hr' := isMat_idQ (R := R) r'
  have hr := isMat_idQ (R := R) r
  have hl' := isMat_idQ (R := R) l'
  have hl := isMat_idQ (R := R) l
  rw [← kron_idQ l l', ← kron_idQ r' r,
    kron_assoc_of_isMat hl hl' (hU.kron (hr'.kron hr)),
    ← kron_assoc_of_isMat hU hr' hr,
    ← kron_assoc_of_isMat hl' (hU.kron hr') hr]

/-- **Whiskering**: `⟦1_l ⊗ D ⊗ 1_r⟧ = 1_l ⊗ ⟦D⟧ ⊗ 1_r`. -/
theorem evalLayers_whisker (l r : Nat) {n m : Nat} {L : Layers R} (h : LTyped n L m) :
    evalLayers (l + n + r) (whisker l r L) = kron (idQ l) (kron (evalLayers n L) (idQ r)) := by
  induction h with
  | nil n =>
    simp only [whisker, List.map_nil, evalLayers, evalLayersFrom]
    rw [kron_idQ, kron_idQ, Nat.add_assoc]
  | @cons l' a b r' m U rest hU hrest ih =>
    have e1 : l + (l' + a + r') + r = (l + l') + a + (r' + r) := by omega
    have e2 : l + (l' + b + r') + r = (l + l') + b + (r' + r) := by omega
    have hw := whisker_typed l r hrest
    rw [e2] at hw ih
    simp only [whisker, List.map_cons] at hw ih ⊢
    rw [e1, evalLayers_cons hU hw, ih, evalLayers_cons hU hrest, layerMat_whisker l r hU]
    have hL := isMat_layerMat (l := l') (r := r') hU
    have hE := evalLayers_isMat hrest
    have hr := isMat_idQ (R := R) r
    have hl := isMat_idQ (R := R) l
    rw [← kron_mul_kron (pow2_pos _) (Nat.mul_pos (pow2_pos _) (pow2_pos _)) hl hl
        (hL.kron hr) (hE.kron hr),
      ← kron_mul_kron (pow2_pos _) (pow2_pos _) hL hE hr hr]
    rw [mul_idQ_idQ, mul_idQ_idQ]

end Ring

/-! ### single layers -/

section Ring2
variable [CommRing R]

theorem layerMat_mul (l r : Nat) {a b c : Nat} {U V : Mat R} (hU : IsMat (pow2 a) (pow2 b) U)
    (hV : IsMat (pow2 b) (pow2 c) V) :
    mul (layerMat (l, U, r)) (layerMat (l, V, r)) = layerMat (l, mul U V, r) := by
  simp only [layerMat]
  have hr := isMat_idQ (R := R) r
  have hl := isMat_idQ (R := R) l
  rw [← kron_mul_kron (pow2_pos _) (Nat.mul_pos (pow2_pos _) (pow2_pos _)) hl hl (hU.kron hr) (hV.kron hr),
    ← kron_mul_kron (pow2_pos _) (pow2_pos _) hU hV hr hr, mul_idQ_idQ, mul_idQ_idQ]

theorem layerMat_idQ (l a r : Nat) : layerMat (R := R) (l, idQ a, r) = idQ (l + a + r) := by
  simp only [layerMat]; rw [kron_idQ, kron_idQ, Nat.add_assoc]

theorem layerMat_dagger [StarRing R] (l r : Nat) {a b : Nat} {U : Mat R} (hU : IsMat (pow2 a) (pow2 b) U) :
    dagger (layerMat (l, U, r)) = layerMat (l, dagger U, r) := by
  simp only [layerMat]
  rw [dagger_kron (pow2_pos _) (Nat.mul_pos (pow2_pos _) (pow2_pos _)) (isMat_idQ l) (hU.kron (isMat_idQ r)),
    dagger_kron (pow2_pos _) (pow2_pos _) hU (isMat_idQ r), dagger_idQ, dagger_idQ]

theorem evalLayers_singleton {l a b r : Nat} {U : Mat R} (hU : IsMat (pow2 a) (pow2 b) U) :
    evalLayers (l + a + r) [(l, U, r)] = layerMat (l, U, r) := by
  rw [evalLayers_cons hU (LTyped.nil _)]
  simp only [evalLayers, evalLayersFrom]
  rw [idQ, mul_identity (pow2_pos _) (isMat_layerMat hU)]

end Ring2

/-! ### isometries, unitaries, the dagger -/

/-- The dagger of a list of layers: reversed, every box conjugate-transposed. -/
def Ldagger [Conj R] (L : Layers R) : Layers R := L.reverse.map fun x => (x.1, dagger x.2.1, x.2.2)

theorem Ldagger_cons [Conj R] (x : Nat × Mat R × Nat) (L : Layers R) :
    Ldagger (x :: L) = Ldagger L ++ [(x.1, dagger x.2.1, x.2.2)] := by
  simp [Ldagger]

section Star
variable [CommRing R] [StarRing R]

/-- Typed layers every box of which satisfies `U·U† = 1` (in diagram order: `U >> U† = id(dom)`). -/
inductive LIsometric : Nat → Layers R → Nat → Prop
  | nil (n : Nat) : LIsometric n [] n
  | cons {l a b r m : Nat} {U : Mat R} {rest : Layers R} :
      IsMat (pow2 a) (pow2 b) U → mul U (dagger U) = idQ a → LIsometric (l + b + r) rest m →
      LIsometric (l + a + r) ((l, U, r) :: rest) m

/-- Typed layers every box of which satisfies `U†·U = 1` (`U† >> U = id(cod)`). -/
inductive LCoisometric : Nat → Layers R → Nat → Prop
  | nil (n : Nat) : LCoisometric n [] n
  | cons {l a b r m : Nat} {U : Mat R} {rest : Layers R} :
      IsMat (pow2 a) (pow2 b) U → mul (dagger U) U = idQ b → LCoisometric (l + b + r) rest m →
      LCoisometric (l + a + r) ((l, U, r) :: rest) m

theorem LIsometric.typed {n m : Nat} {L : Layers R} (h : LIsometric n L m) : LTyped n L m := by
  induction h with
  | nil n => exact LTyped.nil n
  | cons hU _ _ ih => exact LTyped.cons hU ih

theorem LCoisometric.typed {n m : Nat} {L : Layers R} (h : LCoisometric n L m) : LTyped n L m := by
  induction h with
  | nil n => exact LTyped.nil n
  | cons hU _ _ ih => exact LTyped.cons hU ih

/-- **A circuit of isometries is an isometry**: `⟦c⟧·⟦c⟧† = 1`. -/
theorem evalLayers_isometry {n m : Nat} {L : Layers R} (h : LIsometric n L m) :
    mul (evalLayers n L) (dagger (evalLayers n L)) = idQ n := by
  induction h with
  | nil n =>
    simp only [evalLayers, evalLayersFrom]; rw [dagger_idQ, mul_idQ_idQ]
  | @cons l a b r m U rest hU hiso hrest ih =>
    have ht := hrest.typed
    have hX := isMat_layerMat (l := l) (r := r) hU
    have hE := evalLayers_isMat ht
    have hXd := hX.dagger (pow2_pos _)
    have hEd := hE.dagger (pow2_pos _)
    rw [evalLayers_cons hU ht, dagger_mul (pow2_pos _) (pow2_pos _) hX hE,
      mul_assoc_of_isMat (pow2_pos _) (pow2_pos _) hX hE (hEd.mul (pow2_pos _) hXd),
      ← mul_assoc_of_isMat (pow2_pos _) (pow2_pos _) hE hEd hXd, ih, idQ,
      identity_mul (pow2_pos _) hXd, layerMat_dagger l r hU,
      layerMat_mul l r hU (hU.dagger (pow2_pos _)), hiso, layerMat_idQ]

/-- **A circuit of co-isometries is a co-isometry**: `⟦c⟧†·⟦c⟧ = 1`. -/
theorem evalLayers_coisometry {n m : Nat} {L : Layers R} (h : LCoisometric n L m) :
    mul (dagger (evalLayers n L)) (evalLayers n L) = idQ m := by
  induction h with
  | nil n =>
    simp only [evalLayers, evalLayersFrom]; rw [dagger_idQ, mul_idQ_idQ]
  | @cons l a b r m U rest hU hiso hrest ih =>
    have ht := hrest.typed
    have hX := isMat_layerMat (l := l) (r := r) hU
    have hE := evalLayers_isMat ht
    have hXd := hX.dagger (pow2_pos _)
    have hEd := hE.dagger (pow2_pos _)
    have e : mul (dagger (layerMat (l, U, r))) (layerMat (l, U, r)) = idQ (l + b + r) := by
      rw [layerMat_dagger l r hU, layerMat_mul l r (hU.dagger (pow2_pos _)) hU, hiso, layerMat_idQ]
    rw [evalLayers_cons hU ht, dagger_mul (pow2_pos _) (pow2_pos _) hX hE,
      mul_assoc_of_isMat (pow2_pos _) (pow2_pos _) hEd hXd (hX.mul (pow2_pos _) hE),
      ← mul_assoc_of_isMat (pow2_pos _) (pow2_pos _) hXd hX hE, e, idQ,
      identity_mul (pow2_pos _) hE, ih]

theorem Ldagger_typed {n m : Nat} {L : Layers R} (h : LTyped n L m) : LTyped m (Ldagger L) n := by
  induction h with
  | nil n => exact LTyped.nil n
  | cons hU _ ih =>
    rw [Ldagger_cons]
    exact ih.append (LTyped.cons (hU.dagger (pow2_pos _)) (LTyped.nil _))

/-- **The dagger of a circuit evaluates to the conjugate transpose.** -/
theorem evalLayers_dagger {n m : Nat} {L : Layers R} (h : LTyped n L m) :
    evalLayers m (Ldagger L) = dagger (evalLayers n L) := by
  induction h with
  | nil n => simp only [Ldagger, List.reverse_nil, List.map_nil, evalLayers, evalLayersFrom]; rw [dagger_idQ]
  | @cons l a b r m U rest hU hrest ih =>
    have hX := isMat_layerMat (l := l) (r := r) hU
    have hE := evalLayers_isMat hrest
    rw [Ldagger_cons, evalLayers_append (Ldagger_typed hrest)
        (LTyped.cons (hU.dagger (pow2_pos _)) (LTyped.nil _)),
      evalLayers_singleton (hU.dagger (pow2_pos _)), ih, evalLayers_cons hU hrest,
      dagger_mul (pow2_pos _) (pow2_pos _) hX hE, layerMat_dagger l r hU]

end Star

/-! ### ZX diagrams -/

section ZX

/-- Typing scan of a diagram over any carrier (`ZXDiag.codFrom` of the model is the instance at the
    syntax: `codFrom_sem`). -/
def ZXD.codFrom : Nat → ZXD R → Option Nat
  | w, [] => some w
  | w, (b, off) :: rest =>
    if off + b.dom ≤ w then ZXD.codFrom (w - b.dom + b.cod) rest else none

theorem codFrom_sem (w : Nat) (d : ZXDiag) : ZXDiag.codFrom w d = ZXD.codFrom w d.sem := by
  induction d generalizing w with
  | nil => rfl
  | cons x rest ih =>
    obtain ⟨b, off⟩ := x
    simp only [ZXDiag.codFrom, ZXDiag.sem, List.map_cons, ZXD.codFrom]
    split
    · exact ih _
    · rfl

theorem ZXD.codFrom_append (w : Nat) (d d' : ZXD R) :
    ZXD.codFrom w (d ++ d') = (ZXD.codFrom w d).bind fun k => ZXD.codFrom k d' := by
  induction d generalizing w with
  | nil => rfl
  | cons x rest ih =>
    obtain ⟨b, off⟩ := x
    simp only [List.cons_append, ZXD.codFrom]
    split
    · exact ih _
    · rfl

theorem bits_length : ∀ n, (bits n).length = pow2 n
  | 0 => rfl
  | n + 1 => by simp [bits, pow2, bits_length n]; omega

variable [CommRing R]

theorem isMat_zxb (ρ : R) (b : ZXB R) : IsMat (pow2 b.dom) (pow2 b.cod) (b.mat ρ) := by
  cases b with
  | z n m μ =>
    refine ⟨by simp [ZXB.mat, zMat, bits_length, ZXB.dom], ?_⟩
    intro r hr
    simp only [ZXB.mat, zMat, List.mem_map] at hr
    obtain ⟨x, _, rfl⟩ := hr
    simp [bits_length, ZXB.cod]
  | x n m μ =>
    refine ⟨by simp [ZXB.mat, xMat, bits_length, ZXB.dom], ?_⟩
    intro r hr
    simp only [ZXB.mat, xMat, List.mem_map] at hr
    obtain ⟨x, _, rfl⟩ := hr
    simp [bits_length, ZXB.cod]
  | h => simp [IsMat, ZXB.mat, hMat, ZXB.dom, ZXB.cod, pow2]
  | swap => simp [IsMat, ZXB.mat, swapMat, ZXB.dom, ZXB.cod, pow2]
  | scalar s => simp [IsMat, ZXB.mat, ZXB.dom, ZXB.cod, pow2]

theorem zxLayers_typed (ρ : R) {w m : Nat} {d : ZXD R} (h : ZXD.codFrom w d = some m) :
    LTyped w (zxLayers ρ w d) m := by
  induction d generalizing w with
  | nil => simp only [ZXD.codFrom, Option.some.injEq] at h; subst h; exact LTyped.nil _
  | cons x rest ih =>
    obtain ⟨b, off⟩ := x
    simp only [ZXD.codFrom] at h
    split at h
    · rename_i hle
      have e1 : w = off + b.dom + (w - off - b.dom) := by omega
      have e2 : w - b.dom + b.cod = off + b.cod + (w - off - b.dom) := by omega
      simp only [zxLayers]
      exact (LTyped.cons (isMat_zxb ρ b) ((ih h).cast e2)).cast e1.symm
    · cases h

theorem zxLayers_append (ρ : R) {w k : Nat} {d : ZXD R} (d' : ZXD R) (h : ZXD.codFrom w d = some k) :
    zxLayers ρ w (d ++ d') = zxLayers ρ w d ++ zxLayers ρ k d' := by
  induction d generalizing w with
  | nil => simp only [ZXD.codFrom, Option.some.injEq] at h; subst h; rfl
  | cons x rest ih =>
    obtain ⟨b, off⟩ := x
    simp only [ZXD.codFrom] at h
    split at h
    · simp only [List.cons_append, zxLayers, ih h]
    · cases h

/-- **Composition of ZX diagrams is the product.** -/
theorem evalZX_append (ρ : R) {w k m : Nat} {d d' : ZXD R} (h : ZXD.codFrom w d = some k)
    (h' : ZXD.codFrom k d' = some m) :
    evalZX ρ w (d ++ d') = mul (evalZX ρ w d) (evalZX ρ k d') := by
  rw [evalZX_eq, evalZX_eq, evalZX_eq, zxLayers_append ρ d' h]
  exact evalLayers_append (zxLayers_typed ρ h) (zxLayers_typed ρ h')

/-- A sub-diagram placed `l` wires to the right (what a monoidal functor does with the image of a box). -/
def zxShift (l : Nat) (d : ZXD R) : ZXD R := d.map fun x => (x.1, x.2 + l)

theorem zxShift_layers (ρ : R) (l r : Nat) {a b : Nat} {d : ZXD R} (h : ZXD.codFrom a d = some b) :
    ZXD.codFrom (l + a + r) (zxShift l d) = some (l + b + r) ∧
    zxLayers ρ (l + a + r) (zxShift l d) = whisker l r (zxLayers ρ a d) := by
  induction d generalizing a with
  | nil =>
    simp only [ZXD.codFrom, Option.some.injEq] at h; subst h
    exact ⟨rfl, rfl⟩
  | cons x rest ih =>
    obtain ⟨bx, off⟩ := x
    simp only [ZXD.codFrom] at h
    split at h
    · rename_i hle
      have := ih h
      have e : l + a + r - bx.dom + bx.cod = l + (a - bx.dom + bx.cod) + r := by omega
      simp only [zxShift, List.map_cons, ZXD.codFrom, zxLayers, whisker] at this ⊢
      rw [if_pos (by omega), e]
      refine ⟨this.1, ?_⟩
      rw [this.2]
      congr 2
      · omega
      · congr 1; omega
    · cases h

/-- **Whiskering of ZX diagrams**: `⟦1_l ⊗ d ⊗ 1_r⟧ = 1_l ⊗ ⟦d⟧ ⊗ 1_r`. -/
theorem evalZX_shift (ρ : R) (l r : Nat) {a b : Nat} {d : ZXD R} (h : ZXD.codFrom a d = some b) :
    evalZX ρ (l + a + r) (zxShift l d) = kron (idQ l) (kron (evalZX ρ a d) (idQ r)) := by
  rw [evalZX_eq, evalZX_eq, (zxShift_layers ρ l r h).2]
  exact evalLayers_whisker l r (zxLayers_typed ρ h)

/-- **The image of a circuit under a box-by-box translation** (`circuit2zx`): the image `d` of every box
    `U` on `a` wires is a well-typed diagram denoting `k • U`; the images are placed at the offsets of
    the boxes.  `ks` collects the scalars. -/
inductive ZXImage (ρ : R) : Nat → Layers R → ZXD R → List R → Nat → Prop
  | nil (n : Nat) : ZXImage ρ n [] [] [] n
  | cons {l a b r m : Nat} {U : Mat R} {d : ZXD R} {k : R} {L : Layers R} {Z : ZXD R} {ks : List R} :
      IsMat (pow2 a) (pow2 b) U → ZXD.codFrom a d = some b → evalZX ρ a d = msmul k U →
      ZXImage ρ (l + b + r) L Z ks m →
      ZXImage ρ (l + a + r) ((l, U, r) :: L) (zxShift l d ++ Z) (k :: ks) m

/-- **`circuit2zx` is sound with ONE overall scalar, the product of the scalars of the boxes.** -/
theorem evalZX_image (ρ : R) {n m : Nat} {L : Layers R} {Z : ZXD R} {ks : List R}
    (h : ZXImage ρ n L Z ks m) :
    LTyped n L m ∧ ZXD.codFrom n Z = some m ∧ evalZX ρ n Z = msmul ks.prod (evalLayers n L) := by
  induction h with
  | nil n =>
    refine ⟨LTyped.nil n, rfl, ?_⟩
    simp only [List.prod_nil]
    rw [msmul_one (evalLayers_isMat (LTyped.nil n))]
    rfl
  | @cons l a b r m U d k L Z ks hU hd hsound _ ih =>
    obtain ⟨ht, hc, he⟩ := ih
    have hs := zxShift_layers ρ l r hd
    have hX := isMat_layerMat (l := l) (r := r) hU
    have hE := evalLayers_isMat ht
    refine ⟨LTyped.cons hU ht, ?_, ?_⟩
    · rw [ZXD.codFrom_append, hs.1]; exact hc
    · rw [evalZX_append ρ hs.1 hc, evalZX_shift ρ l r hd, hsound, he, evalLayers_cons hU ht,
        List.prod_cons]
      have e : kron (idQ l) (kron (msmul k U) (idQ r)) = msmul k (layerMat (l, U, r)) := by
        simp only [layerMat]
        rw [kron_msmul_left k hU (isMat_idQ r), kron_msmul_right k (isMat_idQ l) (hU.kron (isMat_idQ r))]
      rw [e, mul_msmul_left k (pow2_pos _) hX (hE.msmul _), mul_msmul_right _ (pow2_pos _) hX hE,
        msmul_msmul k _ (hX.mul (pow2_pos _) hE)]

/-! ### the dagger of a whole ZX diagram -/

variable [StarRing R]

/-- zx.py: the dagger of a diagram — boxes reversed, each daggered, same offsets (cat.py:214-231). -/
def ZXD.daggerS (d : ZXD R) : ZXD R := d.reverse.map fun x => (x.1.daggerS, x.2)

theorem ZXB.daggerS_dom (b : ZXB R) : b.daggerS.dom = b.cod := by cases b <;> rfl
theorem ZXB.daggerS_cod (b : ZXB R) : b.daggerS.cod = b.dom := by cases b <;> rfl

theorem zxLayers_daggerS (ρ : R) (hρ : star ρ = ρ) {w m : Nat} {d : ZXD R}
    (h : ZXD.codFrom w d = some m) :
    ZXD.codFrom m d.daggerS = some w ∧ zxLayers ρ m d.daggerS = Ldagger (zxLayers ρ w d) := by
  induction d generalizing w with
  | nil => simp only [ZXD.codFrom, Option.some.injEq] at h; subst h; exact ⟨rfl, rfl⟩
  | cons x rest ih =>
    obtain ⟨b, off⟩ := x
    simp only [ZXD.codFrom] at h
    split at h
    · rename_i hle
      obtain ⟨h1, h2⟩ := ih h
      have e : ZXD.daggerS ((b, off) :: rest) = ZXD.daggerS rest ++ [(b.daggerS, off)] := by
        simp [ZXD.daggerS]
      rw [e, ZXD.codFrom_append, h1, zxLayers_append ρ _ h1, h2]
      simp only [Option.bind_some, ZXD.codFrom, zxLayers, Ldagger_cons, ZXB.daggerS_dom,
        ZXB.daggerS_cod, zxb_dagger ρ hρ b]
      refine ⟨?_, ?_⟩
      · rw [if_pos (by omega)]; congr 1; omega
      · congr 4; omega
    · cases h

/-- **`⟦d†⟧ = ⟦d⟧ᴴ` for whole ZX diagrams** (every well-typed diagram, any generators, any phases). -/
theorem evalZX_dagger (ρ : R) (hρ : star ρ = ρ) {w m : Nat} {d : ZXD R}
    (h : ZXD.codFrom w d = some m) : evalZX ρ m d.daggerS = dagger (evalZX ρ w d) := by
  rw [evalZX_eq, evalZX_eq, (zxLayers_daggerS ρ hρ h).2]
  exact evalLayers_dagger (zxLayers_typed ρ h)

end ZX

end DV.Gates
