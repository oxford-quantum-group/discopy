/-
  Proofs/CircuitTablesZX.lean — the per-gate hypothesis `Gate.zxOK` of `circuit2zx_sound_of`
  (Proofs/CircuitCyc8.lean) on the translated gate set: the phase-free table by kernel evaluation, rotations by
  Proofs/RotCyc8.lean, kets and bras by Proofs/KetBra.lean.
-/
import Proofs.CircuitTables

namespace DV.Gates
open DV

/-- What the as-is CRz / CU1 decompositions denote instead: the gate at TWICE the phase (up to 1/√2).
    Stated for four phase indices; it holds for every `n : ℤ` (`zxEvalOf_asis_eq_fixed_double`, then
    `gate2zx_fixed_sound` at the even index `2 * n`), the membership hypothesis is not used. -/
theorem F7_asis_is_double_phase :
    ∀ n ∈ [0, 2, 4, 6],
      zxEvalOf false (.rot .CRz n) = .ok (msmul Cyc8.invSqrt2 (Gate.rot .CRz (2 * n)).eval) ∧
      zxEvalOf false (.rot .CU1 n) = .ok (msmul Cyc8.invSqrt2 (Gate.rot .CU1 (2 * n)).eval) := by
  intro n _
  rw [(zxEvalOf_asis_eq_fixed_double n).1, (zxEvalOf_asis_eq_fixed_double n).2]
  exact ⟨gate2zx_fixed_sound .CRz (by decide) _ (by omega), gate2zx_fixed_sound .CU1 (by decide) _ (by omega)⟩

/-- F7: the decompositions AS THEY ARE in zx.py:376-384 are NOT proportional to the gate at phase
    1/4 (`n = 2`): the cross product of the entries (0,0) and (3,3) fails.  The images of CRz and CU1 are known
    (`F7_asis_is_double_phase`); that of CRx has no closed form and is evaluated. -/
theorem F7_asis_unsound :
    ∀ k ∈ ctrlRotKinds,
      (zxEvalOf false (.rot k 2)).toOption.map (crossFailsAt · (Gate.rot k 2).eval 0 0 3 3)
        = some true := by
  intro k hk
  simp only [ctrlRotKinds, List.mem_cons, List.not_mem_nil, or_false] at hk
  rcases hk with rfl | rfl | rfl
  · rw [(F7_asis_is_double_phase 2 (by decide)).1]; decide
  · decide +kernel
  · rw [(F7_asis_is_double_phase 2 (by decide)).2]; decide

/-! ### C16: the table of `Gate.zxOK` -/

/-- The inverse of the scalars that occur: `√2` for `1/√2`, the conjugate for the unimodular ones. -/
def zxInv (k : Cyc8) : Cyc8 := if k == Cyc8.invSqrt2 then Cyc8.sqrt2 else k.conj

/-- The translated gate set with the scalar `k g` of `⟦gate2zx g⟧ = k g • ⟦g⟧`:
    the phase-free table (`k = 1`, `1/√2` for CX, CZ), Rz and Rx (`k = e^{iπφ}`) at the even phase indices. -/
def zxTableA : List (Gate × Cyc8) :=
  zxNamed.map (fun p => (p.2, zxScalarNamed p.1)) ++
  evenPhases.flatMap (fun n => [(Gate.rot .Rz n, Cyc8.zetaPow (n / 2)), (Gate.rot .Rx n, Cyc8.zetaPow (n / 2))])

/-- … the corrected CRz, CRx, CU1 (`k = 1/√2`) at the even phase indices below 16 … -/
def zxTableB : List (Gate × Cyc8) :=
  ctrlRotKinds.flatMap (fun k => evenPhases.map fun n => (Gate.rot k n, Cyc8.invSqrt2))
/-- … and the kets and bras of ≤ 4 bits (`k = 1`). -/
def zxTableC : List (Gate × Cyc8) :=
  bitstringsUpTo4.flatMap (fun bs => [(Gate.ket bs, 1), (Gate.bra bs, 1)])

/-- The tabulated part of the translated gate set (`Gate.inZXSet` adds scalars, every even phase index, `sqrt`). -/
def zxTable : List (Gate × Cyc8) := zxTableA ++ zxTableB ++ zxTableC

/-- The scalars of the table are invertible, with `zxInv` as the inverse. -/
theorem zxInv_zetaPow (q : Int) :
    (zxInv (Cyc8.zetaPow q)).isNormal = true ∧ Cyc8.zetaPow q * zxInv (Cyc8.zetaPow q) = 1 := by
  unfold zxInv
  split
  · rename_i h
    rw [eq_of_beq h]; decide
  · exact ⟨Cyc8.isNormal_conj (Cyc8.isNormal_zetaPow q), Cyc8.zetaPow_mul_conj q⟩

theorem zxInv_rotZXScalar (k : RotKind) (n : Int) :
    (zxInv (rotZXScalar k n)).isNormal = true ∧ rotZXScalar k n * zxInv (rotZXScalar k n) = 1 :=
  zxRotScalar_cases (fun κ => (zxInv κ).isNormal = true ∧ κ * zxInv κ = 1) k (by decide) (zxInv_zetaPow _)

/-- **Rz, Rx, CRz, CRx, CU1 at every even integer phase index**: the (corrected) image is well typed and denotes
    `κ • ⟦g⟧` with the invertible `κ = rotZXScalar k n`. -/
theorem rot_zxOK (k : RotKind) (hk : k ≠ .Ry) (n : Int) (hn : n % 2 = 0) :
    (Gate.rot k n).zxOK (rotZXScalar k n) (zxInv (rotZXScalar k n)) = true :=
  Gate.zxOK_of_eval
    (rot_zxTyped k hk n (rotZXScalar_nrm k n) (zxInv_rotZXScalar k n).1 (zxInv_rotZXScalar k n).2)
    (gate2zx_rot_sound k hk n hn)

/-- On the gates other than CRz, CRx, CU1 the table as it is and the corrected table coincide. -/
theorem gate2zx_asis_eq_fixed : ∀ p ∈ zxTableA ++ zxTableC, gate2zx false p.1 = gate2zx true p.1 := by
  decide +kernel

/-- The images of the phase-free table are evaluated by `gate2zx_named_sound`, those of Rz, Rx by `rot_zxOK`;
    what `Gate.zxOK` asks beyond the evaluation needs no matrix product. -/
theorem zxTableA_ok : ∀ p ∈ zxTableA, p.1.zxOK p.2 (zxInv p.2) = true := by
  have typed : ∀ q ∈ zxNamed, q.2.zxTyped (zxScalarNamed q.1) (zxInv (zxScalarNamed q.1)) = true := by
    decide +kernel
  intro p hp
  rcases List.mem_append.1 hp with h | h
  · obtain ⟨q, hq, rfl⟩ := List.mem_map.1 h
    refine Gate.zxOK_of_eval (typed q hq) ?_
    rw [zxEvalOf, ← gate2zx_asis_eq_fixed _ (List.mem_append_left _ hp)]
    exact (gate2zx_named_sound q hq).1
  · obtain ⟨n, hn, h⟩ := List.mem_flatMap.1 h
    simp only [List.mem_cons, List.not_mem_nil, or_false] at h
    rcases h with rfl | rfl <;> exact rot_zxOK _ (by decide) n (evenPhases_even n hn)

theorem zxTableB_ok : ∀ p ∈ zxTableB, p.1.zxOK p.2 (zxInv p.2) = true := by
  intro p hp
  simp only [zxTableB, List.mem_flatMap, List.mem_map] at hp
  obtain ⟨k, hk, n, hn, rfl⟩ := hp
  exact (ctrlRotKinds_spec hk n).2 ▸ rot_zxOK k (ctrlRotKinds_spec hk n).1 n (evenPhases_even n hn)

theorem zxTableC_ok : ∀ p ∈ zxTableC, p.1.zxOK p.2 (zxInv p.2) = true := by
  intro p hp
  simp only [zxTableC, List.mem_flatMap, List.mem_cons, List.not_mem_nil, or_false] at hp
  obtain ⟨bs, _, rfl | rfl⟩ := hp
  · exact ket_zxOK bs
  · exact bra_zxOK bs

/-- `⟦gate2zx g⟧ = k g • ⟦g⟧` with an invertible `k g`, well typed, for every gate of the translated set. -/
theorem zxTable_ok : ∀ p ∈ zxTable, p.1.zxOK p.2 (zxInv p.2) = true := by
  intro p hp
  simp only [zxTable, List.mem_append] at hp
  rcases hp with (h | h) | h
  · exact zxTableA_ok p h
  · exact zxTableB_ok p h
  · exact zxTableC_ok p h


/-- Scalars translate to scalar boxes, exactly (`k = 1`), for every normalised value. -/
theorem scalar_zxOK (z : Cyc8) (hz : z.isNormal = true) : (Gate.scalar z).zxOK 1 1 = true := by
  have hsh : (Gate.scalar z).shapeOK = true := by
    simp [Gate.shapeOK, isMatB, allNormalB, Gate.eval, Gate.evalW, Gate.isDagger, Gate.arrayW,
      Gate.dom, Gate.cod, pow2, hz]
  have hev : ZXDiag.eval 0 [(.scalar z, 0)] = msmul 1 [[z]] := by
    have hA : AllEnt Nrm (ZXDiag.eval 0 [(.scalar z, 0)]) :=
      ZXDiag.eval_allEnt 0 (by simp [ZXDiag.normal, ZXBox.normal, hz])
    have hB : AllEnt Nrm (msmul 1 [[z]]) :=
      AllEnt.msmul nrm_closed (k := 1) rfl (by intro r hr x hx; simp at hr; subst hr; simp at hx; subst hx; exact hz)
    apply eq_of_val hA hB
    simp [ZXDiag.eval, ZXDiag.sem, ZXBox.sem, evalZX, evalZXFrom, ZXB.mat, ZXB.dom, idQ, pow2,
      identity, mul, rowMul, vadd, smul, kron, msmul, mapM, Cyc8.val_mul, Cyc8.val_one]
  simp only [Gate.zxOK, gate2zx, hsh, Gate.dom, Gate.cod, Gate.eval, Gate.evalW, Gate.isDagger,
    Gate.arrayW, hev]
  simp [ZXDiag.normal, ZXBox.normal, hz, ZXDiag.codFrom, ZXBox.sem, ZXB.dom, ZXB.cod]
  decide

/-- Square-root scalars `sqrt(z)` (gates.Sqrt, a SUBCLASS of gates.Scalar: `isinstance(box, GatesScalar)`,
    zx.py:397-400) translate to the scalar box of their DATA `z`, which denotes `r • ⟦sqrt(z)⟧ = r • [[r]]`
    for the value `r` of the box (`r * r = z`): sound with `k = r` whenever `r` is invertible (`√2` of
    `Circuit.cups` / `caps`, `1/√2`, `i`, `1 ± i`, `ζ`, `1 + √2`, …). -/
theorem sqrt_zxOK (z r r' : Cyc8) (hz : z.isNormal = true) (hr : r.isNormal = true) (hr' : r'.isNormal = true)
    (h : r * r = z) (hu : r * r' = 1) : (Gate.sqrt z r).zxOK r r' = true := by
  have hsh : (Gate.sqrt z r).shapeOK = true := by
    simp [Gate.shapeOK, isMatB, allNormalB, Gate.eval, Gate.evalW, Gate.isDagger, Gate.arrayW,
      Gate.dom, Gate.cod, pow2, hr]
  have hev : ZXDiag.eval 0 [(.scalar z, 0)] = msmul r [[r]] := by
    have hA : AllEnt Nrm (ZXDiag.eval 0 [(.scalar z, 0)]) :=
      ZXDiag.eval_allEnt 0 (by simp [ZXDiag.normal, ZXBox.normal, hz])
    have hB : AllEnt Nrm (msmul r [[r]]) :=
      AllEnt.msmul nrm_closed (k := r) hr (by intro w hw x hx; simp at hw; subst hw; simp at hx; subst hx; exact hr)
    apply eq_of_val hA hB
    subst h
    simp [ZXDiag.eval, ZXDiag.sem, ZXBox.sem, evalZX, evalZXFrom, ZXB.mat, ZXB.dom, idQ, pow2,
      identity, mul, rowMul, vadd, smul, kron, msmul, mapM, Cyc8.val_mul, Cyc8.val_one]
  simp only [Gate.zxOK, gate2zx, hsh, Gate.dom, Gate.cod, Gate.eval, Gate.evalW, Gate.isDagger,
    Gate.arrayW, hev]
  simp [ZXDiag.normal, ZXBox.normal, hz, hr, hr', hu, ZXDiag.codFrom, ZXBox.sem, ZXB.dom, ZXB.cod]

/-- `sqrt(0)`: value and image are both the zero scalar (`k = 1`). -/
theorem sqrt_zero_zxOK : (Gate.sqrt 0 0).zxOK 1 1 = true := by decide +kernel

end DV.Gates
