/-
  Proofs/Diagramize.lean — `diagramize` on a body that uses its wires in planar order: the graph
  `apply` builds has the canonical edge list of Proofs/NxEdges.lean (up to the repetitions that
  `networkx` drops), hence `nx2diagram` returns the diagram the body describes.
-/
import Proofs.NxEdges

namespace DV.Dz
open DV

/-! ### Repeated dict insertion -/

def insertAll {α} [DecidableEq α] (xs ys : List α) : List α := ys.foldl insertNew xs

section
variable {α : Type} [DecidableEq α]

@[simp] theorem insertAll_nil (xs : List α) : insertAll xs [] = xs := rfl

theorem insertAll_cons (xs : List α) (y : α) (ys : List α) :
    insertAll xs (y :: ys) = insertAll (insertNew xs y) ys := rfl

theorem insertAll_append (xs ys zs : List α) :
    insertAll xs (ys ++ zs) = insertAll (insertAll xs ys) zs := by
  simp [insertAll, List.foldl_append]

theorem mem_insertNew {xs : List α} {x v : α} : v ∈ insertNew xs x ↔ v ∈ xs ∨ v = x := by
  unfold insertNew
  split
  · constructor
    · exact Or.inl
    · rintro (h | rfl) <;> assumption
  · simp

theorem mem_insertAll {xs ys : List α} {v : α} : v ∈ insertAll xs ys ↔ v ∈ xs ∨ v ∈ ys := by
  induction ys generalizing xs with
  | nil => simp
  | cons y ys ih => rw [insertAll_cons, ih, mem_insertNew, List.mem_cons, or_assoc]

theorem filter_insertNew (p : α → Bool) (xs : List α) (x : α) :
    (insertNew xs x).filter p = if p x then insertNew (xs.filter p) x else xs.filter p := by
  unfold insertNew
  by_cases hx : x ∈ xs
  · by_cases hp : p x = true
    · have : x ∈ xs.filter p := List.mem_filter.mpr ⟨hx, hp⟩
      simp [hx, hp, this]
    · simp [hx, hp]
  · by_cases hp : p x = true
    · have : x ∉ xs.filter p := fun h => hx (List.mem_filter.mp h).1
      simp [hx, hp, this, List.filter_append]
    · simp [hx, hp, List.filter_append]

theorem filter_insertAll (p : α → Bool) (xs ys : List α) :
    (insertAll xs ys).filter p = insertAll (xs.filter p) (ys.filter p) := by
  induction ys generalizing xs with
  | nil => simp
  | cons y ys ih =>
    rw [insertAll_cons, ih, filter_insertNew]
    by_cases hp : p y = true
    · simp [hp, insertAll_cons]
    · simp [hp]

theorem insertAll_subset {xs ys : List α} (h : ∀ y ∈ ys, y ∈ xs) : insertAll xs ys = xs := by
  induction ys with
  | nil => rfl
  | cons y ys ih =>
    rw [insertAll_cons]
    have : insertNew xs y = xs := by simp [insertNew, h y (by simp)]
    rw [this]
    exact ih (fun z hz => h z (by simp [hz]))

theorem insertAll_fresh {xs ys : List α} (hn : ys.Nodup) (h : ∀ y ∈ ys, y ∉ xs) :
    insertAll xs ys = xs ++ ys := by
  induction ys generalizing xs with
  | nil => simp
  | cons y ys ih =>
    rw [List.nodup_cons] at hn
    rw [insertAll_cons]
    have : insertNew xs y = xs ++ [y] := by simp [insertNew, h y (by simp)]
    rw [this, ih hn.2]
    · simp
    · intro z hz hz'
      rcases List.mem_append.mp hz' with hz' | hz'
      · exact h z (by simp [hz]) hz'
      · simp only [List.mem_singleton] at hz'; subst hz'; exact hn.1 hz

theorem filter_insertAll_of_subset (p : α → Bool) {xs ys : List α}
    (h : ∀ y ∈ ys, p y = true → y ∈ xs) : (insertAll xs ys).filter p = xs.filter p := by
  rw [filter_insertAll]
  apply insertAll_subset
  intro y hy
  obtain ⟨h1, h2⟩ := List.mem_filter.mp hy
  exact List.mem_filter.mpr ⟨h y h1 h2, h2⟩

end

/-! ### Adding a list of edges -/

def ends (E : List (GNode × GNode)) : List GNode := E.flatMap (fun e => [e.1, e.2])

def addEdges (g : NxGraph) (E : List (GNode × GNode)) : NxGraph :=
  ⟨insertAll g.nodes (ends E), insertAll g.edges E⟩

theorem ends_cons (u v : GNode) (E : List (GNode × GNode)) : ends ((u, v) :: E) = u :: v :: ends E :=
  rfl

theorem addEdges_nil (g : NxGraph) : addEdges g [] = g := rfl

theorem addEdges_cons (g : NxGraph) (u v : GNode) (E : List (GNode × GNode)) :
    addEdges g ((u, v) :: E) = addEdges (g.addEdge u v) E := by
  rw [addEdges, ends_cons, insertAll_cons, insertAll_cons, insertAll_cons]; rfl

theorem addEdges_append (g : NxGraph) (E F : List (GNode × GNode)) :
    addEdges g (E ++ F) = addEdges (addEdges g E) F := by
  simp [addEdges, ends, insertAll_append]

theorem applyDom_cons (bn : GNode) (k i : Nat) (o : Ob) (os : List Ob) (w : GNode) (ws : List GNode)
    (g : NxGraph) (h : w.obj? = some o) :
    applyDom bn k i (o :: os) (w :: ws) g
      = applyDom bn k (i + 1) os ws ((g.addEdge w (.dom o i k)).addEdge (.dom o i k) bn) := by
  rw [applyDom, h]
  exact if_neg (fun hn => hn rfl)

theorem applyDom_ok (bn : GNode) (k : Nat) (os : List Ob) (ws : List GNode) (i : Nat)
    (g : NxGraph) (h : ws.map GNode.obj? = os.map some) :
    applyDom bn k i os ws g = .ok (addEdges g (domEdges bn k i os ws)) := by
  induction os generalizing ws i g with
  | nil => cases ws <;> rfl
  | cons o os ih =>
    cases ws with
    | nil => simp at h
    | cons w ws =>
      rw [List.map_cons, List.map_cons, List.cons.injEq] at h
      rw [applyDom_cons _ _ _ _ _ _ _ _ h.1, ih ws (i + 1) _ h.2, domEdges, addEdges_cons,
        addEdges_cons]

theorem applyCod_eq (bn : GNode) (k : Nat) (os : Ty) (i : Nat) (g : NxGraph) :
    applyCod bn k i os g
      = addEdges g ((os.mapIdx fun j o => GNode.cod o (i + j) k).map fun v => (bn, v)) := by
  induction os generalizing i g with
  | nil => rfl
  | cons o os ih =>
    rw [applyCod, ih, List.mapIdx_cons, List.map_cons, addEdges_cons]
    simp only [Nat.add_zero, Nat.add_assoc, Nat.add_comm 1]

theorem applyCod_zero (bn : GNode) (k : Nat) (cod : Ty) (g : NxGraph) :
    applyCod bn k 0 cod g = addEdges g (codEdges bn k cod) := by
  rw [applyCod_eq]; simp only [Nat.zero_add]; rfl

/-- The edges of the output nodes, drawing.py:887-892. -/
def outEdgesFrom : Nat → List Ob → List GNode → List (GNode × GNode)
  | i, o :: os, w :: ws => (w, .output o i) :: outEdgesFrom (i + 1) os ws
  | _, _, _ => []

theorem addOutputs_cons (i : Nat) (o : Ob) (os : List Ob) (w : GNode) (ws : List GNode)
    (g : NxGraph) (h : w.obj? = some o) :
    addOutputs i (o :: os) (w :: ws) g = addOutputs (i + 1) os ws (g.addEdge w (.output o i)) := by
  rw [addOutputs, h]
  exact if_neg (fun hn => hn rfl)

theorem addOutputs_ok (os : List Ob) (ws : List GNode) (i : Nat) (g : NxGraph)
    (h : ws.map GNode.obj? = os.map some) :
    addOutputs i os ws g = .ok (addEdges g (outEdgesFrom i os ws)) := by
  induction os generalizing ws i g with
  | nil => cases ws <;> rfl
  | cons o os ih =>
    cases ws with
    | nil => simp at h
    | cons w ws =>
      rw [List.map_cons, List.map_cons, List.cons.injEq] at h
      rw [addOutputs_cons _ _ _ _ _ _ h.1, ih ws (i + 1) _ h.2, outEdgesFrom, addEdges_cons]

theorem mem_outEdgesFrom {os : List Ob} {ws : List GNode} {i : Nat} {e : GNode × GNode}
    (h : e ∈ outEdgesFrom i os ws) : ∃ o j w, w ∈ ws ∧ e = (w, .output o j) := by
  induction os generalizing ws i with
  | nil => simp [outEdgesFrom] at h
  | cons o os ih =>
    cases ws with
    | nil => simp [outEdgesFrom] at h
    | cons w ws =>
      simp only [outEdgesFrom, List.mem_cons] at h
      rcases h with rfl | h
      · exact ⟨o, i, w, by simp, rfl⟩
      · obtain ⟨o', j, w', hw, rfl⟩ := ih h
        exact ⟨o', j, w', by simp [hw], rfl⟩

/-! ### One call -/

section
variable {sig : List Box} {scan : List GNode} {c : Call} {off : Nat} (h : c.Takes sig scan off)
include h

theorem Call.Takes.box_mem : c.box ∈ sig := h.1
theorem Call.Takes.types : c.inputs.map GNode.obj? = c.box.dom.map some := h.2.1
theorem Call.Takes.inRange : off + c.inputs.length ≤ scan.length := h.2.2.1
theorem Call.Takes.block : (scan.drop off).take c.inputs.length = c.inputs := h.2.2.2.1
theorem Call.Takes.offset : c.inputs = [] → c.offset = some (off : Int) := h.2.2.2.2

theorem Call.Takes.length : c.inputs.length = c.box.dom.length := length_of_map_obj h.types

end

theorem apply_ok {sig : List Box} {scan : List GNode} {c : Call} {off : Nat} (g : NxGraph) (k : Nat)
    (h : c.Takes sig scan off) :
    apply sig g k c
      = .ok (addEdges (g.addNode (c.node k)) (stepEdges k c.box (OffAttr.ofKw c.offset) c.inputs)) := by
  have hsig := h.box_mem
  have hty := h.types
  have hlen := h.length
  unfold apply
  rw [if_neg (by simpa using hsig), if_neg (by simpa using hlen)]
  rw [applyDom_ok _ _ _ _ _ _ hty]
  simp only [applyCod_zero, stepEdges, addEdges_append, Call.node]

theorem mem_ends {E : List (GNode × GNode)} {v : GNode} :
    v ∈ ends E ↔ ∃ e ∈ E, v = e.1 ∨ v = e.2 := by
  simp only [ends, List.mem_flatMap, List.mem_cons, List.not_mem_nil, or_false]

theorem mem_ends_stepEdges {k : Nat} {b : Box} {a : OffAttr} {ws : List GNode} {v : GNode}
    (h : v ∈ ends (stepEdges k b a ws)) :
    v ∈ ws ∨ v = .box b k a ∨ (v.isInput = false ∧ v.isBox = false) := by
  obtain ⟨e, he, hv⟩ := mem_ends.mp h
  simp only [stepEdges, List.mem_append] at he
  rcases he with he | he
  · rcases mem_domEdges he with ⟨o, j, w, -, hw, rfl⟩ | ⟨o, j, -, rfl⟩
    · rcases hv with rfl | rfl
      · exact Or.inl hw
      · exact Or.inr (Or.inr ⟨rfl, rfl⟩)
    · rcases hv with rfl | rfl
      · exact Or.inr (Or.inr ⟨rfl, rfl⟩)
      · exact Or.inr (Or.inl rfl)
  · simp only [codEdges, List.mem_map] at he
    obtain ⟨w, hw, rfl⟩ := he
    obtain ⟨o, i, rfl, -⟩ := mem_codNodes hw
    rcases hv with rfl | rfl
    · exact Or.inr (Or.inl rfl)
    · exact Or.inr (Or.inr ⟨rfl, rfl⟩)

/-- Box nodes of `g` are older than `k`. -/
def BoxesBelow (g : NxGraph) (k : Nat) : Prop := ∀ b d a, GNode.box b d a ∈ g.nodes → d < k

structure CallStep (g g' : NxGraph) (k : Nat) (c : Call) : Prop where
  edges : g'.edges = insertAll g.edges (stepEdges k c.box (OffAttr.ofKw c.offset) c.inputs)
  inputs : g'.inputs = g.inputs
  boxNodes : g'.boxNodes = g.boxNodes ++ [c.node k]
  below : BoxesBelow g' (k + 1)
  mono : ∀ v ∈ g.nodes, v ∈ g'.nodes
  targets : ∀ e ∈ stepEdges k c.box (OffAttr.ofKw c.offset) c.inputs, e.2 ∈ g'.nodes

theorem callStep {g : NxGraph} {k : Nat} {c : Call}
    (hws : ∀ w ∈ c.inputs, w.isBox = false ∧ (w.isInput = true → w ∈ g.nodes))
    (hb : BoxesBelow g k) :
    CallStep g (addEdges (g.addNode (c.node k)) (stepEdges k c.box (OffAttr.ofKw c.offset) c.inputs))
      k c := by
  have hfresh : c.node k ∉ g.nodes := fun h => Nat.lt_irrefl k (hb _ _ _ h)
  have hmemE : ∀ v ∈ ends (stepEdges k c.box (OffAttr.ofKw c.offset) c.inputs),
      v ∈ c.inputs ∨ v = c.node k ∨ (v.isInput = false ∧ v.isBox = false) :=
    fun v hv => mem_ends_stepEdges hv
  refine ⟨rfl, ?_, ?_, ?_, ?_, ?_⟩
  · show (insertAll (insertNew g.nodes (c.node k)) _).filter GNode.isInput = _
    rw [filter_insertAll_of_subset]
    · rw [filter_insertNew]; simp [Call.node, GNode.isInput, NxGraph.inputs]
    · intro v hv hi
      rcases hmemE v hv with h | rfl | ⟨h, -⟩
      · exact mem_insertNew.mpr (Or.inl ((hws v h).2 hi))
      · cases hi
      · rw [h] at hi; cases hi
  · show (insertAll (insertNew g.nodes (c.node k)) _).filter GNode.isBox = _
    rw [filter_insertAll_of_subset]
    · rw [filter_insertNew]
      have : c.node k ∉ g.nodes.filter GNode.isBox := fun h => hfresh (List.mem_filter.mp h).1
      simp [Call.node, GNode.isBox, insertNew, NxGraph.boxNodes] at this ⊢
      simp [this]
    · intro v hv hi
      rcases hmemE v hv with h | rfl | ⟨-, h⟩
      · rw [(hws v h).1] at hi; cases hi
      · exact mem_insertNew.mpr (Or.inr rfl)
      · rw [h] at hi; cases hi
  · intro b d a h
    have h' : GNode.box b d a ∈ insertAll (insertNew g.nodes (c.node k)) _ := h
    have hk : GNode.box b d a = c.node k → d < k + 1 := fun e => by
      simp only [Call.node] at e; injection e with _ h2 _; omega
    rcases mem_insertAll.mp h' with h' | h'
    · rcases mem_insertNew.mp h' with h' | h'
      · exact Nat.lt_succ_of_lt (hb _ _ _ h')
      · exact hk h'
    · rcases hmemE _ h' with h'' | e | ⟨-, h''⟩
      · cases (hws _ h'').1
      · exact hk e
      · cases h''
  · intro v hv
    exact mem_insertAll.mpr (Or.inl (mem_insertNew.mpr (Or.inl hv)))
  · intro e he
    refine mem_insertAll.mpr (Or.inr (mem_ends.mpr ⟨e, he, Or.inr rfl⟩))

/-! ### All calls -/

/-- The edges of the calls `k, k+1, …`. -/
def callsEdges : Nat → List Call → List (GNode × GNode)
  | _, [] => []
  | k, c :: cs => stepEdges k c.box (OffAttr.ofKw c.offset) c.inputs ++ callsEdges (k + 1) cs

def stepsOf (calls : List Call) : List (Box × OffAttr) :=
  calls.map (fun c => (c.box, OffAttr.ofKw c.offset))

/-- What is known about the graph after the calls `k, k+1, …` of a planar body. -/
structure CallsRun (g g' : NxGraph) (k : Nat) (calls : List Call) : Prop where
  edges : g'.edges = insertAll g.edges (callsEdges k calls)
  inputs : g'.inputs = g.inputs
  boxNodes : g'.boxNodes = g.boxNodes ++ boxNodesFrom k (stepsOf calls)
  mono : ∀ v ∈ g.nodes, v ∈ g'.nodes
  targets : ∀ e ∈ callsEdges k calls, e.2 ∈ g'.nodes

/-- The invariant on the open wires here speaks of the graph under construction (its parameters
    are already nodes of `g`), which `GNode.OpenAt` cannot say; of `OpenAt` it keeps only the
    consequence that an open wire is no box node. -/
theorem runCalls_planar (sig : List Box) :
    ∀ (calls : List Call) (scan : List GNode) (k : Nat) (offs : List Nat) (fin : List GNode)
      (g : NxGraph), PlanarFrom sig scan k calls offs fin →
      (∀ v ∈ scan, v.isBox = false ∧ (v.isInput = true → v ∈ g.nodes)) → BoxesBelow g k →
      ∃ g', runCalls sig g k calls = .ok g' ∧ CallsRun g g' k calls
        ∧ (∀ v ∈ fin, v.isBox = false ∧ (v.isInput = true → v ∈ g'.nodes)) := by
  intro calls
  induction calls with
  | nil =>
    intro scan k offs fin g hp hs hb
    cases offs with
    | nil =>
      simp only [PlanarFrom] at hp
      subst hp
      exact ⟨g, rfl, ⟨rfl, rfl, by simp [stepsOf, boxNodesFrom], fun v h => h,
        fun e he => by simp [callsEdges] at he⟩, hs⟩
    | cons o offs => simp [PlanarFrom] at hp
  | cons c cs ih =>
    intro scan k offs fin g hp hs hb
    cases offs with
    | nil => simp [PlanarFrom] at hp
    | cons off offs =>
      obtain ⟨ht, hrest⟩ := hp
      have hblock := ht.block
      have hws : ∀ w ∈ c.inputs, w.isBox = false ∧ (w.isInput = true → w ∈ g.nodes) := by
        intro w hw
        rw [← hblock] at hw
        exact hs w (List.mem_of_mem_drop (List.mem_of_mem_take hw))
      have hstep := callStep hws hb
      have hs1 : ∀ v ∈ nextOpen scan off c.inputs.length c.box.cod k, v.isBox = false ∧
          (v.isInput = true → v ∈ (addEdges (g.addNode (c.node k))
            (stepEdges k c.box (OffAttr.ofKw c.offset) c.inputs)).nodes) := by
        intro v hv
        rcases mem_nextOpen hv with hv | ⟨o, i, rfl⟩
        · exact ⟨(hs v hv).1, fun hi => hstep.mono v ((hs v hv).2 hi)⟩
        · exact ⟨rfl, fun hi => by cases hi⟩
      obtain ⟨g', hrun, hcr, hfin⟩ := ih _ (k + 1) offs fin _ hrest hs1 hstep.below
      refine ⟨g', ?_, ⟨?_, ?_, ?_, ?_, ?_⟩, hfin⟩
      · simp only [runCalls, apply_ok g k ht]; exact hrun
      · rw [hcr.edges, hstep.edges, callsEdges, insertAll_append]
      · rw [hcr.inputs, hstep.inputs]
      · rw [hcr.boxNodes, hstep.boxNodes]
        simp [stepsOf, boxNodesFrom, Call.node]
      · exact fun v hv => hcr.mono v (hstep.mono v hv)
      · intro e he
        simp only [callsEdges, List.mem_append] at he
        rcases he with he | he
        · exact hcr.mono _ (hstep.targets e he)
        · exact hcr.targets e he

/-! ### From `PlanarFrom` to the vocabulary of Proofs/NxEdges.lean -/

theorem planarSteps_of_planarFrom (sig : List Box) (calls : List Call) (scan : List GNode)
    (k : Nat) (offs : List Nat) (fin : List GNode) (hp : PlanarFrom sig scan k calls offs fin) :
    PlanarSteps scan k (stepsOf calls) offs fin
      ∧ stepsEdges scan k (stepsOf calls) offs = callsEdges k calls := by
  induction calls generalizing scan k offs with
  | nil =>
    cases offs with
    | nil => exact ⟨hp, rfl⟩
    | cons o offs => exact hp.elim
  | cons c cs ih =>
    cases offs with
    | nil => exact hp.elim
    | cons off offs =>
      obtain ⟨ht, hrest⟩ := hp
      have hlen := ht.length
      have hty := ht.types
      have hrange := ht.inRange
      have hblock := ht.block
      have hoff := ht.offset
      rw [hlen] at hrest hrange hblock
      obtain ⟨h1, h2⟩ := ih _ (k + 1) offs hrest
      refine ⟨⟨hrange, by rw [hblock]; exact hty, ?_, h1⟩, ?_⟩
      · intro hd
        have hin : c.inputs = [] :=
          List.length_eq_zero_iff.mp (by rw [hlen, show c.box.dom = [] from hd]; rfl)
        show (OffAttr.ofKw c.offset).get = _
        rw [hoff hin]; rfl
      · simp only [stepsOf, List.map_cons, stepsEdges, callsEdges]
        rw [hblock]
        exact congrArg _ h2

/-- For every body that is planar in the sense of the specification `PlanarFrom` (with offsets
    `offs`, returning wires of the types `cod`): `diagramize` succeeds, and the diagram is well
    typed from `dom` to `cod` with the called boxes in program order at the offsets `offs`. -/
theorem diagramize_planar {sig : List Box} {hasId : Bool} {dom cod : Ty} {body : Body}
    {offs : List Nat} (hid : hasId = true ∨ sig ≠ [])
    (hp : PlanarFrom sig (inputNodes dom) 0 body.calls offs body.ret)
    (hcod : body.ret.map GNode.obj? = cod.map some) :
    ∃ d, diagramize sig hasId dom cod body = .ok d ∧ d.WF ∧ d.dom = dom ∧ d.cod = cod
      ∧ d.boxes = body.calls.map (·.box) ∧ d.offsets = offs.map (fun (o : Nat) => (o : Int)) := by
  have hs0 : ∀ v ∈ inputNodes dom, v.isBox = false ∧ (v.isInput = true → v ∈ (initGraph dom).nodes) :=
    fun v hv => ⟨(inputNodes_open dom v hv).notBox, fun _ => hv⟩
  have hb0 : BoxesBelow (initGraph dom) 0 := by
    intro b d a h
    have := (inputNodes_open dom _ h)
    simp [GNode.OpenAt] at this
  obtain ⟨g, hrun, hcr, hfin⟩ :=
    runCalls_planar sig body.calls (inputNodes dom) 0 offs body.ret (initGraph dom) hp hs0 hb0
  obtain ⟨hps, hse⟩ := planarSteps_of_planarFrom sig body.calls (inputNodes dom) 0 offs body.ret hp
  -- the graph handed to `nx2diagram`
  have hbg : bodyGraph sig dom cod body = .ok (addEdges g (outEdgesFrom 0 cod body.ret)) := by
    unfold bodyGraph
    rw [hrun]
    exact addOutputs_ok cod body.ret 0 g hcod
  have houtE : ∀ v ∈ ends (outEdgesFrom 0 cod body.ret),
      v ∈ body.ret ∨ ∃ o j, v = .output o j := by
    intro v hv
    obtain ⟨e, he, hv⟩ := mem_ends.mp hv
    obtain ⟨o, j, w, hw, rfl⟩ := mem_outEdgesFrom he
    rcases hv with rfl | rfl
    · exact Or.inl hw
    · exact Or.inr ⟨o, j, rfl⟩
  have hin : (addEdges g (outEdgesFrom 0 cod body.ret)).inputs = inputNodes dom := by
    show (insertAll g.nodes _).filter GNode.isInput = _
    rw [filter_insertAll_of_subset]
    · exact hcr.inputs.trans (inputNodes_filter_isInput dom)
    · intro v hv hi
      rcases houtE v hv with h | ⟨o, j, rfl⟩
      · exact (hfin v h).2 hi
      · simp [GNode.isInput] at hi
  have hbx : (addEdges g (outEdgesFrom 0 cod body.ret)).boxNodes
      = boxNodesFrom 0 (stepsOf body.calls) := by
    show (insertAll g.nodes _).filter GNode.isBox = _
    rw [filter_insertAll_of_subset]
    · exact hcr.boxNodes.trans (by rw [show (initGraph dom).boxNodes = [] from
        inputNodes_filter_isBox dom, List.nil_append])
    · intro v hv hi
      rcases houtE v hv with h | ⟨o, j, rfl⟩
      · rw [(hfin v h).1] at hi; cases hi
      · simp [GNode.isBox] at hi
  have hview : EdgeView (addEdges g (outEdgesFrom 0 cod body.ret))
      (stepsEdges (inputNodes dom) 0 (stepsOf body.calls) offs ++ outEdgesFrom 0 cod body.ret) := by
    rw [hse]
    constructor
    · intro p hn
      show (insertAll g.edges _).filter p = _
      rw [hcr.edges, ← insertAll_append, filter_insertAll]
      exact (insertAll_fresh (xs := []) hn fun _ _ h => nomatch h).trans (List.nil_append _)
    · intro e he
      rcases List.mem_append.mp he with he | he
      · exact mem_insertAll.mpr (Or.inl (hcr.targets e he))
      · exact mem_insertAll.mpr (Or.inr (mem_ends.mpr ⟨e, he, Or.inr rfl⟩))
  have hpost : ∀ e ∈ outEdgesFrom 0 cod body.ret, ∀ j, Avoids j e := by
    intro e he j
    obtain ⟨o, i, w, hw, rfl⟩ := mem_outEdgesFrom he
    refine ⟨fun o' j' e => (by cases e), fun b a e => ?_⟩
    have := (hfin w hw).1
    simp only at e; rw [e] at this; simp [GNode.isBox] at this
  obtain ⟨d, hd, hwf, hdom, hdc, hboxes, hoffs⟩ := nx2diagram_of_view hin hbx hview hpost hps
  have hdcod : d.cod = cod := by
    rw [hcod] at hdc
    exact (map_some_inj hdc).symm
  refine ⟨d, ?_, hwf, hdom, hdcod, ?_, hoffs⟩
  · unfold diagramize
    have hne : (!hasId && sig.isEmpty) = false := by
      rcases hid with h | h
      · simp [h]
      · cases sig with
        | nil => exact absurd rfl h
        | cons b bs => simp
    rw [hne]
    simp only [Bool.false_eq_true, if_false, hbg, hd, checkCod, hdcod, ne_eq, not_true_eq_false]
  · rw [hboxes]; simp [stepsOf]

/-! ### The decision procedure and the open wires before each call -/

theorem planarOffsets_sound (sig : List Box) (calls : List Call) (scan : List GNode) (k : Nat)
    (ret : List GNode) (offs : List Nat) (h : planarOffsets sig scan k calls ret = some offs) :
    PlanarFrom sig scan k calls offs ret := by
  induction calls generalizing scan k offs with
  | nil =>
    simp only [planarOffsets] at h
    split at h
    · rename_i e; cases h; exact e
    · cases h
  | cons c cs ih =>
    simp only [planarOffsets] at h
    split at h
    · cases h
    · rename_i off _
      split at h
      · rename_i ht
        cases hr : planarOffsets sig (nextOpen scan off c.inputs.length c.box.cod k) (k + 1) cs ret with
        | none => rw [hr] at h; cases h
        | some offs' =>
          rw [hr] at h
          simp only [Option.map_some, Option.some.injEq] at h
          subst h
          exact ⟨ht, ih _ _ _ hr⟩
      · cases h

theorem planarFrom_openBefore (sig : List Box) (calls : List Call) (scan : List GNode)
    (depth : Nat) (offs : List Nat) (fin : List GNode)
    (hp : PlanarFrom sig scan depth calls offs fin) :
    (∀ (k : Nat) (c : Call) (off : Nat), calls[k]? = some c → offs[k]? = some off →
        c.Takes sig (openBefore scan depth calls offs k) off)
      ∧ openBefore scan depth calls offs calls.length = fin := by
  induction calls generalizing scan depth offs with
  | nil =>
    cases offs with
    | nil => exact ⟨fun k c off h => by simp at h, hp⟩
    | cons o offs => exact hp.elim
  | cons c cs ih =>
    cases offs with
    | nil => exact hp.elim
    | cons off offs =>
      obtain ⟨ht, hrest⟩ := hp
      obtain ⟨h1, h2⟩ := ih _ (depth + 1) offs hrest
      refine ⟨?_, by simpa [openBefore] using h2⟩
      intro k c' off' hc ho
      cases k with
      | zero => cases hc; cases ho; exact ht
      | succ k => exact h1 k c' off' hc ho

theorem openBefore_nodup :
    ∀ (calls : List Call) (scan : List GNode) (depth : Nat) (offs : List Nat) (k : Nat),
      scan.Nodup → (∀ v ∈ scan, GNode.OpenAt depth v) →
      (openBefore scan depth calls offs k).Nodup := by
  intro calls
  induction calls with
  | nil => intro scan depth offs k hn _; cases k <;> simpa [openBefore] using hn
  | cons c cs ih =>
    intro scan depth offs k hn ho
    cases k with
    | zero => simpa [openBefore] using hn
    | succ k =>
      cases offs with
      | nil => simpa [openBefore] using hn
      | cons off offs =>
        simp only [openBefore]
        exact ih _ (depth + 1) offs k (nextOpen_nodup hn ho _ _ _) (nextOpen_open ho _ _ _)

/-- The offset of a call with arguments is the position of its first argument among the wires
    that are open when it is made. -/
theorem planar_first_arg_index {sig : List Box} {dom : Ty} {calls : List Call} {offs : List Nat}
    {fin : List GNode} (hp : PlanarFrom sig (inputNodes dom) 0 calls offs fin) {k : Nat} {c : Call}
    {off : Nat} {w : GNode} (hc : calls[k]? = some c) (ho : offs[k]? = some off)
    (hw : c.inputs[0]? = some w) :
    (openBefore (inputNodes dom) 0 calls offs k).idxOf w = off := by
  have ht := (planarFrom_openBefore sig calls _ 0 offs fin hp).1 k c off hc ho
  have hn := openBefore_nodup calls (inputNodes dom) 0 offs k (inputNodes_nodup dom)
    (inputNodes_open dom)
  have hrange := ht.inRange
  have hblock := ht.block
  generalize openBefore (inputNodes dom) 0 calls offs k = sc at hn hrange hblock
  have hpos : 0 < c.inputs.length := (List.getElem?_eq_some_iff.mp hw).1
  have hl : off < sc.length := by omega
  have : sc[off]? = some w := by
    have := congrArg (fun l => l[0]?) hblock
    simp only [List.getElem?_take_of_lt hpos, List.getElem?_drop, Nat.add_zero] at this
    rw [this, hw]
  rw [List.getElem?_eq_getElem hl] at this
  injection this with this
  rw [← this]
  exact hn.idxOf_getElem off hl

end DV.Dz
