/-
  Proofs/CatFunctor.lean — functoriality at the level of the free category: `cat.Functor.__call__`
  on a plain `cat.Arrow` (cat.py:880, `id(F(dom)).then(*map(F, arrow))`, Model/CatArrow.lean
  `CFunctor.applyArrow`) for box maps whose images are plain arrows.

  The monoidal and rigid functors never reach this branch (they have their own loop); it is the one
  a functor of the free category runs.  Proved: the closed form of the image (its boxes are the
  boxes of the box images one after the other), `F(Id(x)) = Id(F(x))`, `F(a >> b) = F(a) >> F(b)`
  and its n-ary form.
-/
import Proofs.CatArrow

namespace DV

theorem AJunctions_append {c : Ty} {xs ys : List LArrow} :
    AJunctions c (xs ++ ys) ↔ AJunctions c xs ∧ AJunctions (alastCod c xs) ys := by
  induction xs generalizing c with
  | nil => simp [AJunctions, alastCod]
  | cons x xs ih => simp [AJunctions, alastCod, ih, and_assoc]

theorem alastCod_append {c : Ty} {xs ys : List LArrow} :
    alastCod c (xs ++ ys) = alastCod (alastCod c xs) ys := by
  induction xs generalizing c with
  | nil => simp [alastCod]
  | cons x xs ih => simp [alastCod, ih]

theorem CFunctor.images_append {F : CFunctor} {xs ys : List Layer} {ix iy : List LArrow}
    (hx : F.images xs = .ok ix) (hy : F.images ys = .ok iy) :
    F.images (xs ++ ys) = .ok (ix ++ iy) := by
  induction xs generalizing ix with
  | nil => cases hx; exact hy
  | cons l ls ih =>
    obtain ⟨x, zs, hb, hzs, rfl⟩ := F.images_cons_ok.mp hx
    exact F.images_cons_ok.mpr ⟨x, zs ++ iy, hb, ih hzs, rfl⟩

/-- The image in closed form: from the image of the domain to the codomain of the last box image,
    the boxes of the box images one after the other. -/
theorem CFunctor.applyArrow_eq {F : CFunctor} {a r : LArrow} (h : F.applyArrow a = .ok r) :
    ∃ t imgs, F.obj a.dom = .ok t ∧ F.images a.boxes = .ok imgs ∧ AJunctions t imgs ∧
      r = ⟨t, alastCod t imgs, (imgs.map (·.boxes)).flatten⟩ := by
  obtain ⟨t, imgs, ht, hi, hr⟩ := F.applyArrow_inv h
  obtain ⟨hj, hr⟩ := LArrow.thenN_ok hr
  exact ⟨t, imgs, ht, hi, hj, by simpa [LArrow.id] using hr⟩

theorem CFunctor.applyArrow_of {F : CFunctor} {a : LArrow} {t : Ty} {imgs : List LArrow}
    (ht : F.obj a.dom = .ok t) (hi : F.images a.boxes = .ok imgs) (hj : AJunctions t imgs) :
    F.applyArrow a = .ok ⟨t, alastCod t imgs, (imgs.map (·.boxes)).flatten⟩ := by
  obtain ⟨r, hr⟩ := (F.applyArrow_ok_iff a).mpr ⟨t, imgs, ht, hi, hj⟩
  obtain ⟨t', imgs', ht', hi', _, rfl⟩ := F.applyArrow_eq hr
  rw [ht] at ht'; rw [hi] at hi'
  cases ht'; cases hi'
  exact hr

/-- `F(Id(x)) = Id(F(x))`. -/
theorem CFunctor.applyArrow_id {F : CFunctor} {t t' : Ty} (h : F.obj t = .ok t') :
    F.applyArrow (LArrow.id t) = .ok (LArrow.id t') := by
  simp [CFunctor.applyArrow, LArrow.id, h, CFunctor.images, LArrow.thenN]

/-- `F(a >> b) = F(a) >> F(b)`: the composite of the images is accepted and is the image of the
    composite (the box images of `a` typed `F(dom) → F(cod)`). -/
theorem CFunctor.applyArrow_then {F : CFunctor} {a b ab fa fb : LArrow} (ha : a.WF)
    (hok : ∀ l ∈ a.boxes, F.okOn l) (hab : a.then b = .ok ab)
    (hfa : F.applyArrow a = .ok fa) (hfb : F.applyArrow b = .ok fb) :
    ∃ r, fa.then fb = .ok r ∧ F.applyArrow ab = .ok r := by
  obtain ⟨ta, ia, hta, hia, hja, rfl⟩ := F.applyArrow_eq hfa
  obtain ⟨tb, ib, htb, hib, hjb, rfl⟩ := F.applyArrow_eq hfb
  obtain ⟨hc, rfl⟩ := LArrow.then_ok hab
  obtain ⟨_, hcod⟩ := F.images_chain ha hta hok hia
  rw [hc, htb] at hcod
  cases hcod
  refine ⟨_, LArrow.then_eq_ok rfl, ?_⟩
  have hj : AJunctions ta (ia ++ ib) := AJunctions_append.mpr ⟨hja, hjb⟩
  have := F.applyArrow_of (a := ⟨a.dom, b.cod, a.boxes ++ b.boxes⟩) hta
    (F.images_append hia hib) hj
  rw [this]
  simp [alastCod_append]

/-- `fbs` lists the images of the arrows `bs`, in order. -/
def CFunctor.ImagesOf (F : CFunctor) : List LArrow → List LArrow → Prop
  | [], [] => True
  | b :: bs, fb :: fbs => F.applyArrow b = .ok fb ∧ F.ImagesOf bs fbs
  | _, _ => False

/-- The n-ary form, `F(a.then(b₁, …, bₙ)) = F(a).then(F(b₁), …, F(bₙ))`. -/
theorem CFunctor.applyArrow_thenN {F : CFunctor} {a d fa : LArrow} {bs fbs : List LArrow}
    (ha : a.WF) (hbs : ∀ b ∈ bs, b.WF)
    (hok : ∀ l ∈ a.boxes, F.okOn l) (hoks : ∀ b ∈ bs, ∀ l ∈ b.boxes, F.okOn l)
    (h : a.thenN bs = .ok d) (hfa : F.applyArrow a = .ok fa) (hfbs : F.ImagesOf bs fbs) :
    ∃ r, fa.thenN fbs = .ok r ∧ F.applyArrow d = .ok r := by
  induction bs generalizing a fa fbs with
  | nil =>
    cases fbs with
    | nil => simp only [LArrow.thenN, Except.ok.injEq] at h; subst h; exact ⟨fa, rfl, hfa⟩
    | cons _ _ => simp [CFunctor.ImagesOf] at hfbs
  | cons b bs' ih =>
    cases fbs with
    | nil => simp [CFunctor.ImagesOf] at hfbs
    | cons fb fbs' =>
      obtain ⟨hb, hrest⟩ := hfbs
      simp only [LArrow.thenN] at h
      split at h
      · cases h
      · rename_i x hx
        obtain ⟨r1, hr1, hF1⟩ := F.applyArrow_then ha hok hx hfa hb
        have hbw : b.WF := hbs b (List.mem_cons_self ..)
        have hxw : x.WF := LArrow.then_wf ha hbw hx
        obtain ⟨_, rfl⟩ := LArrow.then_ok hx
        have hokx : ∀ l ∈ (⟨a.dom, b.cod, a.boxes ++ b.boxes⟩ : LArrow).boxes, F.okOn l := by
          intro l hl
          rcases List.mem_append.mp hl with hl | hl
          · exact hok l hl
          · exact hoks b (List.mem_cons_self ..) l hl
        obtain ⟨r, hr, hF⟩ := ih hxw (fun b' hb' => hbs b' (List.mem_cons_of_mem _ hb')) hokx
          (fun b' hb' => hoks b' (List.mem_cons_of_mem _ hb')) h hF1 hrest
        exact ⟨r, by simp only [LArrow.thenN, hr1, hr], hF⟩

end DV
