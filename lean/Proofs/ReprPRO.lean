/-
  Proofs/ReprPRO.lean — the PRO types (Model/ReprPRO.lean): equality, printed form (whose injectivity
  is what `hash(repr(self))` needs), `upgrade` on tensors and slices.
-/
import Model.ReprPRO
import Std.Data.String.ToInt

namespace DV

theorem proTy_length (n : Nat) : (proTy n).length = n := by simp [proTy]

/-- `PRO(m) == PRO(n)` (monoidal.Ty.__eq__ on the objects) exactly when `m = n`. -/
theorem proTy_eq_iff (m n : Nat) : proTy m = proTy n ↔ m = n := by
  constructor
  · intro h
    have := congrArg List.length h
    simpa [proTy_length] using this
  · intro h; rw [h]

theorem reprPRO_eq (t : Ty) : reprPRO t = "PRO(" ++ toString (t.length : Int) ++ ")" := by
  simp [reprPRO, reprTPRO, RT.render, RT.renderArgs, RT.int]

/-- Equal PRO values print alike. -/
theorem reprPRO_congr {s t : Ty} (h : s = t) : reprPRO s = reprPRO t := by rw [h]

/-- The printed form determines the PRO type. -/
theorem reprPRO_inj {m n : Nat} (h : reprPRO (proTy m) = reprPRO (proTy n)) : m = n := by
  rw [reprPRO_eq, reprPRO_eq, proTy_length, proTy_length] at h
  have h1 := congrArg String.toList h
  simp only [String.toList_append, List.append_assoc] at h1
  have h3 := String.toList_inj.mp (List.append_cancel_right (List.append_cancel_left h1))
  rw [Int.toString_eq_repr, Int.toString_eq_repr] at h3
  exact Int.ofNat.inj (Int.repr_injective h3)

theorem proUpgrade_proTy (n : Nat) : proUpgrade (proTy n) = .ok n := by
  unfold proUpgrade
  have : (proTy n).all (fun x => x.name == "1") = true := by
    simp [proTy, proOb, List.all_replicate]
  rw [this]; simp [proTy_length]

/-- Every slice of a PRO type is a PRO type (never a `TypeError`). -/
theorem proSlice_ok (n : Nat) (i j : Option Int) :
    proSlice n i j = .ok (pySlice (proTy n) i j).length := by
  unfold proSlice proUpgrade
  have : (pySlice (proTy n) i j).all (fun x => x.name == "1") = true := by
    rw [List.all_eq_true]
    intro x hx
    have hx' : x ∈ proTy n := by
      unfold pySlice at hx
      exact List.mem_of_mem_drop (List.mem_of_mem_take hx)
    have : x = proOb := List.eq_of_mem_replicate hx'
    subst this; rfl
  rw [this]; rfl

end DV
