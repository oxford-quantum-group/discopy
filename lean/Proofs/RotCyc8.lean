/-
  Proofs/RotCyc8.lean — the rotations of the executable model at every exactly representable phase: the phase
  index `n : ℤ` (phase `n/8`) is even unless the kind is CU1.  Only `U U† = 1` (`rotArr_unitary`) holds for every `n`;
  the dagger by negated index, `U† U = 1` (`rotArr_neg`, `rotArr_counitary`) need `k = .CU1 ∨ n % 2 = 0`, the
  soundness of the corrected `gate2zx` (`gate2zx_rot_sound`) needs `n % 2 = 0` and `k ≠ .Ry`.

  `rotArr k n` (Model/Gates.lean) is the generic array of the kind `k` (`rotOf`) at the elements
      i = ζ²,  c = cosQ (n/2),  s = sinQ (n/2),  ν = ζ^(n/2),  ν' = ζ^(−n/2),  μ = ζ^n
  of `Cyc8`.  Their images in ℚ(ζ₈) satisfy the hypotheses of the symbolic theorems of Proofs/Gates.lean
  (`phaseRel_val`), so unitarity, the dagger by negated phase and the soundness of the corrected `gate2zx`
  are those theorems, read in ℚ(ζ₈) and pulled back along `Cyc8.val` (`eq_of_val`).
-/
import Proofs.CircuitCyc8

namespace DV.Gates
open DV

/-- The array of a rotation of kind `k` from the ring elements through which its phase enters
    (gates.py:381-490). -/
def rotOf {R : Type} [Zero R] [One R] [Mul R] [Neg R] (k : RotKind) (i c s ν ν' μ : R) : Mat R :=
  match k with
  | .Rx => rx i c s
  | .Ry => ry c s
  | .Rz => rz ν ν'
  | .CU1 => cu1 μ
  | .CRz => crz ν ν'
  | .CRx => crx i c s

theorem rotArr_eq (k : RotKind) (n : Int) :
    rotArr k n = rotOf k Cyc8.I (cosQ (n / 2)) (sinQ (n / 2)) (Cyc8.zetaPow (n / 2))
      (Cyc8.zetaPow (-(n / 2))) (Cyc8.zetaPow n) := by
  cases k <;> rfl

section Hom
variable {R S : Type} [Zero R] [One R] [Add R] [Mul R] [Neg R] [Conj R]
variable [Zero S] [One S] [Add S] [Mul S] [Neg S] [Conj S]

theorem mapM_rotOf {f : R → S} (hf : IsHom f) (k : RotKind) (i c s ν ν' μ : R) :
    mapM f (rotOf k i c s ν ν' μ) = rotOf k (f i) (f c) (f s) (f ν) (f ν') (f μ) := by
  cases k <;> simp [mapM, rotOf, rx, ry, ryFixed, ryAsIs, rz, cu1, crz, crx, hf.zero, hf.one, hf.mul, hf.neg]
  split <;> simp [hf.neg]

theorem AllEnt.rotOf {P : R → Prop} (hP : IsClosed P) (k : RotKind) {i c s ν ν' μ : R}
    (hi : P i) (hc : P c) (hs : P s) (hν : P ν) (hν' : P ν') (hμ : P μ) :
    AllEnt P (rotOf k i c s ν ν' μ) := by
  have h0 := hP.zero
  have h1 := hP.one
  have hns := hP.neg hs
  have his := hP.neg (hP.mul hi hs)
  cases k <;> simp only [DV.Gates.rotOf, rx, ry, ryFixed, ryAsIs, rz, cu1, crz, crx, apply_ite (AllEnt P)] <;>
    simp only [AllEnt, List.forall_mem_cons, List.not_mem_nil, false_imp_iff, implies_true, h0, h1, hc, hs, hns,
      his, hν, hν', hμ, and_self, ite_self]

end Hom

/-! ### the symbolic theorems of Proofs/Gates.lean, one statement for the six kinds -/

section Star
variable {R : Type} [CommRing R] [StarRing R]

/-- What the symbolic theorems assume of `i`, `c = cos πφ`, `s = sin πφ`, `ν = e^{iπφ}`, `ν' = ν⁻¹`,
    `μ = e^{2πiφ}`, `μ' = μ⁻¹` (true in ℂ for every real `φ`). -/
structure PhaseRel (i c s ν ν' μ μ' : R) : Prop where
  i_sq : i * i = -1
  cs : c * c + s * s = 1
  ν_unit : ν * ν' = 1
  μ_unit : μ * μ' = 1
  star_i : star i = -i
  star_c : star c = c
  star_s : star s = s
  star_ν : star ν = ν'
  star_ν' : star ν' = ν
  star_μ : star μ = μ'

variable {i c s ν ν' μ μ' : R}

theorem rotOf_unitary (h : PhaseRel i c s ν ν' μ μ') (k : RotKind) :
    mul (rotOf k i c s ν ν' μ) (dagger (rotOf k i c s ν ν' μ)) = identity (pow2 k.nq) := by
  cases k
  · exact (rx_unitary i c s h.i_sq h.cs h.star_c h.star_s h.star_i).1
  · simp only [rotOf, ry]
    split
    · exact (ry_unitary c s h.cs h.star_c h.star_s).2
    · exact (ry_unitary c s h.cs h.star_c h.star_s).1
  · exact (rz_unitary ν ν' h.ν_unit h.star_ν h.star_ν').1
  · exact cu1_unitary μ μ' h.μ_unit h.star_μ
  · exact crz_unitary ν ν' h.ν_unit h.star_ν h.star_ν'
  · exact crx_unitary i c s h.i_sq h.cs h.star_c h.star_s h.star_i

/-- Dagger by negated phase (gates.py:361-362): `cos` is even, `sin` odd, `ν` and `μ` are inverted. -/
theorem rotOf_dagger (h : PhaseRel i c s ν ν' μ μ') (k : RotKind) :
    rotOf k i c (-s) ν' ν μ' = dagger (rotOf k i c s ν ν' μ) := by
  cases k
  · exact rx_dagger i c s h.star_c h.star_s h.star_i
  · simp only [rotOf, ry]
    split
    · exact (ry_dagger c s h.star_c h.star_s).2
    · exact (ry_dagger c s h.star_c h.star_s).1
  · exact rz_dagger ν ν' h.star_ν h.star_ν'
  · exact cu1_dagger μ μ' h.star_μ
  · exact crz_dagger ν ν' h.star_ν h.star_ν'
  · exact crx_dagger i c s h.star_c h.star_s h.star_i

end Star

section Ring
variable {R : Type} [CommRing R]

/-- The corrected image of a rotation under `gate2zx` (zx.py:374-384; `Ry` has none) from `ν = e^{iπφ}`,
    `ν' = ν⁻¹`: a spider of phase `φ` carries `ν·ν`, one of phase `±φ/2` carries `ν`, `ν'`. -/
def zxRotOf (k : RotKind) (ν ν' : R) : ZXD R :=
  match k with
  | .Rz => zxRz ν
  | .Rx => zxRx ν
  | .CRz => zxCRzFixed ν ν'
  | .CRx => zxCRxFixed ν ν'
  | .CU1 => zxCU1Fixed ν ν'
  | .Ry => []

/-- The scalar by which the image exceeds the gate: `e^{iπφ}` for Rz, Rx and `1/√2` for CRz, CRx, CU1. -/
def zxRotScalar {R : Type} (k : RotKind) (r ν : R) : R :=
  match k with
  | .Rz | .Rx => ν
  | _ => r

theorem zxRotScalar_cases {R : Type} (P : R → Prop) (k : RotKind) {r ν : R} (hr : P r) (hν : P ν) :
    P (zxRotScalar k r ν) := by
  cases k <;> assumption

theorem zxRotOf_sound (k : RotKind) (hk : k ≠ .Ry) (r i c s ν ν' : R) (hr : 2 * r * r = 1) (hν : ν * ν' = 1)
    (hc : 2 * c = ν + ν') (hs : 2 * i * s = ν - ν') :
    evalZX r k.nq (zxRotOf k ν ν') = msmul (zxRotScalar k r ν) (rotOf k i c s ν ν' (ν * ν)) := by
  cases k
  · exact zxRx_sound r i c s ν ν' hr hν hc hs
  · exact absurd rfl hk
  · exact zxRz_sound r ν ν' hν
  · exact zxCU1Fixed_sound r ν ν' hr hν
  · exact zxCRzFixed_sound r ν ν' hr hν
  · exact zxCRxFixed_sound r i c s ν ν' hr hν hc hs

end Ring

section Constants
open Cyc8

theorem Cyc8.two_val_invSqrt2_sq : 2 * val invSqrt2 * val invSqrt2 = 1 := by
  have h : val (invSqrt2 * invSqrt2 + invSqrt2 * invSqrt2) = val 1 := congrArg val (by decide)
  rw [val_add, val_mul, val_one] at h
  linear_combination h

theorem Cyc8.two_val_half : 2 * val half = 1 := by
  have h : val (half + half) = val 1 := congrArg val (by decide)
  rw [val_add, val_one] at h
  linear_combination h

theorem Cyc8.val_I_sq : val I * val I = -1 := by
  have h : val (I * I) = val (-1) := congrArg val (by decide)
  rwa [val_mul, val_neg, val_one] at h

theorem Cyc8.star_val_I : star (val I) = -val I := by
  rw [← val_conj, ← val_neg]; exact congrArg val (by decide)

theorem Cyc8.star_val_half : star (val half) = val half := by
  rw [← val_conj]; rfl

/-- `ζ^a · conj ζ^a = 1`: a table over the eight powers. -/
theorem Cyc8.zetaPow_mul_conj (a : Int) : zetaPow a * (zetaPow a).conj = 1 := by
  have tab : ∀ j : Fin 8, zetaPowNat j.val * (zetaPowNat j.val).conj = 1 := by decide
  exact tab ⟨(a % 8).toNat, by omega⟩

theorem Cyc8.zetaPow_mul_neg (a : Int) : zetaPow a * zetaPow (-a) = 1 := by
  rw [Cyc8.zetaPow_neg, Cyc8.zetaPow_mul_conj]

theorem Cyc8.zetaPow_sq (a : Int) : zetaPow a * zetaPow a = zetaPow (2 * a) := by
  have tab : ∀ j : Fin 8, zetaPowNat j.val * zetaPowNat j.val = zetaPowNat (2 * j.val % 8) := by decide
  have := tab ⟨(a % 8).toNat, by omega⟩
  simp only at this
  unfold zetaPow
  rw [this]
  congr 1
  omega

theorem Cyc8.val_zetaPow_unit (a : Int) : val (zetaPow a) * val (zetaPow (-a)) = 1 := by
  rw [← val_mul, Cyc8.zetaPow_mul_neg, val_one]

theorem Cyc8.star_val_zetaPow (a : Int) : star (val (zetaPow a)) = val (zetaPow (-a)) := by
  rw [Cyc8.zetaPow_neg, val_conj]

theorem isNormal_cosQ (q : Int) : (cosQ q).isNormal = true :=
  isNormal_mul rfl (isNormal_add (isNormal_zetaPow _) (isNormal_zetaPow _))

theorem isNormal_sinQ (q : Int) : (sinQ q).isNormal = true :=
  isNormal_neg (isNormal_mul rfl (isNormal_mul rfl (isNormal_sub (isNormal_zetaPow _) (isNormal_zetaPow _))))

theorem val_cosQ (q : Int) : val (cosQ q) = val half * (val (zetaPow q) + val (zetaPow (-q))) := by
  simp only [cosQ, val_mul, val_add]

theorem val_sinQ (q : Int) :
    val (sinQ q) = -(val I * (val half * (val (zetaPow q) - val (zetaPow (-q))))) := by
  simp only [sinQ, val_neg, val_mul, val_sub]

theorem two_val_cosQ (q : Int) : 2 * val (cosQ q) = val (zetaPow q) + val (zetaPow (-q)) := by
  rw [val_cosQ]
  linear_combination (val (zetaPow q) + val (zetaPow (-q))) * Cyc8.two_val_half

theorem two_I_val_sinQ (q : Int) : 2 * val I * val (sinQ q) = val (zetaPow q) - val (zetaPow (-q)) := by
  rw [val_sinQ]
  linear_combination (-2 * val half * (val (zetaPow q) - val (zetaPow (-q)))) * Cyc8.val_I_sq +
    (val (zetaPow q) - val (zetaPow (-q))) * Cyc8.two_val_half

theorem val_cosQ_neg (q : Int) : val (cosQ (-q)) = val (cosQ q) := by
  rw [val_cosQ, val_cosQ, Int.neg_neg, add_comm]

theorem val_sinQ_neg (q : Int) : val (sinQ (-q)) = -val (sinQ q) := by
  rw [val_sinQ, val_sinQ, Int.neg_neg]; ring

/-- The elements of `Cyc8` through which the phase indices `q` (half turns) and `p` (full turns) enter
    satisfy the hypotheses of the symbolic theorems. -/
theorem phaseRel_val (q p : Int) :
    PhaseRel (val I) (val (cosQ q)) (val (sinQ q)) (val (zetaPow q)) (val (zetaPow (-q)))
      (val (zetaPow p)) (val (zetaPow (-p))) where
  i_sq := Cyc8.val_I_sq
  cs := by
    rw [val_cosQ, val_sinQ]
    linear_combination (val half * (val (zetaPow q) - val (zetaPow (-q)))) ^ 2 * Cyc8.val_I_sq +
      4 * val half ^ 2 * Cyc8.val_zetaPow_unit q + (2 * val half + 1) * Cyc8.two_val_half
  ν_unit := Cyc8.val_zetaPow_unit q
  μ_unit := Cyc8.val_zetaPow_unit p
  star_i := Cyc8.star_val_I
  star_c := by
    rw [val_cosQ, star_mul', star_add, Cyc8.star_val_half, Cyc8.star_val_zetaPow, Cyc8.star_val_zetaPow,
      Int.neg_neg, add_comm]
  star_s := by
    rw [val_sinQ, star_neg, star_mul', star_mul', star_sub, Cyc8.star_val_half, Cyc8.star_val_I,
      Cyc8.star_val_zetaPow, Cyc8.star_val_zetaPow, Int.neg_neg]
    ring
  star_ν := Cyc8.star_val_zetaPow q
  star_ν' := by rw [Cyc8.star_val_zetaPow, Int.neg_neg]
  star_μ := Cyc8.star_val_zetaPow p

end Constants

/-! ### C11: every rotation of the model is unitary, and the negated phase index gives the adjoint -/

theorem rotArr_nrm (k : RotKind) (n : Int) : AllEnt Nrm (rotArr k n) := by
  rw [rotArr_eq]
  exact AllEnt.rotOf nrm_closed k (by rfl) (isNormal_cosQ _) (isNormal_sinQ _) (Cyc8.isNormal_zetaPow _)
    (Cyc8.isNormal_zetaPow _) (Cyc8.isNormal_zetaPow _)

theorem mapM_rotArr (k : RotKind) (n : Int) :
    mapM Cyc8.val (rotArr k n) =
      rotOf k (Cyc8.val Cyc8.I) (Cyc8.val (cosQ (n / 2))) (Cyc8.val (sinQ (n / 2)))
        (Cyc8.val (Cyc8.zetaPow (n / 2))) (Cyc8.val (Cyc8.zetaPow (-(n / 2)))) (Cyc8.val (Cyc8.zetaPow n)) := by
  rw [rotArr_eq, mapM_rotOf val_isHom]

theorem rotArr_unitary (k : RotKind) (n : Int) : mul (rotArr k n) (dagger (rotArr k n)) = idQ k.nq := by
  have hA := rotArr_nrm k n
  apply eq_of_val (hA.mul nrm_closed (hA.dagger nrm_closed)) (AllEnt.idQ nrm_closed _)
  rw [mapM_mul val_isHom, mapM_dagger val_isHom, mapM_idQ val_isHom, mapM_rotArr]
  exact rotOf_unitary (phaseRel_val _ _) k

/-- The negated phase index gives the adjoint (gates.py:361-362); `n` is even unless the kind is CU1, so
    that the half phase of `-n` is the negated half phase of `n`. -/
theorem rotArr_neg (k : RotKind) (n : Int) (h : k = .CU1 ∨ n % 2 = 0) :
    rotArr k (-n) = dagger (rotArr k n) := by
  apply eq_of_val (rotArr_nrm k (-n)) ((rotArr_nrm k n).dagger nrm_closed)
  rw [mapM_dagger val_isHom, mapM_rotArr, mapM_rotArr, ← rotOf_dagger (phaseRel_val (n / 2) n) k]
  rcases h with rfl | h
  · rfl
  · rw [show -n / 2 = -(n / 2) by omega, Int.neg_neg, val_cosQ_neg, val_sinQ_neg]

/-- `U† U = 1`: `U† = U(−n)` and `U = U(−n)†`. -/
theorem rotArr_counitary (k : RotKind) (n : Int) (h : k = .CU1 ∨ n % 2 = 0) :
    mul (dagger (rotArr k n)) (rotArr k n) = idQ k.nq := by
  have h' : rotArr k n = dagger (rotArr k (-n)) := by
    have := rotArr_neg k (-n) (h.imp_right fun h => by omega)
    rwa [Int.neg_neg] at this
  rw [← rotArr_neg k n h, h']
  exact rotArr_unitary k (-n)

theorem rot_eval (k : RotKind) (n : Int) : (Gate.rot k n).eval = rotArr k n := rfl

theorem Gate.shapeOK_of {g : Gate} (hm : IsMat (pow2 g.dom) (pow2 g.cod) g.eval) (hn : AllEnt Nrm g.eval) :
    g.shapeOK = true := by
  simp only [Gate.shapeOK, isMatB, allNormalB, Bool.and_eq_true, beq_iff_eq, List.all_eq_true]
  exact ⟨hm, hn⟩

theorem rot_shapeOK (k : RotKind) (n : Int) : (Gate.rot k n).shapeOK = true :=
  Gate.shapeOK_of (isMat_of_isMatB (by cases k <;> rfl)) (rotArr_nrm k n)

/-- **Rotations at every phase `n/8`, `n : ℤ`** (`n` even unless CU1): unitary, and the negated phase
    evaluates to the adjoint. -/
theorem rotOK_all (k : RotKind) (n : Int) (h : k = .CU1 ∨ n % 2 = 0) :
    (Gate.rot k n).isoOK = true ∧ (Gate.rot k n).coisoOK = true ∧ (Gate.rot k n).dagOK = true := by
  simp only [Gate.isoOK, Gate.coisoOK, Gate.dagOK, rot_shapeOK, Bool.true_and, beq_iff_eq]
  exact ⟨rotArr_unitary k n, rotArr_counitary k n h, rotArr_neg k n h⟩

/-! ### C16: the corrected image of every rotation but `Ry`, at every even phase index -/

/-- An identity between the evaluation of a ZX diagram and a multiple of a matrix of normalised values
    holds in the executable model as soon as it holds for the values in ℚ(ζ₈). -/
theorem ZXDiag.eval_eq_of_val {w : Nat} {d : ZXDiag} {k : Cyc8} {A : M8} (hd : d.normal = true)
    (hk : Nrm k) (hA : AllEnt Nrm A)
    (h : evalZX (Cyc8.val Cyc8.invSqrt2) w ((d.sem).mapD Cyc8.val) = msmul (Cyc8.val k) (mapM Cyc8.val A)) :
    ZXDiag.eval w d = msmul k A := by
  apply eq_of_val (ZXDiag.eval_allEnt w hd) (hA.msmul nrm_closed hk)
  rw [ZXDiag.eval, mapM_evalZX val_isHom, mapM_msmul val_isHom, h]

/-- The scalar `κ` of `⟦gate2zx (rot k n)⟧ = κ • ⟦rot k n⟧`. -/
def rotZXScalar (k : RotKind) (n : Int) : Cyc8 := zxRotScalar k Cyc8.invSqrt2 (Cyc8.zetaPow (n / 2))

theorem rotZXScalar_nrm (k : RotKind) (n : Int) : Nrm (rotZXScalar k n) :=
  zxRotScalar_cases Nrm k (by rfl) (Cyc8.isNormal_zetaPow _)

/-- **The corrected `gate2zx` is sound on Rz, Rx, CRz, CRx, CU1 at every even phase index**: the identities
    of Proofs/Gates.lean, valid in every commutative ring, read in ℚ(ζ₈). -/
theorem gate2zx_rot_sound (k : RotKind) (hk : k ≠ .Ry) (n : Int) (hn : n % 2 = 0) :
    zxEvalOf true (.rot k n) = .ok (msmul (rotZXScalar k n) (Gate.rot k n).eval) := by
  have e : Cyc8.zetaPow n = Cyc8.zetaPow (n / 2) * Cyc8.zetaPow (n / 2) := by
    rw [Cyc8.zetaPow_sq, show 2 * (n / 2) = n by omega]
  have sound := zxRotOf_sound k hk _ _ _ _ _ _ Cyc8.two_val_invSqrt2_sq (Cyc8.val_zetaPow_unit (n / 2))
    (two_val_cosQ (n / 2)) (two_I_val_sinQ (n / 2))
  rw [← Cyc8.val_mul, ← e, ← mapM_rotArr] at sound
  rw [rot_eval]
  cases k with
  | Ry => exact absurd rfl hk
  | _ =>
    simp only [zxEvalOf, gate2zx, if_true, Gate.dom, RotKind.nq, Except.ok.injEq]
    refine ZXDiag.eval_eq_of_val rfl (rotZXScalar_nrm _ n) (rotArr_nrm _ n) (Eq.trans ?_ sound)
    -- the image as zx.py builds it, read in ℚ(ζ₈), is `zxRotOf`: a spider of phase index `n` carries `ζ^n = ν·ν`
    simp only [ZXDiag.sem, ZXBox.sem, ZXD.mapD, ZXB.map, List.map_cons, List.map_nil,
      show Cyc8.zetaPow 0 = 1 from rfl, Cyc8.val_one, e, Cyc8.val_mul]
    rfl

theorem ctrlRotKinds_spec {k : RotKind} (hk : k ∈ ctrlRotKinds) (n : Int) :
    k ≠ .Ry ∧ rotZXScalar k n = Cyc8.invSqrt2 := by
  simp only [ctrlRotKinds, List.mem_cons, List.not_mem_nil, or_false] at hk
  rcases hk with rfl | rfl | rfl <;> exact ⟨by decide, rfl⟩

/-- The corrected decompositions of CRz, CRx, CU1 denote `(1/√2) •` the gate. -/
theorem gate2zx_fixed_sound (k : RotKind) (hk : k ∈ ctrlRotKinds) (n : Int) (hn : n % 2 = 0) :
    zxEvalOf true (.rot k n) = .ok (msmul Cyc8.invSqrt2 (Gate.rot k n).eval) :=
  (ctrlRotKinds_spec hk n).2 ▸ gate2zx_rot_sound k (ctrlRotKinds_spec hk n).1 n hn

/-- What `Gate.zxOK` asks of a rotation beyond the evaluation of its image. -/
theorem rot_zxTyped (k : RotKind) (hk : k ≠ .Ry) (n : Int) {κ κ' : Cyc8} (hκ : κ.isNormal = true)
    (hκ' : κ'.isNormal = true) (h1 : κ * κ' = 1) : (Gate.rot k n).zxTyped κ κ' = true := by
  cases k with
  | Ry => exact absurd rfl hk
  | _ =>
    simp only [Gate.zxTyped, gate2zx, if_true, rot_shapeOK, hκ, hκ', h1, Bool.true_and, Bool.and_true,
      beq_self_eq_true]
    rfl

end DV.Gates
