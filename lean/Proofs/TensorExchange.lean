/-
  Proofs/TensorExchange.lean — the layer exchange law for tensors: two layers whose boxes act
  on disjoint wires commute,
    (L ⊗ f ⊗ M ⊗ C ⊗ R) ≫ (L ⊗ B ⊗ M ⊗ g ⊗ R) = (L ⊗ A ⊗ M ⊗ g ⊗ R) ≫ (L ⊗ f ⊗ M ⊗ D ⊗ R)
  for `f : A → B`, `g : C → D`, as an equality of tensors (both sides computed entrywise).
-/
import Proofs.TensorLayer

namespace DV
namespace Tensor
open NDArray

section
variable {R : Type} [CommSemiring R]

theorem append3_inj {m c r m' c' r' : List Nat} (hm : m.length = m'.length)
    (hc : c.length = c'.length) :
    (m ++ c) ++ r = (m' ++ c') ++ r' ↔ m = m' ∧ c = c' ∧ r = r' := by
  constructor
  · intro h
    obtain ⟨h1, h2⟩ := List.append_inj h (by simp [hm, hc])
    obtain ⟨h3, h4⟩ := List.append_inj h1 hm
    exact ⟨h3, h4, h2⟩
  · rintro ⟨rfl, rfl, rfl⟩; rfl

/-- Entries of `(L ⊗ f ⊗ (M ⊗ C ⊗ Rr)) ≫ ((L ⊗ B ⊗ M) ⊗ g ⊗ Rr)`. -/
theorem exchange_left_entry (L M Rr : List Nat) (f g : Tensor R) (hf : f.WF) (hg : g.WF)
    {l a m c r l' b m' d r' : List Nat}
    (hl : InRange L l) (ha : InRange f.dom a) (hm : InRange M m) (hc : InRange g.dom c)
    (hr : InRange Rr r) (hl' : InRange L l') (hb : InRange f.cod b) (hm' : InRange M m')
    (hd : InRange g.cod d) (hr' : InRange Rr r')
    (hcomp : (layerT L ((M ++ g.dom) ++ Rr) f).cod
      = (((L ++ f.cod) ++ M) ++ g.dom) ++ Rr) :
    (thenCore (layerT L ((M ++ g.dom) ++ Rr) f) (layerT ((L ++ f.cod) ++ M) Rr g)).entry
        (((l ++ a) ++ ((m ++ c) ++ r)) ++ ((((l' ++ b) ++ m') ++ d) ++ r'))
      = (if l = l' then 1 else 0) * f.entry (a ++ b) * (if m = m' then 1 else 0)
          * g.entry (c ++ d) * (if r = r' then 1 else 0) := by
  have hX := layerT_wf L ((M ++ g.dom) ++ Rr) f hf
  have hxdom : InRange (layerT L ((M ++ g.dom) ++ Rr) f).dom ((l ++ a) ++ ((m ++ c) ++ r)) :=
    inRange_append (inRange_append hl ha) (inRange_append (inRange_append hm hc) hr)
  rw [then_layer_entry _ g _ _ hX hg hcomp hxdom
    (inRange_append (inRange_append hl' hb) hm') hd hr']
  rw [sumOver_congr (g := fun c' => (if c = c' then 1 else 0) *
      ((if l = l' then 1 else 0) * f.entry (a ++ b) * (if m = m' then 1 else 0)
        * (if r = r' then 1 else 0) * g.entry (c' ++ d))) (fun c' hc' => ?_)]
  · rw [sumOver_delta hc]; ring
  · have e : (((l' ++ b) ++ m') ++ c') ++ r' = (l' ++ b) ++ ((m' ++ c') ++ r') := by
      simp [List.append_assoc]
    rw [e, layerT_entry L _ f hf hl ha (inRange_append (inRange_append hm hc) hr) hl' hb
      (inRange_append (inRange_append hm' hc') hr')]
    have hi := append3_inj (r := r) (r' := r') (by rw [hm.length_eq, hm'.length_eq] : m.length = m'.length)
      (by rw [hc.length_eq, hc'.length_eq] : c.length = c'.length)
    simp only [hi]
    rw [ite_and_mul, ite_and_mul]
    ring

/-- Entries of `((L ⊗ A ⊗ M) ⊗ g ⊗ Rr) ≫ (L ⊗ f ⊗ (M ⊗ D ⊗ Rr))`. -/
theorem exchange_right_entry (L M Rr : List Nat) (f g : Tensor R) (hf : f.WF) (hg : g.WF)
    {l a m c r l' b m' d r' : List Nat}
    (hl : InRange L l) (ha : InRange f.dom a) (hm : InRange M m) (hc : InRange g.dom c)
    (hr : InRange Rr r) (hl' : InRange L l') (hb : InRange f.cod b) (hm' : InRange M m')
    (hd : InRange g.cod d) (hr' : InRange Rr r')
    (hcomp : (layerT ((L ++ f.dom) ++ M) Rr g).cod
      = (L ++ f.dom) ++ ((M ++ g.cod) ++ Rr)) :
    (thenCore (layerT ((L ++ f.dom) ++ M) Rr g) (layerT L ((M ++ g.cod) ++ Rr) f)).entry
        (((((l ++ a) ++ m) ++ c) ++ r) ++ ((l' ++ b) ++ ((m' ++ d) ++ r')))
      = (if l = l' then 1 else 0) * f.entry (a ++ b) * (if m = m' then 1 else 0)
          * g.entry (c ++ d) * (if r = r' then 1 else 0) := by
  have hX := layerT_wf ((L ++ f.dom) ++ M) Rr g hg
  have hxdom : InRange (layerT ((L ++ f.dom) ++ M) Rr g).dom ((((l ++ a) ++ m) ++ c) ++ r) :=
    inRange_append (inRange_append (inRange_append (inRange_append hl ha) hm) hc) hr
  rw [then_layer_entry _ f _ _ hX hf hcomp hxdom hl' hb
    (inRange_append (inRange_append hm' hd) hr')]
  rw [sumOver_congr (g := fun a' => (if a = a' then 1 else 0) *
      ((if l = l' then 1 else 0) * (if m = m' then 1 else 0) * g.entry (c ++ d)
        * (if r = r' then 1 else 0) * f.entry (a' ++ b))) (fun a' ha' => ?_)]
  · rw [sumOver_delta ha]; ring
  · have e : (l' ++ a') ++ ((m' ++ d) ++ r') = (((l' ++ a') ++ m') ++ d) ++ r' := by
      simp [List.append_assoc]
    rw [e, layerT_entry _ Rr g hg (inRange_append (inRange_append hl ha) hm) hc hr
      (inRange_append (inRange_append hl' ha') hm') hd hr']
    have hi := append3_inj (r := m) (r' := m') (by rw [hl.length_eq, hl'.length_eq] : l.length = l'.length)
      (by rw [ha.length_eq, ha'.length_eq] : a.length = a'.length)
    simp only [hi]
    rw [ite_and_mul, ite_and_mul]
    ring

/-- **Layer exchange law for tensors**: layers acting on disjoint wires commute. -/
theorem layer_exchange (L M Rr : List Nat) (f g : Tensor R) (hf : f.WF) (hg : g.WF) :
    thenCore (layerT L ((M ++ g.dom) ++ Rr) f) (layerT ((L ++ f.cod) ++ M) Rr g)
      = thenCore (layerT ((L ++ f.dom) ++ M) Rr g) (layerT L ((M ++ g.cod) ++ Rr) f) := by
  have h1 : (layerT L ((M ++ g.dom) ++ Rr) f).cod = (((L ++ f.cod) ++ M) ++ g.dom) ++ Rr := by
    simp [List.append_assoc]
  have h2 : (layerT ((L ++ f.dom) ++ M) Rr g).cod = (L ++ f.dom) ++ ((M ++ g.cod) ++ Rr) := by
    simp [List.append_assoc]
  apply ext_entry
    (s := thenCore (layerT L ((M ++ g.dom) ++ Rr) f) (layerT ((L ++ f.cod) ++ M) Rr g))
    (t := thenCore (layerT ((L ++ f.dom) ++ M) Rr g) (layerT L ((M ++ g.cod) ++ Rr) f))
    (thenCore_wf _ _ (layerT_wf _ _ f hf) (layerT_wf _ _ g hg) h1)
    (thenCore_wf _ _ (layerT_wf _ _ g hg) (layerT_wf _ _ f hf) h2)
    (by simp [List.append_assoc]) (by simp [List.append_assoc])
  intro x hx
  have hx' : InRange (((L ++ f.dom) ++ ((M ++ g.dom) ++ Rr))
      ++ ((((L ++ f.cod) ++ M) ++ g.cod) ++ Rr)) x := hx
  obtain ⟨xd, xc, rfl, hxd, hxc⟩ := hx'.split
  obtain ⟨la, mcr, rfl, hla, hmcr⟩ := hxd.split
  obtain ⟨l, a, rfl, hl, ha⟩ := hla.split
  obtain ⟨mc, r, rfl, hmc, hr⟩ := hmcr.split
  obtain ⟨m, c, rfl, hm, hc⟩ := hmc.split
  obtain ⟨lbmd, r', rfl, hlbmd, hr'⟩ := hxc.split
  obtain ⟨lbm, d, rfl, hlbm, hd⟩ := hlbmd.split
  obtain ⟨lb, m', rfl, hlb, hm'⟩ := hlbm.split
  obtain ⟨l', b, rfl, hl', hb⟩ := hlb.split
  rw [exchange_left_entry L M Rr f g hf hg hl ha hm hc hr hl' hb hm' hd hr' h1]
  have e : ((l ++ a) ++ ((m ++ c) ++ r)) ++ ((((l' ++ b) ++ m') ++ d) ++ r')
      = ((((l ++ a) ++ m) ++ c) ++ r) ++ ((l' ++ b) ++ ((m' ++ d) ++ r')) := by
    simp [List.append_assoc]
  rw [e, exchange_right_entry L M Rr f g hf hg hl ha hm hc hr hl' hb hm' hd hr' h2]

end
end Tensor
end DV
