/-
  Proofs/TkInv.lean — the simulation invariant between `toTk` and `canon`, and its preservation
  by the layers that only touch the qubit side (Ket, gates, SWAP, removal of qubit wires).
-/
import Proofs.TkBasic

namespace DV.Tk
open DV

/-! ### renaming commands -/

theorem Cmd.map_map (f g f' g' : Nat → Nat) (c : Cmd) :
    (c.map f g).map f' g' = c.map (f' ∘ f) (g' ∘ g) := by
  simp [Cmd.map, List.map_map]

theorem cmds_rename {cmds : List Cmd} {ρq ρb f g : Nat → Nat} :
    (cmds.map (Cmd.map ρq ρb)).map (Cmd.map f g) = cmds.map (Cmd.map (f ∘ ρq) (g ∘ ρb)) := by
  rw [List.map_map]
  exact List.map_congr_left fun c _ => Cmd.map_map ..

def CmdIds (cmds : List Cmd) (n m : Nat) : Prop :=
  ∀ c ∈ cmds, (∀ a ∈ c.qs, a < n) ∧ (∀ β ∈ c.bs, β < m)

theorem cmds_congr {cmds : List Cmd} {n m : Nat} {f f' g g' : Nat → Nat} (hid : CmdIds cmds n m)
    (hf : ∀ a, a < n → f a = f' a) (hg : ∀ β, β < m → g β = g' β) :
    cmds.map (Cmd.map f g) = cmds.map (Cmd.map f' g') := by
  apply List.map_congr_left
  intro c hc
  obtain ⟨h1, h2⟩ := hid c hc
  simp only [Cmd.map]
  congr 1
  · exact List.map_congr_left (fun a ha => hf a (h1 a ha))
  · exact List.map_congr_left (fun a ha => hg a (h2 a ha))

theorem CmdIds.mono {cmds : List Cmd} {n m n' m' : Nat} (h : CmdIds cmds n m) (hn : n ≤ n') (hm : m ≤ m') :
    CmdIds cmds n' m' := by
  intro c hc
  obtain ⟨h1, h2⟩ := h c hc
  exact ⟨fun a ha => Nat.lt_of_lt_of_le (h1 a ha) hn, fun a ha => Nat.lt_of_lt_of_le (h2 a ha) hm⟩

theorem CmdIds.snoc {cmds : List Cmd} {n m : Nat} {c : Cmd} (h : CmdIds cmds n m)
    (h1 : ∀ a ∈ c.qs, a < n) (h2 : ∀ β ∈ c.bs, β < m) : CmdIds (cmds ++ [c]) n m := by
  intro c' hc'
  rcases List.mem_append.mp hc' with h' | h'
  · exact h c' h'
  · simp only [List.mem_singleton] at h'; subst h'; exact ⟨h1, h2⟩

theorem BV.map_comp (f g : Nat → Nat) (v : BV) : BV.map f (BV.map g v) = BV.map (f ∘ g) v := by
  cases v <;> rfl

theorem bw_congr {bw : List BV} {g g' : Nat → Nat} (hg : ∀ β, BV.reg β ∈ bw → g β = g' β) :
    bw.map (BV.map g) = bw.map (BV.map g') := by
  apply List.map_congr_left
  intro v hv
  cases v with
  | reg β => simp only [BV.map]; rw [hg β hv]
  | out g p => rfl

theorem cg_congr {cg : List CG} {g g' : Nat → Nat} (hg : ∀ c ∈ cg, ∀ β, BV.reg β ∈ c.2 → g β = g' β) :
    cg.map (CG.map g) = cg.map (CG.map g') := by
  apply List.map_congr_left
  intro c hc
  simp only [CG.map]
  congr 1
  exact bw_congr (hg c hc)

/-! ### the invariant -/

/-- The simulation invariant along the loop of `to_tk`: the refinement itself, and what it takes
    to carry it through a layer — every id and register in use exists, the register lists are
    what the code takes them for. -/
structure Inv (sp : Sp) (st : St) (ρq ρb : Nat → Nat) (dreg : List Nat) : Prop where
  ref : Refines sp st ρq ρb dreg
  qw_lt : ∀ a ∈ sp.qw, a < sp.nq
  /-- `qubits` is increasing: this is what makes `start` (the register after the one to the left,
      `startOf`) the right place for a new register. -/
  qsorted : st.qubits.Pairwise (· < ·)
  cmd_ids : CmdIds sp.cmds sp.nq sp.nb
  bw_lt : ∀ β, BV.reg β ∈ sp.bw → β < sp.nb
  cg_lt : ∀ c ∈ sp.cg, ∀ β, BV.reg β ∈ c.2 → β < sp.nb
  ps_lt : ∀ r, st.ps.has r = true → r < st.nb
  sps_lt : ∀ β, sp.ps.has β = true → β < sp.nb
  bits_lt : ∀ r ∈ st.bits, r < st.nb
  /-- `bits` is the list of read-out registers only as long as no classical box was applied: the
      code does not update it afterwards (the excluded shape `stale_bits`). -/
  raw : st.pp.layers = [] → st.bits = dreg
  ppcod : st.pp.cod = sp.bw.length
  ppwf : st.pp.WF

theorem Inv.qubits_lt {sp st ρq ρb dreg} (h : Inv sp st ρq ρb dreg) : ∀ r ∈ st.qubits, r < st.nq := by
  intro r hr
  rw [h.ref.qubits] at hr
  obtain ⟨a, ha, rfl⟩ := List.mem_map.mp hr
  exact h.ref.injq.1 a (h.qw_lt a ha)

/-- Before any classical box the bit wires are the read-out registers, in order, and `bits`
    lists them. -/
theorem Inv.raw_wires {sp st ρq ρb dreg} (h : Inv sp st ρq ρb dreg) (hraw : st.pp.layers = []) :
    st.bits = dreg ∧ sp.cg = [] ∧ dreg.map BV.reg = sp.bw.map (BV.map ρb) ∧ sp.bw.length = dreg.length := by
  have hpp := h.ref.pp
  simp only [PP.run, hraw, List.foldl_nil, Prod.mk.injEq] at hpp
  refine ⟨h.raw hraw, List.map_eq_nil_iff.mp hpp.1.symm, hpp.2, ?_⟩
  simpa using (congrArg List.length hpp.2).symm

theorem Inv.qubit_at {sp st ρq ρb dreg} (h : Inv sp st ρq ρb dreg) {i q : Nat} (hq : st.qubits[i]? = some q) :
    ∃ a, sp.qw[i]? = some a ∧ ρq a = q := by
  rw [h.ref.qubits, List.getElem?_map] at hq
  exact Option.map_eq_some_iff.mp hq

theorem inv_init : Inv {} {} id id [] where
  ref := {
    nq := rfl
    nb := rfl
    injq := ⟨fun a h => absurd h (Nat.not_lt_zero a), fun a b h => absurd h (Nat.not_lt_zero a)⟩
    injb := ⟨fun a h => absurd h (Nat.not_lt_zero a), fun a b h => absurd h (Nat.not_lt_zero a)⟩
    cmds := rfl
    qubits := rfl
    ps := fun β h => absurd h (Nat.not_lt_zero β)
    scal := rfl
    readout := ⟨List.Pairwise.nil, fun r => by simp [PS.has]⟩
    ppdom := rfl
    pp := rfl }
  qw_lt := fun a h => by cases h
  qsorted := List.Pairwise.nil
  cmd_ids := fun c h => by cases h
  bw_lt := fun β h => by cases h
  cg_lt := fun c h => by cases h
  ps_lt := fun r h => by simp [PS.has] at h
  sps_lt := fun r h => by simp [PS.has] at h
  bits_lt := fun r h => by cases h
  raw := fun _ => rfl
  ppcod := rfl
  ppwf := rfl

/-! ### sorted register lists -/

theorem sorted_at {xs : List Nat} {k r : Nat} (hs : xs.Pairwise (· < ·)) (hk : xs[k]? = some r) :
    (∀ x ∈ xs.take k, x < r) ∧ (∀ x ∈ xs.drop (k + 1), r < x) := by
  have hlt : k < xs.length := by
    rcases Nat.lt_or_ge k xs.length with h | h
    · exact h
    · rw [List.getElem?_eq_none h] at hk; cases hk
  have hr : xs[k] = r := by
    have := List.getElem?_eq_getElem (l := xs) (i := k) hlt
    rw [this] at hk; exact Option.some.inj hk
  have e : xs = xs.take k ++ r :: xs.drop (k + 1) := by
    conv => lhs; rw [← List.take_append_drop k xs]
    rw [List.drop_eq_getElem_cons hlt, hr]
  rw [e] at hs
  rw [List.pairwise_append] at hs
  obtain ⟨_, h2, h3⟩ := hs
  rw [List.pairwise_cons] at h2
  exact ⟨fun x hx => h3 x hx r (List.mem_cons_self), h2.1⟩

theorem shiftFrom_inj {s n x y : Nat} (h : shiftFrom s n x = shiftFrom s n y) : x = y := by
  unfold shiftFrom at h; split at h <;> split at h <;> omega

theorem map_range' (f : Nat → Nat) (s t n : Nat) (h : ∀ i, i < n → f (s + i) = t + i) :
    (List.range' s n).map f = List.range' t n := by
  induction n generalizing s t with
  | zero => rfl
  | succ n ih =>
    simp only [List.range'_succ, List.map_cons]
    congr 1
    · simpa using h 0 (by omega)
    · apply ih
      intro i hi
      have := h (i + 1) (by omega)
      simp only [Nat.add_assoc, Nat.add_comm 1 i] at *
      omega

theorem removeAt_sublist {α} (xs : List α) (off n : Nat) : (removeAt xs off n).Sublist xs := by
  unfold removeAt
  conv => rhs; rw [← List.take_append_drop off xs]
  exact List.Sublist.append (List.Sublist.refl _) (List.drop_sublist_drop_left xs (by omega))

theorem startOf_le {regs : List Nat} {total off start : Nat} (hlt : ∀ r ∈ regs, r < total)
    (h : startOf regs total off = .ok start) : start ≤ total := by
  unfold startOf at h
  split at h
  · cases h; exact Nat.le_refl _
  · split at h
    · cases h; exact Nat.zero_le _
    · split at h
      · rename_i r hr
        cases h
        exact hlt r (List.mem_of_getElem? hr)
      · cases h

/-- The three facts about `start` that make `insertRegs` keep a register list sorted. -/
theorem startOf_spec {regs : List Nat} {total off start : Nat} (hs : regs.Pairwise (· < ·))
    (hlt : ∀ r ∈ regs, r < total) (h : startOf regs total off = .ok start) :
    (∀ r ∈ regs.take off, r < start) ∧ (∀ r ∈ regs.drop off, start ≤ r) ∧ start ≤ total := by
  unfold startOf at h
  split at h
  · rename_i he
    have : regs = [] := by simpa using he
    subst this; cases h; simp
  · split at h
    · rename_i h0; subst h0; cases h; simp
    · rename_i hne h0
      split at h
      · rename_i r hr
        cases h
        obtain ⟨h1, h2⟩ := sorted_at hs hr
        have hoff : off - 1 + 1 = off := by omega
        rw [hoff] at h2
        refine ⟨?_, fun x hx => h2 x hx, ?_⟩
        · intro x hx
          have hlen : off - 1 < regs.length := by
            rcases Nat.lt_or_ge (off - 1) regs.length with h | h
            · exact h
            · rw [List.getElem?_eq_none h] at hr; cases hr
          have : regs.take off = regs.take (off - 1) ++ [r] := by
            have := List.take_succ (l := regs) (i := off - 1)
            rw [hoff] at this
            rw [this, hr]; rfl
          rw [this] at hx
          rcases List.mem_append.mp hx with hx | hx
          · have := h1 x hx; omega
          · simp at hx; omega
        · exact hlt r (List.mem_of_getElem? hr)
      · cases h

theorem insertRegs_sorted {regs : List Nat} {off start n : Nat} (hs : regs.Pairwise (· < ·))
    (h1 : ∀ r ∈ regs.take off, r < start) (h2 : ∀ r ∈ regs.drop off, start ≤ r) :
    (insertRegs regs off start n).Pairwise (· < ·) := by
  unfold insertRegs
  rw [List.pairwise_append, List.pairwise_append]
  refine ⟨⟨hs.sublist (List.take_sublist _ _), List.pairwise_lt_range', ?_⟩, ?_, ?_⟩
  · intro a ha b hb
    have := h1 a ha
    have := (List.mem_range'_1.mp hb).1
    omega
  · rw [List.pairwise_map]
    exact (hs.sublist (List.drop_sublist _ _)).imp (by intro a b h; omega)
  · intro a ha b hb
    obtain ⟨c, hc, rfl⟩ := List.mem_map.mp hb
    have := h2 c hc
    rcases List.mem_append.mp ha with ha | ha
    · have := h1 a ha; omega
    · have := (List.mem_range'_1.mp ha).2; omega

theorem insertRegs_lt {regs : List Nat} {off start n total : Nat} (hlt : ∀ r ∈ regs, r < total)
    (hst : start ≤ total) : ∀ r ∈ insertRegs regs off start n, r < total + n := by
  intro r hr
  unfold insertRegs at hr
  rcases List.mem_append.mp hr with hr | hr
  · rcases List.mem_append.mp hr with hr | hr
    · have := hlt r (List.mem_of_mem_take hr); omega
    · have := (List.mem_range'_1.mp hr).2; omega
  · obtain ⟨c, hc, rfl⟩ := List.mem_map.mp hr
    have := hlt c (List.mem_of_mem_drop hc); omega

/-- The extension of a register naming at a preparation. -/
def extend (ρ : Nat → Nat) (old start n : Nat) (a : Nat) : Nat :=
  if a < old then shiftFrom start n (ρ a) else start + (a - old)

theorem extend_inj {ρ : Nat → Nat} {old total start n : Nat} (h : InjBelow ρ old total)
    (hst : start ≤ total) : InjBelow (extend ρ old start n) (old + n) (total + n) := by
  constructor
  · intro a ha
    unfold extend
    split
    · rename_i hlt
      have := h.1 a hlt
      unfold shiftFrom; split <;> omega
    · omega
  · intro a b ha hb hab
    unfold extend at hab
    split at hab <;> split at hab
    · rename_i h1 h2; exact h.2 a b h1 h2 (shiftFrom_inj hab)
    · rename_i h1 h2
      unfold shiftFrom at hab; split at hab <;> omega
    · rename_i h1 h2
      unfold shiftFrom at hab; split at hab <;> omega
    · omega

/-- The inserted list is the image of the specified one under the extended naming. -/
theorem insertRegs_map {ρ : Nat → Nat} {ws : List Nat} {regs : List Nat} {off start n old : Nat}
    (hmap : regs = ws.map ρ) (hws : ∀ a ∈ ws, a < old)
    (h1 : ∀ r ∈ regs.take off, r < start) (h2 : ∀ r ∈ regs.drop off, start ≤ r) :
    insertRegs regs off start n = (insertAt ws off (List.range' old n)).map (extend ρ old start n) := by
  unfold insertRegs insertAt
  rw [List.map_append, List.map_append]
  congr 1
  · congr 1
    · subst hmap
      rw [← List.map_take]
      apply List.map_congr_left
      intro a ha
      have hlt := hws a (List.mem_of_mem_take ha)
      have : ρ a < start := h1 (ρ a) (by rw [← List.map_take]; exact List.mem_map_of_mem ha)
      simp only [extend, hlt, ↓reduceIte, shiftFrom]
      split <;> omega
    · symm
      apply map_range'
      intro i hi
      simp only [extend]
      have : ¬ (old + i < old) := by omega
      simp only [this, ↓reduceIte]; omega
  · subst hmap
    rw [← List.map_drop, List.map_map]
    apply List.map_congr_left
    intro a ha
    have hlt := hws a (List.mem_of_mem_drop ha)
    have : start ≤ ρ a := h2 (ρ a) (by rw [← List.map_drop]; exact List.mem_map_of_mem ha)
    simp only [Function.comp, extend, hlt, ↓reduceIte, shiftFrom, this]

/-! ### Ket -/

theorem prepareQubits_inv {sp : Sp} {st st' : St} {ρq ρb dreg} {n lq : Nat}
    (h : Inv sp st ρq ρb dreg) (hs : prepareQubits st n lq = .ok st') :
    ∃ ρq', Inv { sp with nq := sp.nq + n, qw := insertAt sp.qw lq (List.range' sp.nq n) } st' ρq' ρb dreg := by
  unfold prepareQubits at hs
  split at hs
  · cases hs
  · rename_i start hst
    cases hs
    obtain ⟨h1, h2, h3⟩ := startOf_spec h.qsorted h.qubits_lt hst
    refine ⟨extend ρq sp.nq start n, ?_⟩
    have hnq := h.ref.nq
    refine { h with ref := { h.ref with nq := ?_, injq := ?_, cmds := ?_, qubits := ?_ }, qw_lt := ?_, qsorted := ?_, cmd_ids := ?_ }
    · simp [prepareQubitsAt, hnq]
    · simp only [prepareQubitsAt]
      exact extend_inj h.ref.injq h3
    · simp only [prepareQubitsAt]
      rw [h.ref.cmds, cmds_rename]
      exact cmds_congr h.cmd_ids (fun a ha => by simp [extend, ha]) (fun _ _ => rfl)
    · simp only [prepareQubitsAt]
      exact insertRegs_map h.ref.qubits h.qw_lt h1 h2
    · intro a ha
      rcases mem_insertAt ha with ha | ha
      · have := h.qw_lt a ha; simp only; omega
      · have := (List.mem_range'_1.mp ha).2; simp only; omega
    · simp only [prepareQubitsAt]
      exact insertRegs_sorted h.qsorted h1 h2
    · exact h.cmd_ids.mono (by simp) (Nat.le_refl _)

/-! ### gates -/

theorem regsAt_map {ρ : Nat → Nat} {ws : List Nat} {off : Nat} {js qs : List Nat}
    (h : regsAt (ws.map ρ) off js = .ok qs) :
    ∃ as, regsAt ws off js = .ok as ∧ qs = as.map ρ ∧ ∀ a ∈ as, a ∈ ws := by
  induction js generalizing qs with
  | nil => simp [regsAt] at h; subst h; exact ⟨[], rfl, rfl, by simp⟩
  | cons j js ih =>
    simp only [regsAt, List.getElem?_map] at h
    cases hw : ws[off + j]? with
    | none => simp [hw] at h
    | some a =>
      simp only [hw, Option.map_some] at h
      cases hr : regsAt (ws.map ρ) off js with
      | error e => simp [hr] at h
      | ok rs =>
        simp only [hr] at h
        cases h
        obtain ⟨as, e1, e2, e3⟩ := ih hr
        refine ⟨a :: as, ?_, by simp [e2], ?_⟩
        · simp [regsAt, hw, e1]
        · intro x hx
          rcases List.mem_cons.mp hx with rfl | hx
          · exact List.mem_of_getElem? hw
          · exact e3 x hx

theorem addGate_inv {sp : Sp} {st st' : St} {ρq ρb dreg} {box : TBox} {lq : Nat}
    (h : Inv sp st ρq ρb dreg) (hs : addGate st box lq = .ok st') :
    ∃ sp', Sp.addGate sp box lq = .ok sp' ∧ Inv sp' st' ρq ρb dreg := by
  unfold addGate at hs
  split at hs
  · cases hs
  · rename_i qs hq
    split at hs
    · cases hs
    · rename_i op par hop
      cases hs
      rw [h.ref.qubits] at hq
      obtain ⟨as, e1, e2, e3⟩ := regsAt_map hq
      refine ⟨{ sp with cmds := sp.cmds ++ [⟨op, par, as, []⟩] }, by simp [Sp.addGate, e1, hop], ?_⟩
      refine { h with ref := { h.ref with cmds := ?_ }, cmd_ids := ?_ }
      · simp [h.ref.cmds, Cmd.map, e2]
      · exact h.cmd_ids.snoc (fun a ha => h.qw_lt a (e3 a ha)) (by simp)

/-! ### SWAP on qubits -/

theorem transp_comp_inj {ρ : Nat → Nat} {n m a b : Nat} (h : InjBelow ρ n m) (ha : a < m) (hb : b < m) :
    InjBelow (transp a b ∘ ρ) n m := by
  refine ⟨fun c hc => ?_, fun c d hc hd hcd => h.2 c d hc hd (transp_inj hcd)⟩
  have := h.1 c hc
  simp only [Function.comp, transp]
  split
  · exact hb
  · split
    · exact ha
    · exact this

/-- The two register names are exchanged in all earlier commands; the list `qubits` stays as it
    is, so it is the image of the swapped wires under the naming with the two names exchanged. -/
theorem swapQubits_inv {sp : Sp} {st st' : St} {ρq ρb dreg} {lq : Nat}
    (h : Inv sp st ρq ρb dreg) (hs : swapQubits st lq = .ok st') :
    ∃ ρq', sp.qw.length ≥ lq + 2 ∧ Inv { sp with qw := swapAt sp.qw lq } st' ρq' ρb dreg := by
  unfold swapQubits at hs
  split at hs
  · rename_i a b ha hb
    cases hs
    have hlen : lq + 1 < sp.qw.length := by simpa [h.ref.qubits] using (List.getElem?_eq_some_iff.mp hb).1
    refine ⟨transp a b ∘ ρq, hlen, ?_⟩
    refine { h with ref := { h.ref with injq := ?_, cmds := ?_, qubits := ?_ }, qw_lt := ?_ }
    · exact transp_comp_inj h.ref.injq (h.qubits_lt a (List.mem_of_getElem? ha))
        (h.qubits_lt b (List.mem_of_getElem? hb))
    · simp only [h.ref.cmds]; exact cmds_rename
    · simp only
      rw [← List.map_map, swapAt_map, ← h.ref.qubits]
      exact (swapAt_map_transp (h.qsorted.imp Nat.ne_of_lt) ha hb).symm
    · intro c hc
      exact h.qw_lt c (mem_swapAt hc)
  · cases hs

/-! ### Discard of qubits, destructive measurement, post-selection: removing wires -/

theorem dropQubits_inv {sp : Sp} {st : St} {ρq ρb dreg} {lq n : Nat} (h : Inv sp st ρq ρb dreg) :
    Inv (sp.dropQubits lq n) (dropQubits st lq n) ρq ρb dreg := by
  refine { h with ref := { h.ref with qubits := ?_ }, qw_lt := ?_, qsorted := ?_ }
  · simp only [dropQubits, Sp.dropQubits, removeRegs_eq, h.ref.qubits, removeAt_map]
  · intro a ha; exact h.qw_lt a (mem_removeAt ha)
  · exact h.qsorted.sublist (removeAt_sublist _ _ _)

end DV.Tk
