/-
  Proofs/Layout.lean — lemmas about the layout model (Model/Layout.lean), core Lean only
  (linear arithmetic over `Rat` is discharged by `grind`).

  Plan.  (1-2) the two shifts of `make_space` are *expanding* maps (never shrink a gap), and on
  the three numbers they read they leave the left neighbour `half_width` left of the box, the
  right neighbour `half_width` right of it, and do not move anything strictly in between —
  whatever `x_pos` is.  (3) the `pos` dict as an association list: lookups commute with a map of
  all coordinates and with appending fresh keys; `sep g a b` (a at least g left of b) and `eqx`
  survive both.  (4-8) the loop invariant `Inv` and its preservation by one iteration
  (`step_inv`), together with what the iteration establishes about its own box (`StepFacts`).
  (9-11) the whole loop by induction over the boxes: facts established by an iteration survive
  all later ones (`Pos.le`), so they hold in the returned graph.  (12-16) census of nodes and
  edges, heights, the identification of the scan lists with the independent wire follower
  `follow`, and from it: wires are vertical, edges join placed nodes and point down.
-/
import Model.Layout

namespace DV.Layout
open DV

/-! ### 1. The two shifts are expanding maps -/

/-- `f` never shrinks a gap: `a + g ≤ b → f a + g ≤ f b` for every `g ≥ 0`
    (in particular `f` is strictly monotone and preserves `≤`). -/
def Expanding (f : Rat → Rat) : Prop := ∀ a b g : Rat, 0 ≤ g → a + g ≤ b → f a + g ≤ f b

theorem expanding_shift {δ : Rat → Rat} (hδ : ∀ a b, a ≤ b → δ a ≤ δ b) :
    Expanding (fun t => t + δ t) := by
  intro a b g hg h
  have hab : a ≤ b := by
    have := (Rat.add_le_add_left (c := a)).mpr hg
    rw [Rat.add_zero] at this
    exact Rat.le_trans this h
  show a + δ a + g ≤ b + δ b
  rw [Rat.add_assoc, Rat.add_comm (δ a), ← Rat.add_assoc]
  exact Rat.le_trans (Rat.add_le_add_right.mpr h) (Rat.add_le_add_left.mpr (hδ a b hab))

theorem sl_expanding (limit pad : Rat) (hp : 0 ≤ pad) : Expanding (sl limit pad) := by
  have e : sl limit pad = fun t => t + (if t ≤ limit then -pad else 0) := by
    funext t; unfold sl; split <;> simp [Rat.sub_eq_add_neg, Rat.add_zero]
  rw [e]
  refine expanding_shift fun a b hab => ?_
  by_cases hb : b ≤ limit
  · rw [if_pos (Rat.le_trans hab hb), if_pos hb]; exact Rat.le_refl
  · rw [if_neg hb]; split
    · exact Rat.neg_le_iff.mpr (by simpa using hp)
    · exact Rat.le_refl

theorem sr_expanding (limit pad : Rat) (hp : 0 ≤ pad) : Expanding (sr limit pad) := by
  have e : sr limit pad = fun t => t + (if t ≥ limit then pad else 0) := by
    funext t; unfold sr; split <;> simp [Rat.add_zero]
  rw [e]
  refine expanding_shift fun a b hab => ?_
  by_cases ha : a ≥ limit
  · rw [if_pos ha, if_pos (Rat.le_trans ha hab)]; exact Rat.le_refl
  · rw [if_neg ha]; split
    · exact hp
    · exact Rat.le_refl

theorem Expanding.comp {f g : Rat → Rat} (hf : Expanding f) (hg : Expanding g) :
    Expanding (fun t => f (g t)) := fun a b d hd h => hf _ _ d hd (hg a b d hd h)

theorem Expanding.id : Expanding (fun t => t) := fun _ _ _ _ h => h

theorem Expanding.mono {f : Rat → Rat} (hf : Expanding f) {a b : Rat} (h : a ≤ b) : f a ≤ f b := by
  have := hf a b 0 (Rat.le_refl) (by rwa [Rat.add_zero])
  rwa [Rat.add_zero] at this

theorem Expanding.sep1 {f : Rat → Rat} (hf : Expanding f) {a b : Rat} (h : a + 1 ≤ b) :
    f a + 1 ≤ f b := hf a b 1 (by decide) h

theorem lt_of_add_one_le {a b : Rat} (h : a + 1 ≤ b) : a < b := by grind

theorem add_le_of_le {a b g g' : Rat} (hg : g' ≤ g) (h : a + g ≤ b) : a + g' ≤ b :=
  Rat.le_trans (Rat.add_le_add_left.mpr hg) h

/-! ### 2. `make_space` on values

  `gLv`/`gRv` are the maps applied to every horizontal coordinate by drawing.py:159-164 and
  165-171, written over the three numbers they read: the left neighbour `XL = pos[scan[off-1]]`,
  the right neighbour `XR = pos[scan[off+len(dom)]]`, the box position `x` and `hw = half_width`. -/

def gLv (offNZ : Bool) (XL x hw t : Rat) : Rat :=
  if offNZ = true ∧ XL > x - hw then sl XL (XL - x + hw) t else t

def gRv (inR : Bool) (XR x hw t : Rat) : Rat :=
  if inR = true ∧ XR < x + hw then sr XR (x + hw - XR) t else t

/-- Both passes of `make_space` (the right pass reads the right neighbour AFTER the left pass). -/
def gV (offNZ inR : Bool) (XL XR x hw t : Rat) : Rat :=
  gRv inR (gLv offNZ XL x hw XR) x hw (gLv offNZ XL x hw t)

theorem gLv_pos {offNZ : Bool} {XL x hw : Rat} (hc : offNZ = true ∧ XL > x - hw) :
    gLv offNZ XL x hw = sl XL (XL - x + hw) := funext fun _ => if_pos hc

theorem gLv_neg {offNZ : Bool} {XL x hw : Rat} (hc : ¬(offNZ = true ∧ XL > x - hw)) :
    gLv offNZ XL x hw = fun t => t := funext fun _ => if_neg hc

theorem gRv_pos {inR : Bool} {XR x hw : Rat} (hc : inR = true ∧ XR < x + hw) :
    gRv inR XR x hw = sr XR (x + hw - XR) := funext fun _ => if_pos hc

theorem gRv_neg {inR : Bool} {XR x hw : Rat} (hc : ¬(inR = true ∧ XR < x + hw)) :
    gRv inR XR x hw = fun t => t := funext fun _ => if_neg hc

theorem gLv_expanding (offNZ : Bool) (XL x hw : Rat) : Expanding (gLv offNZ XL x hw) := by
  by_cases hc : offNZ = true ∧ XL > x - hw
  · rw [gLv_pos hc]; exact sl_expanding _ _ (by grind)
  · rw [gLv_neg hc]; exact Expanding.id

theorem gRv_expanding (inR : Bool) (XR x hw : Rat) : Expanding (gRv inR XR x hw) := by
  by_cases hc : inR = true ∧ XR < x + hw
  · rw [gRv_pos hc]; exact sr_expanding _ _ (by grind)
  · rw [gRv_neg hc]; exact Expanding.id

/-- The left pass leaves the left neighbour at least `half_width` left of the box … -/
theorem gLv_left (XL x hw : Rat) : gLv true XL x hw XL + hw ≤ x := by
  unfold gLv sl; grind

/-- … and does not move what is strictly right of that neighbour. -/
theorem gLv_fix {offNZ : Bool} {XL x hw t : Rat} (h : offNZ = true → XL < t) :
    gLv offNZ XL x hw t = t := by
  unfold gLv sl; grind

theorem gRv_right (XR x hw : Rat) : x + hw ≤ gRv true XR x hw XR := by
  unfold gRv sr; grind

theorem gRv_fix {inR : Bool} {XR x hw t : Rat} (h : inR = true → t < XR) :
    gRv inR XR x hw t = t := by
  unfold gRv sr; grind

/-- After `make_space` the left neighbour is at least `half_width` to the left of the box:
    the right pass does not undo what the left pass achieved. -/
theorem gV_left (inR : Bool) (XL XR x hw : Rat) (h : inR = true → XL + 1 ≤ XR) :
    gV true inR XL XR x hw XL + hw ≤ x := by
  unfold gV
  rw [gRv_fix fun hd => lt_of_add_one_le ((gLv_expanding _ _ _ _).sep1 (h hd))]
  exact gLv_left _ _ _

/-- Wires strictly between the two neighbours (the box's own domain) do not move. -/
theorem gV_mid (offNZ inR : Bool) (XL XR x hw t : Rat)
    (hl : offNZ = true → XL < t) (hr : inR = true → t < XR) :
    gV offNZ inR XL XR x hw t = t := by
  unfold gV
  rw [gLv_fix hl]
  exact gRv_fix fun hd => by rw [gLv_fix fun ho => Std.lt_trans (hl ho) (hr hd)]; exact hr hd

/-! ### 3. The `pos` dict: lookups, keys, the two order relations -/

def keys (p : Pos) : List Node := p.map (·.node)

@[simp] theorem keys_append (p q : Pos) : keys (p ++ q) = keys p ++ keys q := by simp [keys]

@[simp] theorem keys_mapX (f : Rat → Rat) (p : Pos) : keys (p.mapX f) = keys p := by
  simp [keys, Pos.mapX]

theorem find?_mapX (f : Rat → Rat) (p : Pos) (v : Node) :
    (p.mapX f).find? (fun q => q.node == v)
      = (p.find? (fun q => q.node == v)).map (fun q => { q with x := f q.x }) := by
  rw [Pos.mapX, List.find?_map]; rfl

theorem x?_mapX (f : Rat → Rat) (p : Pos) (v : Node) : (p.mapX f).x? v = (p.x? v).map f := by
  rw [Pos.x?, Pos.x?, find?_mapX, Option.map_map, Option.map_map]; rfl

theorem y?_mapX (f : Rat → Rat) (p : Pos) (v : Node) : (p.mapX f).y? v = p.y? v := by
  rw [Pos.y?, Pos.y?, find?_mapX, Option.map_map]; rfl

theorem x?_append (p q : Pos) (v : Node) : (p ++ q).x? v = (p.x? v).or (q.x? v) := by
  simp only [Pos.x?, List.find?_append]
  cases List.find? (fun q => q.node == v) p <;> simp

theorem y?_append (p q : Pos) (v : Node) : (p ++ q).y? v = (p.y? v).or (q.y? v) := by
  simp only [Pos.y?, List.find?_append]
  cases List.find? (fun q => q.node == v) p <;> simp

theorem x?_append_of_some {p : Pos} {v : Node} {x : Rat} (q : Pos) (h : p.x? v = some x) :
    (p ++ q).x? v = some x := by simp [x?_append, h]

theorem find?_of_mem {p : Pos} {q : Placed} (hn : (keys p).Nodup) (hq : q ∈ p) :
    p.find? (fun r => r.node == q.node) = some q := by
  induction p with
  | nil => cases hq
  | cons r p ih =>
    simp only [keys, List.map_cons, List.nodup_cons] at hn
    simp only [List.find?_cons]
    rcases List.mem_cons.mp hq with rfl | hq'
    · simp
    · have : r.node ≠ q.node := by
        intro e; exact hn.1 (by rw [e]; exact List.mem_map.mpr ⟨q, hq', rfl⟩)
      have hb : (r.node == q.node) = false := by simpa using this
      simp [hb, ih hn.2 hq']

theorem x?_of_mem {p : Pos} {q : Placed} (hn : (keys p).Nodup) (hq : q ∈ p) :
    p.x? q.node = some q.x := by simp [Pos.x?, find?_of_mem hn hq]

theorem y?_of_mem {p : Pos} {q : Placed} (hn : (keys p).Nodup) (hq : q ∈ p) :
    p.y? q.node = some q.y := by simp [Pos.y?, find?_of_mem hn hq]

theorem mem_keys_of_x? {p : Pos} {v : Node} {x : Rat} (h : p.x? v = some x) : v ∈ keys p := by
  unfold Pos.x? at h
  cases hf : p.find? (fun q => q.node == v) with
  | none => rw [hf] at h; cases h
  | some q =>
    exact List.mem_map.mpr ⟨q, List.mem_of_find?_eq_some hf, by simpa using List.find?_some hf⟩

/-- `a` is at least `g` to the left of `b` (both placed). -/
def Pos.sep (p : Pos) (g : Rat) (a b : Node) : Prop :=
  ∃ xa xb, p.x? a = some xa ∧ p.x? b = some xb ∧ xa + g ≤ xb

/-- `a` and `b` have the same horizontal coordinate (both placed). -/
def Pos.eqx (p : Pos) (a b : Node) : Prop := ∃ x, p.x? a = some x ∧ p.x? b = some x

theorem Pos.sep.mapX {p : Pos} {g : Rat} {a b : Node} {f : Rat → Rat} (hf : Expanding f)
    (hg : 0 ≤ g) (h : p.sep g a b) : (p.mapX f).sep g a b := by
  obtain ⟨xa, xb, ha, hb, hab⟩ := h
  exact ⟨f xa, f xb, by simp [x?_mapX, ha], by simp [x?_mapX, hb], hf _ _ _ hg hab⟩

theorem Pos.sep.append {p : Pos} {g : Rat} {a b : Node} (q : Pos) (h : p.sep g a b) :
    (p ++ q).sep g a b := by
  obtain ⟨xa, xb, ha, hb, hab⟩ := h
  exact ⟨xa, xb, x?_append_of_some q ha, x?_append_of_some q hb, hab⟩

theorem Pos.eqx.mapX {p : Pos} {a b : Node} (f : Rat → Rat) (h : p.eqx a b) :
    (p.mapX f).eqx a b := by
  obtain ⟨x, ha, hb⟩ := h
  exact ⟨f x, by simp [x?_mapX, ha], by simp [x?_mapX, hb]⟩

theorem Pos.eqx.append {p : Pos} {a b : Node} (q : Pos) (h : p.eqx a b) : (p ++ q).eqx a b := by
  obtain ⟨x, ha, hb⟩ := h
  exact ⟨x, x?_append_of_some q ha, x?_append_of_some q hb⟩

theorem Pos.sep.weaken {p : Pos} {g g' : Rat} {a b : Node} (hg : g' ≤ g) (h : p.sep g a b) :
    p.sep g' a b := by
  obtain ⟨xa, xb, ha, hb, hab⟩ := h
  exact ⟨xa, xb, ha, hb, add_le_of_le hg hab⟩

theorem xD_of_x? {p : Pos} {v : Node} {x : Rat} (h : p.x? v = some x) : p.xD v = x := by
  simp [Pos.xD, h]

theorem mapX_id (p : Pos) : p.mapX (fun t => t) = p := by
  simp [Pos.mapX]

theorem mapX_mapX (f g : Rat → Rat) (p : Pos) : (p.mapX g).mapX f = p.mapX (fun t => f (g t)) := by
  simp [Pos.mapX]

/-! ### 4. The loop invariant -/

/-- What a key of `pos` can be before box `depth` is treated: an input, or a node of an earlier
    box. -/
def Old (depth : Nat) (v : Node) : Prop :=
  v.kind = .input ∨ (v.kind ≠ .output ∧ v.kind ≠ .input ∧ v.depth < depth)

/-- Invariant of the `for depth, (box, off)` loop (drawing.py:179-181): keys are unique and old
    (so that the nodes of box `depth` are fresh keys: "update" is "append"), every open wire is
    placed, and the open wires are at least one unit apart, in scan order. -/
structure Inv (p : Pos) (scan : List Node) (depth : Nat) : Prop where
  nodup : (keys p).Nodup
  old : ∀ v ∈ keys p, Old depth v
  has : ∀ v ∈ scan, ∃ x, p.x? v = some x
  sorted : scan.Pairwise (p.sep 1)

theorem getD_eq {α} {l : List α} {k : Nat} {d : α} (hk : k < l.length) : l.getD k d = l[k] := by
  simp [List.getD_eq_getElem?_getD, hk]

theorem getD_of_getElem? {α} {l : List α} {k : Nat} {a d : α} (h : l[k]? = some a) :
    l.getD k d = a := by
  simp [List.getD_eq_getElem?_getD, h]

theorem getElem?_lt {α} {l : List α} {k : Nat} {a : α} (h : l[k]? = some a) : k < l.length :=
  (List.getElem?_eq_some_iff.mp h).1

theorem scanX_of_has {p : Pos} {scan : List Node} (has : ∀ v ∈ scan, ∃ x, p.x? v = some x)
    {k : Nat} (hk : k < scan.length) : p.x? scan[k] = some (scanX p scan k) := by
  obtain ⟨x, hx⟩ := has scan[k] (List.getElem_mem hk)
  rw [scanX, getD_eq hk, Pos.xD, hx]; rfl

theorem scanX_mapX (f : Rat → Rat) {p : Pos} {scan : List Node}
    (has : ∀ v ∈ scan, ∃ x, p.x? v = some x) {k : Nat} (hk : k < scan.length) :
    scanX (p.mapX f) scan k = f (scanX p scan k) := by
  obtain ⟨x, hx⟩ := has scan[k] (List.getElem_mem hk)
  rw [scanX, scanX, getD_eq hk, Pos.xD, Pos.xD, x?_mapX, hx]; rfl

section
variable {p : Pos} {scan : List Node} {depth : Nat} (h : Inv p scan depth) {i j : Nat}
include h

theorem Inv.X_sep (hij : i < j) (hj : j < scan.length) :
    scanX p scan i + 1 ≤ scanX p scan j := by
  have hi : i < scan.length := Nat.lt_trans hij hj
  obtain ⟨xa, xb, ha, hb, hab⟩ := List.pairwise_iff_getElem.mp h.sorted i j hi hj hij
  rw [scanX_of_has h.has hi] at ha
  rw [scanX_of_has h.has hj] at hb
  cases ha; cases hb; exact hab

theorem Inv.X_lt (hij : i < j) (hj : j < scan.length) : scanX p scan i < scanX p scan j :=
  lt_of_add_one_le (h.X_sep hij hj)

theorem Inv.X_le (hij : i ≤ j) (hj : j < scan.length) : scanX p scan i ≤ scanX p scan j := by
  rcases Nat.lt_or_eq_of_le hij with h1 | rfl
  · exact Rat.le_of_lt (h.X_lt h1 hj)
  · exact Rat.le_refl

end

/-! ### 5. `make_space` is one expanding map -/

/-- The map `make_space` applies to every horizontal coordinate in `pos`. -/
def stepG (p : Pos) (scan : List Node) (st : Step) (t : Rat) : Rat :=
  if scan.isEmpty then t
  else gV (decide (st.off ≠ 0)) (decide (st.off + st.m < scan.length))
    (scanX p scan (st.off - 1)) (scanX p scan (st.off + st.m)) (xPos p scan st) (halfWidth st.c) t

theorem stepG_cons (p : Pos) (v : Node) (scan : List Node) (st : Step) :
    stepG p (v :: scan) st = gV (decide (st.off ≠ 0)) (decide (st.off + st.m < (v :: scan).length))
      (scanX p (v :: scan) (st.off - 1)) (scanX p (v :: scan) (st.off + st.m))
      (xPos p (v :: scan) st) (halfWidth st.c) := rfl

theorem padLeft_eq (p : Pos) (scan : List Node) (st : Step) (x : Rat) :
    padLeft p scan st x
      = p.mapX (gLv (decide (st.off ≠ 0)) (scanX p scan (st.off - 1)) x (halfWidth st.c)) := by
  unfold padLeft
  by_cases hc : st.off ≠ 0 ∧ scanX p scan (st.off - 1) > x - halfWidth st.c
  · rw [if_pos hc, gLv_pos (by simpa using hc)]
  · rw [if_neg hc, gLv_neg (by simpa using hc), mapX_id]

theorem padRight_eq (p : Pos) (scan : List Node) (st : Step) (x : Rat) :
    padRight p scan st x
      = p.mapX (gRv (decide (st.off + st.m < scan.length)) (scanX p scan (st.off + st.m)) x
          (halfWidth st.c)) := by
  unfold padRight
  by_cases hc : st.off + st.m < scan.length ∧ scanX p scan (st.off + st.m) < x + halfWidth st.c
  · rw [if_pos hc, gRv_pos (by simpa using hc)]
  · rw [if_neg hc, gRv_neg (by simpa using hc), mapX_id]

/-- Without a right neighbour the right pass is the identity, whatever it would have read. -/
theorem gRv_false (XR XR' x hw : Rat) : gRv false XR x hw = gRv false XR' x hw := by
  rw [gRv_neg (by simp), gRv_neg (by simp)]

theorem spacePos_cons (p : Pos) (v : Node) (scan : List Node) (st : Step) :
    spacePos p (v :: scan) st = padRight (padLeft p (v :: scan) st (xPos p (v :: scan) st))
      (v :: scan) st (xPos p (v :: scan) st) := rfl

theorem spacePos_eq {p : Pos} {scan : List Node} {st : Step}
    (has : ∀ v ∈ scan, ∃ x, p.x? v = some x) :
    spacePos p scan st = p.mapX (stepG p scan st) := by
  cases scan with
  | nil => exact (mapX_id p).symm
  | cons v scan =>
    rw [stepG_cons, spacePos_cons, padLeft_eq, padRight_eq, mapX_mapX]
    refine congrArg (Pos.mapX · p) (funext fun t => ?_)
    unfold gV
    by_cases hin : st.off + st.m < (v :: scan).length
    · rw [scanX_mapX _ has hin]
    · rw [decide_eq_false hin, gRv_false]

/-! ### 6. What `make_space` achieves, on the open wires -/

theorem stepG_expanding (p : Pos) (scan : List Node) (st : Step) : Expanding (stepG p scan st) := by
  cases scan with
  | nil => exact Expanding.id
  | cons v scan => exact (gRv_expanding _ _ _ _).comp (gLv_expanding _ _ _ _)

theorem halfWidth_ge (c : Nat) : 1 ≤ halfWidth c := by
  have : (0 : Rat) ≤ ((c - 1 : Nat) : Rat) := by exact_mod_cast Nat.zero_le _
  unfold halfWidth; grind

section
variable {p : Pos} {scan : List Node} {depth : Nat} {st : Step}

/-- Every open wire left of the box ends up at least `half_width` left of `x_pos`. -/
theorem stepG_left (h : Inv p scan depth) (hin : st.off + st.m ≤ scan.length) {j : Nat}
    (hj : j < st.off) :
    stepG p scan st (scanX p scan j) + halfWidth st.c ≤ spaceX p scan st := by
  have hlen : st.off - 1 < scan.length := by omega
  have hle := (stepG_expanding p scan st).mono (h.X_le (Nat.le_sub_one_of_lt hj) hlen)
  refine Rat.le_trans (Rat.add_le_add_right.mpr hle) ?_
  cases scan with
  | nil => cases hlen
  | cons v scan =>
    rw [stepG_cons, decide_eq_true (Nat.ne_zero_of_lt hj)]
    exact gV_left _ _ _ _ _ fun hd =>
      h.X_sep (show st.off - 1 < st.off + st.m by omega) (of_decide_eq_true hd)

/-- Every open wire right of the box ends up at least `half_width` right of `x_pos`. -/
theorem stepG_right (h : Inv p scan depth) {j : Nat}
    (hj1 : st.off + st.m ≤ j) (hj2 : j < scan.length) :
    spaceX p scan st + halfWidth st.c ≤ stepG p scan st (scanX p scan j) := by
  have hlen : st.off + st.m < scan.length := by omega
  refine Rat.le_trans ?_ ((stepG_expanding p scan st).mono (h.X_le hj1 hj2))
  cases scan with
  | nil => cases hlen
  | cons v scan =>
    rw [stepG_cons, decide_eq_true hlen]
    exact gRv_right _ _ _

/-- The wires the box consumes do not move. -/
theorem stepG_mid (h : Inv p scan depth) (hin : st.off + st.m ≤ scan.length) {i : Nat}
    (hi : i < st.m) :
    stepG p scan st (scanX p scan (st.off + i)) = scanX p scan (st.off + i) := by
  have hlen : st.off + i < scan.length := by omega
  cases scan with
  | nil => cases hlen
  | cons v scan =>
    rw [stepG_cons]
    exact gV_mid _ _ _ _ _ _ _
      (fun hd => h.X_lt (show st.off - 1 < st.off + i by have := of_decide_eq_true hd; omega) hlen)
      (fun hd => h.X_lt (Nat.add_lt_add_left hi st.off) (of_decide_eq_true hd))

end

/-! ### 7. One iteration of the loop -/

theorem mem_nextScan {scan : List Node} {st : Step} {d : Nat} {v : Node}
    (h : v ∈ nextScan scan st d) : v ∈ scan ∨ ∃ i, i < st.c ∧ codNode d i = v := by
  simp only [nextScan, List.mem_append, List.mem_map, List.mem_range] at h
  rcases h with (h | h) | h
  · exact Or.inl (List.mem_of_mem_take h)
  · exact Or.inr h
  · exact Or.inl (List.mem_of_mem_drop h)

/-- The nodes `add_box` inserts for box `depth`. -/
def stepNodes (st : Step) (depth : Nat) : List Node :=
  [boxNode depth] ++ (List.range st.m).map (domNode depth) ++ (List.range st.c).map (codNode depth)

theorem keys_boxPlaced (p : Pos) (scan : List Node) (st : Step) (n depth : Nat) (x : Rat) :
    keys (boxPlaced p scan st n depth x) = stepNodes st depth := by
  simp [keys, boxPlaced, stepNodes, Function.comp_def]

theorem mem_boxPlaced {p : Pos} {scan : List Node} {st : Step} {n depth : Nat} {x : Rat}
    {q : Placed} :
    q ∈ boxPlaced p scan st n depth x ↔
      q = ⟨boxNode depth, x, boxY n depth⟩
      ∨ (∃ i, i < st.m ∧ ⟨domNode depth i, scanX p scan (st.off + i), domY n depth⟩ = q)
      ∨ (∃ i, i < st.c ∧ ⟨codNode depth i, codX p scan st x i, codY n depth⟩ = q) := by
  simp only [boxPlaced, List.mem_append, List.mem_singleton, List.mem_map, List.mem_range, or_assoc]

theorem nodup_map_range (f : Nat → Node) (hf : ∀ i j, i < j → f i ≠ f j) (n : Nat) :
    ((List.range n).map f).Nodup := by
  rw [List.Nodup, List.pairwise_map]
  exact List.pairwise_lt_range.imp (fun h => hf _ _ h)

theorem mem_stepNodes {st : Step} {depth : Nat} {v : Node} :
    v ∈ stepNodes st depth ↔
      v = boxNode depth ∨ (∃ i, i < st.m ∧ domNode depth i = v) ∨ (∃ i, i < st.c ∧ codNode depth i = v) := by
  simp only [stepNodes, List.mem_append, List.mem_singleton, List.mem_map, List.mem_range, or_assoc]

theorem stepNodes_nodup (st : Step) (depth : Nat) : (stepNodes st depth).Nodup := by
  unfold stepNodes
  rw [List.nodup_append, List.nodup_append]
  refine ⟨⟨by simp, nodup_map_range _ (fun i j h => by simp [domNode]; omega) _, ?_⟩,
    nodup_map_range _ (fun i j h => by simp [codNode]; omega) _, ?_⟩
  · intro a ha b hb
    simp only [List.mem_singleton] at ha
    simp only [List.mem_map] at hb
    obtain ⟨i, -, rfl⟩ := hb
    subst ha; simp [boxNode, domNode]
  · intro a ha b hb
    simp only [List.mem_append, List.mem_singleton, List.mem_map] at ha hb
    obtain ⟨j, -, rfl⟩ := hb
    rcases ha with rfl | ⟨i, -, rfl⟩ <;> simp [boxNode, domNode, codNode]

theorem stepNodes_new {st : Step} {depth : Nat} {v : Node} (h : v ∈ stepNodes st depth) :
    v.kind ≠ .input ∧ v.kind ≠ .output ∧ v.depth = depth := by
  rcases mem_stepNodes.mp h with rfl | ⟨i, -, rfl⟩ | ⟨i, -, rfl⟩ <;> simp [boxNode, domNode, codNode]

/-- The `pos` dict after one iteration. -/
def stepPos (n : Nat) (p : Pos) (scan : List Node) (depth : Nat) (st : Step) : Pos :=
  spacePos p scan st ++ boxPlaced (spacePos p scan st) scan st n depth (spaceX p scan st)

/-- `p'` extends `p`: every gap and every vertical alignment of `p` still holds in `p'`. -/
def Pos.le (p p' : Pos) : Prop :=
  (∀ g a b, 0 ≤ g → p.sep g a b → p'.sep g a b) ∧ (∀ a b, p.eqx a b → p'.eqx a b)

theorem Pos.le.refl (p : Pos) : p.le p := ⟨fun _ _ _ _ h => h, fun _ _ h => h⟩

theorem Pos.le.trans {p q r : Pos} (h1 : p.le q) (h2 : q.le r) : p.le r :=
  ⟨fun g a b hg h => h2.1 g a b hg (h1.1 g a b hg h), fun a b h => h2.2 a b (h1.2 a b h)⟩

theorem Pos.le.mapX_append (p : Pos) {f : Rat → Rat} (hf : Expanding f) (q : Pos) :
    p.le (p.mapX f ++ q) :=
  ⟨fun _ _ _ hg h => (h.mapX hf hg).append q, fun _ _ h => (h.mapX f).append q⟩

theorem Pos.le.sep1 {p p' : Pos} (h : p.le p') {a b : Node} (hab : p.sep 1 a b) : p'.sep 1 a b :=
  h.1 1 a b (by decide) hab

section
variable {p : Pos} {scan : List Node} {depth : Nat} {st : Step} (n : Nat)

theorem stepPos_eq (h : Inv p scan depth) :
    stepPos n p scan depth st = p.mapX (stepG p scan st)
      ++ boxPlaced (p.mapX (stepG p scan st)) scan st n depth (spaceX p scan st) := by
  unfold stepPos; rw [spacePos_eq h.has]

theorem step_le (h : Inv p scan depth) : p.le (stepPos n p scan depth st) := by
  rw [stepPos_eq n h]; exact Pos.le.mapX_append p (stepG_expanding p scan st) _

theorem keys_stepPos (h : Inv p scan depth) :
    keys (stepPos n p scan depth st) = keys p ++ stepNodes st depth := by
  rw [stepPos_eq n h, keys_append, keys_mapX, keys_boxPlaced]

theorem step_nodup (h : Inv p scan depth) : (keys (stepPos n p scan depth st)).Nodup := by
  rw [keys_stepPos n h, List.nodup_append]
  refine ⟨h.nodup, stepNodes_nodup _ _, ?_⟩
  intro a ha b hb e
  subst e
  have hn := stepNodes_new hb
  rcases h.old a ha with h1 | ⟨_, _, h3⟩
  · exact hn.1 h1
  · omega

theorem step_old (h : Inv p scan depth) :
    ∀ v ∈ keys (stepPos n p scan depth st), Old (depth + 1) v := by
  intro v hv
  rw [keys_stepPos n h, List.mem_append] at hv
  rcases hv with hv | hv
  · rcases h.old v hv with h1 | ⟨h1, h2, h3⟩
    · exact Or.inl h1
    · exact Or.inr ⟨h1, h2, by omega⟩
  · have hn := stepNodes_new hv
    exact Or.inr ⟨hn.2.1, hn.1, by omega⟩

/-- Coordinates after the iteration: old open wires. -/
theorem step_x?_scan (h : Inv p scan depth) {j : Nat} (hj : j < scan.length) :
    (stepPos n p scan depth st).x? scan[j] = some (stepG p scan st (scanX p scan j)) := by
  rw [stepPos_eq n h]
  apply x?_append_of_some
  rw [x?_mapX, scanX_of_has h.has hj]; rfl

theorem step_x?_new (h : Inv p scan depth) {q : Placed}
    (hq : q ∈ boxPlaced (p.mapX (stepG p scan st)) scan st n depth (spaceX p scan st)) :
    (stepPos n p scan depth st).x? q.node = some q.x :=
  x?_of_mem (step_nodup n h) (by rw [stepPos_eq n h]; exact List.mem_append_right _ hq)

theorem step_x?_dom (h : Inv p scan depth) (hin : st.off + st.m ≤ scan.length) {i : Nat}
    (hi : i < st.m) :
    (stepPos n p scan depth st).x? (domNode depth i)
      = some (stepG p scan st (scanX p scan (st.off + i))) := by
  have := step_x?_new n h (mem_boxPlaced.mpr (Or.inr (Or.inl ⟨i, hi, rfl⟩)))
  rwa [scanX_mapX _ h.has (by omega)] at this

theorem step_x?_cod (h : Inv p scan depth) {i : Nat} (hi : i < st.c) :
    (stepPos n p scan depth st).x? (codNode depth i)
      = some (codX (p.mapX (stepG p scan st)) scan st (spaceX p scan st) i) :=
  step_x?_new n h (q := ⟨codNode depth i, _, codY n depth⟩)
    (mem_boxPlaced.mpr (Or.inr (Or.inr ⟨i, hi, rfl⟩)))

end

/-! ### 8. The new nodes sit inside the gap `make_space` opened -/

/-- `xv` is at least one unit right of every open wire left of the box and at least one unit
    left of every open wire right of it (positions after `make_space`). -/
def InGap (p : Pos) (scan : List Node) (st : Step) (xv : Rat) : Prop :=
  (∀ j, j < st.off → stepG p scan st (scanX p scan j) + 1 ≤ xv) ∧
  (∀ j, st.off + st.m ≤ j → j < scan.length → xv + 1 ≤ stepG p scan st (scanX p scan j))

section
variable {p : Pos} {scan : List Node} {depth : Nat} {st : Step} (n : Nat)

theorem inGap_mid (h : Inv p scan depth) (hin : st.off + st.m ≤ scan.length) {i : Nat}
    (hi : i < st.m) : InGap p scan st (stepG p scan st (scanX p scan (st.off + i))) :=
  ⟨fun j hj => (stepG_expanding p scan st).sep1
      (h.X_sep (show j < st.off + i by omega) (by omega)),
   fun j h1 h2 => (stepG_expanding p scan st).sep1 (h.X_sep (show st.off + i < j by omega) h2)⟩

/-- A port at `x - w/2 + i` with `0 ≤ i ≤ w` is within `w/2` of the centre `x`, so whatever is
    `w/2 + 1` (the half width) away from the centre is at least one unit away from the port. -/
theorem port_near {x w i : Rat} (h0 : 0 ≤ i) (h1 : i ≤ w) (s : Rat) :
    (s + (w / 2 + 1) ≤ x → s + 1 ≤ x - w / 2 + i) ∧ (x + (w / 2 + 1) ≤ s → x - w / 2 + i + 1 ≤ s) :=
  ⟨fun h => by grind, fun h => by grind⟩

theorem inGap_cod (h : Inv p scan depth) (hin : st.off + st.m ≤ scan.length) {i : Nat}
    (hi : i < st.c) :
    InGap p scan st (codX (p.mapX (stepG p scan st)) scan st (spaceX p scan st) i) := by
  unfold codX
  by_cases hmc : st.m = st.c
  · rw [if_pos hmc, scanX_mapX _ h.has (by omega)]
    exact inGap_mid h hin (by omega)
  · rw [if_neg hmc]
    have h0 : (0 : Rat) ≤ (i : Rat) := by exact_mod_cast Nat.zero_le _
    have h1 : (i : Rat) ≤ ((st.c - 1 : Nat) : Rat) := by
      exact_mod_cast (show i ≤ st.c - 1 by omega)
    exact ⟨fun j hj => (port_near h0 h1 _).1 (stepG_left h hin hj),
      fun j hj1 hj2 => (port_near h0 h1 _).2 (stepG_right h hj1 hj2)⟩

/-- Every node of the new box is placed, inside the gap. -/
theorem step_new_inGap (h : Inv p scan depth) (hin : st.off + st.m ≤ scan.length) {v : Node}
    (hv : v ∈ stepNodes st depth) :
    ∃ xv, (stepPos n p scan depth st).x? v = some xv ∧ InGap p scan st xv := by
  rcases mem_stepNodes.mp hv with rfl | ⟨i, hi, rfl⟩ | ⟨i, hi, rfl⟩
  · exact ⟨_, step_x?_new n h (q := ⟨boxNode depth, spaceX p scan st, boxY n depth⟩)
      (mem_boxPlaced.mpr (Or.inl rfl)),
      fun _ hj => add_le_of_le (halfWidth_ge st.c) (stepG_left h hin hj),
      fun _ h1 h2 => add_le_of_le (halfWidth_ge st.c) (stepG_right h h1 h2)⟩
  · exact ⟨_, step_x?_dom n h hin hi, inGap_mid h hin hi⟩
  · exact ⟨_, step_x?_cod n h hi, inGap_cod h hin hi⟩

/-- What one iteration establishes about the box it adds (all in the NEW positions). -/
structure StepFacts (p' : Pos) (scan : List Node) (st : Step) (depth : Nat) : Prop where
  /-- the open wires before the box are (still) at least one unit apart, in order -/
  sorted : scan.Pairwise (p'.sep 1)
  /-- box centre and every port: at least one unit right of every wire left of the box -/
  left : ∀ a ∈ scan.take st.off, ∀ v ∈ stepNodes st depth, p'.sep 1 a v
  /-- … and at least one unit left of every wire right of the box -/
  right : ∀ b ∈ scan.drop (st.off + st.m), ∀ v ∈ stepNodes st depth, p'.sep 1 v b
  /-- each consumed wire enters its port vertically -/
  vertical : ∀ i, i < st.m → p'.eqx (scan.getD (st.off + i) default) (domNode depth i)

theorem StepFacts.mono {p' p'' : Pos} {scan : List Node} {st : Step} {depth : Nat}
    (hle : p'.le p'') (h : StepFacts p' scan st depth) : StepFacts p'' scan st depth :=
  ⟨h.sorted.imp hle.sep1, fun a ha v hv => hle.sep1 (h.left a ha v hv),
   fun b hb v hv => hle.sep1 (h.right b hb v hv), fun i hi => hle.2 _ _ (h.vertical i hi)⟩

theorem step_facts (h : Inv p scan depth) (hin : st.off + st.m ≤ scan.length) :
    StepFacts (stepPos n p scan depth st) scan st depth := by
  refine ⟨h.sorted.imp (step_le n h).sep1, ?_, ?_, ?_⟩
  · intro a ha v hv
    obtain ⟨xv, hx, hg⟩ := step_new_inGap n h hin hv
    obtain ⟨j, hj, rfl⟩ := List.mem_take_iff_getElem.mp ha
    exact ⟨_, xv, step_x?_scan n h (by omega), hx, hg.1 j (by omega)⟩
  · intro b hb v hv
    obtain ⟨xv, hx, hg⟩ := step_new_inGap n h hin hv
    obtain ⟨j, hj, rfl⟩ := List.mem_drop_iff_getElem.mp hb
    exact ⟨xv, _, hx, step_x?_scan n h (by omega), hg.2 _ (Nat.le_add_right _ j) (by omega)⟩
  · intro i hi
    have hl : st.off + i < scan.length := by omega
    rw [getD_eq hl]
    exact ⟨_, step_x?_scan n h hl, step_x?_dom n h hin hi⟩

/-- The new open wires (the box's codomain ports) are at least one unit apart. -/
theorem step_cod_sorted (h : Inv p scan depth) (hin : st.off + st.m ≤ scan.length) :
    ((List.range st.c).map (codNode depth)).Pairwise ((stepPos n p scan depth st).sep 1) := by
  rw [List.pairwise_map]
  refine List.pairwise_lt_range.imp_of_mem ?_
  intro i j hi hj hij
  have hi := List.mem_range.mp hi
  have hj := List.mem_range.mp hj
  refine ⟨_, _, step_x?_cod n h hi, step_x?_cod n h hj, ?_⟩
  unfold codX
  by_cases hmc : st.m = st.c
  · rw [if_pos hmc, if_pos hmc, scanX_mapX _ h.has (by omega), scanX_mapX _ h.has (by omega)]
    exact (stepG_expanding p scan st).sep1
      (h.X_sep (Nat.add_lt_add_left hij st.off) (by omega))
  · rw [if_neg hmc, if_neg hmc, Rat.add_assoc]
    exact Rat.add_le_add_left.mpr (by exact_mod_cast hij)

/-- The invariant is re-established for the scan `add_box` returns. -/
theorem step_inv (h : Inv p scan depth) (hin : st.off + st.m ≤ scan.length) :
    Inv (stepPos n p scan depth st) (nextScan scan st depth) (depth + 1) := by
  have hf := step_facts n h hin
  refine ⟨step_nodup n h, step_old n h, ?_, ?_⟩
  · intro v hv
    rcases mem_nextScan hv with hv | ⟨i, hi, rfl⟩
    · obtain ⟨j, hj, rfl⟩ := List.getElem_of_mem hv
      exact ⟨_, step_x?_scan n h hj⟩
    · exact ⟨_, step_x?_cod n h hi⟩
  · have hcod : ∀ v ∈ (List.range st.c).map (codNode depth), v ∈ stepNodes st depth := by
      intro v hv; simp only [stepNodes, List.mem_append]; exact Or.inr hv
    have hAB : (scan.take st.off ++ scan.drop (st.off + st.m)).Pairwise
        ((stepPos n p scan depth st).sep 1) := by
      refine List.Pairwise.sublist ?_ hf.sorted
      have := (List.Sublist.refl (scan.take st.off)).append
        (List.drop_sublist_drop_left scan (Nat.le_add_right st.off st.m))
      rwa [List.take_append_drop] at this
    rw [List.pairwise_append] at hAB
    simp only [nextScan]
    rw [List.pairwise_append, List.pairwise_append]
    refine ⟨⟨hAB.1, step_cod_sorted n h hin, fun a ha v hv => hf.left a ha v (hcod v hv)⟩,
      hAB.2.1, ?_⟩
    intro a ha b hb
    rcases List.mem_append.mp ha with ha | ha
    · exact hAB.2.2 a ha b hb
    · exact hf.right b hb a (hcod a ha)

end

/-! ### 9. The whole loop -/

theorem nextScan_length {scan : List Node} {st : Step} (depth : Nat)
    (hin : st.off + st.m ≤ scan.length) :
    (nextScan scan st depth).length = scan.length - st.m + st.c := by
  rw [nextScan, List.length_append, List.length_append, List.length_take_of_le (by omega),
    List.length_map, List.length_range, List.length_drop]
  omega

theorem Pos.le.append (p q : Pos) : p.le (p ++ q) :=
  ⟨fun _ _ _ _ h => h.append q, fun _ _ h => h.append q⟩

theorem scansFrom_zero (scan : List Node) (d : Nat) (steps : List Step) :
    (scansFrom scan d steps)[0]? = some scan := by
  cases steps <;> rfl

theorem scansFrom_length (scan : List Node) (d : Nat) (steps : List Step) :
    (scansFrom scan d steps).length = steps.length + 1 := by
  induction steps generalizing scan d with
  | nil => rfl
  | cons st r ih => simp [scansFrom, ih]

theorem run_scan (n : Nat) (steps : List Step) (s : St) (d : Nat) :
    (scansFrom s.scan d steps)[steps.length]? = some (run n s d steps).scan := by
  induction steps generalizing s d with
  | nil => rfl
  | cons st r ih => exact ih (step n s d st) (d + 1)

/-- The facts established by a run, in its FINAL positions, for each of its boxes. -/
theorem run_spec (n : Nat) (steps : List Step) (s : St) (depth out : Nat)
    (hinv : Inv s.pos s.scan depth) (hok : StepsOK s.scan.length steps out) :
    Inv (run n s depth steps).pos (run n s depth steps).scan (depth + steps.length)
    ∧ s.pos.le (run n s depth steps).pos
    ∧ (run n s depth steps).scan.length = out
    ∧ ∀ k st sc, steps[k]? = some st → (scansFrom s.scan depth steps)[k]? = some sc →
        st.off + st.m ≤ sc.length ∧ StepFacts (run n s depth steps).pos sc st (depth + k) := by
  induction steps generalizing s depth with
  | nil => exact ⟨hinv, Pos.le.refl _, hok, fun k st sc hk => by simp at hk⟩
  | cons st0 r ih =>
    obtain ⟨hin, hok'⟩ := hok
    obtain ⟨i1, i2, i3, i4⟩ := ih (step n s depth st0) (depth + 1) (step_inv n hinv hin)
      (by rw [show (step n s depth st0).scan = nextScan s.scan st0 depth from rfl,
        nextScan_length depth hin]; exact hok')
    refine ⟨?_, (step_le n hinv).trans i2, i3, ?_⟩
    · rwa [List.length_cons, ← Nat.add_assoc, Nat.add_right_comm]
    · intro k st sc hk hsc
      cases k with
      | zero =>
        cases hk; cases hsc
        exact ⟨hin, (step_facts n hinv hin).mono i2⟩
      | succ k =>
        rw [← Nat.add_assoc, Nat.add_right_comm]
        exact i4 k st sc hk hsc

/-! ### 10. The initial state -/

theorem nodup_inputs (k : Nat) : ((List.range k).map inputNode).Nodup :=
  nodup_map_range _ (fun i j h => by simp [inputNode]; omega) _

theorem keys_init (nIn n : Nat) : keys (initSt nIn n).pos = (List.range nIn).map inputNode := by
  simp [keys, initSt, Function.comp_def]

theorem init_x? (nIn n : Nat) {i : Nat} (hi : i < nIn) :
    (initSt nIn n).pos.x? (inputNode i) = some (i : Rat) :=
  x?_of_mem (q := ⟨inputNode i, (i : Rat), topY n⟩) (by rw [keys_init]; exact nodup_inputs _)
    (List.mem_map.mpr ⟨i, List.mem_range.mpr hi, rfl⟩)

theorem init_inv (nIn n : Nat) : Inv (initSt nIn n).pos (initSt nIn n).scan 0 := by
  refine ⟨by rw [keys_init]; exact nodup_inputs _, ?_, ?_, ?_⟩
  · intro v hv
    rw [keys_init] at hv
    obtain ⟨i, -, rfl⟩ := List.mem_map.mp hv
    exact Or.inl rfl
  · intro v hv
    obtain ⟨i, hi, rfl⟩ := List.mem_map.mp hv
    exact ⟨_, init_x? nIn n (List.mem_range.mp hi)⟩
  · show ((List.range nIn).map inputNode).Pairwise _
    rw [List.pairwise_map]
    refine List.pairwise_lt_range.imp_of_mem ?_
    intro i j hi hj hij
    refine ⟨_, _, init_x? nIn n (List.mem_range.mp hi), init_x? nIn n (List.mem_range.mp hj), ?_⟩
    exact_mod_cast hij

/-! ### 11. The graph `diagram2nx` returns -/

/-- The state after the last box. -/
def finalSt (sh : Shape) : St := run sh.steps.length (initSt sh.nIn sh.steps.length) 0 sh.steps

theorem layout_nodes (sh : Shape) :
    (layout sh).nodes = (finalSt sh).pos ++ outPlaced (finalSt sh).pos (finalSt sh).scan sh.nOut := rfl

theorem layout_scans (sh : Shape) :
    (layout sh).scans = scansFrom ((List.range sh.nIn).map inputNode) 0 sh.steps := rfl

theorem final_le_layout (sh : Shape) : (finalSt sh).pos.le (layout sh).nodes := by
  rw [layout_nodes]; exact Pos.le.append _ _

theorem final_spec (sh : Shape) (h : sh.WF) :
    Inv (finalSt sh).pos (finalSt sh).scan sh.steps.length
    ∧ (finalSt sh).scan.length = sh.nOut
    ∧ ∀ k st sc, sh.steps[k]? = some st → (layout sh).scans[k]? = some sc →
        st.off + st.m ≤ sc.length ∧ StepFacts (layout sh).nodes sc st k := by
  obtain ⟨h1, -, h3, h4⟩ := run_spec sh.steps.length sh.steps (initSt sh.nIn sh.steps.length) 0
    sh.nOut (init_inv _ _) (by simpa [initSt, Shape.WF] using h)
  rw [Nat.zero_add] at h1
  refine ⟨h1, h3, fun k st sc hst hsc => ?_⟩
  have := h4 k st sc hst hsc
  rw [Nat.zero_add] at this
  exact ⟨this.1, this.2.mono (final_le_layout sh)⟩

theorem keys_outPlaced (p : Pos) (scan : List Node) (k : Nat) :
    keys (outPlaced p scan k) = (List.range k).map outputNode := by
  simp [keys, outPlaced, Function.comp_def]

theorem layout_nodup (sh : Shape) (h : sh.WF) : (keys (layout sh).nodes).Nodup := by
  obtain ⟨hinv, -⟩ := final_spec sh h
  rw [layout_nodes, keys_append, keys_outPlaced, List.nodup_append]
  refine ⟨hinv.nodup, nodup_map_range _ (fun i j h => by simp [outputNode]; omega) _, ?_⟩
  intro a ha b hb e
  obtain ⟨i, -, rfl⟩ := List.mem_map.mp hb
  subst e
  have := hinv.old _ ha
  simp [Old, outputNode] at this

theorem layout_scans_length (sh : Shape) : (layout sh).scans.length = sh.steps.length + 1 := by
  rw [layout_scans, scansFrom_length]

theorem final_scan_eq (sh : Shape) :
    (layout sh).scans[sh.steps.length]? = some (finalSt sh).scan :=
  run_scan sh.steps.length sh.steps (initSt sh.nIn sh.steps.length) 0

theorem layout_scans_get {sh : Shape} {k : Nat} {st : Step} (h : sh.steps[k]? = some st) :
    ∃ sc, (layout sh).scans[k]? = some sc :=
  ⟨_, List.getElem?_eq_getElem (by rw [layout_scans_length]; exact Nat.lt_succ_of_lt (getElem?_lt h))⟩

/-- At every height the open wires are at least one unit apart, in scan order. -/
theorem layout_scans_sorted (sh : Shape) (h : sh.WF) :
    ∀ s ∈ (layout sh).scans, s.Pairwise ((layout sh).nodes.sep 1) := by
  intro s hs
  obtain ⟨hinv, -, hfacts⟩ := final_spec sh h
  obtain ⟨k, hk⟩ := List.mem_iff_getElem?.mp hs
  by_cases hkn : k < sh.steps.length
  · exact (hfacts k _ s (List.getElem?_eq_getElem hkn) hk).2.sorted
  · have hk' : k = sh.steps.length := by
      have := getElem?_lt hk; rw [layout_scans_length] at this; omega
    rw [hk', final_scan_eq] at hk
    cases hk
    exact hinv.sorted.imp (final_le_layout sh).sep1

/-- In the returned graph, for box `k` and the open wires `sc` it meets: its offset is in range,
    and what its iteration established (`StepFacts`: `sc` still sorted, centre and ports at least
    one unit from every wire to the left and to the right, consumed wires vertical) still holds. -/
theorem layout_box_between (sh : Shape) (h : sh.WF) (k : Nat) (st : Step) (sc : List Node)
    (hst : sh.steps[k]? = some st) (hsc : (layout sh).scans[k]? = some sc) :
    st.off + st.m ≤ sc.length ∧ StepFacts (layout sh).nodes sc st k :=
  (final_spec sh h).2.2 k st sc hst hsc

/-- Each output hangs vertically below the open wire it closes. -/
theorem layout_output_vertical (sh : Shape) (h : sh.WF) {i : Nat} (hi : i < sh.nOut) :
    (layout sh).nodes.eqx ((finalSt sh).scan.getD i default) (outputNode i) := by
  obtain ⟨hinv, hlen, -⟩ := final_spec sh h
  have hl : i < (finalSt sh).scan.length := by rw [hlen]; exact hi
  rw [getD_eq hl]
  refine ⟨_, ?_, x?_of_mem (q := ⟨outputNode i, scanX (finalSt sh).pos (finalSt sh).scan i, 0⟩)
    (layout_nodup sh h)
    (List.mem_append_right _ (List.mem_map.mpr ⟨i, List.mem_range.mpr hi, rfl⟩))⟩
  rw [layout_nodes]
  exact x?_append_of_some _ (scanX_of_has hinv.has hl)

/-! ### 12. Census of nodes and edges (no hypothesis on the shape) -/

theorem spacePos_mapX (p : Pos) (scan : List Node) (st : Step) :
    ∃ f, spacePos p scan st = p.mapX f := by
  unfold spacePos
  by_cases he : scan.isEmpty
  · exact ⟨fun t => t, by rw [if_pos he, mapX_id]⟩
  · rw [if_neg he, padLeft_eq, padRight_eq, mapX_mapX]; exact ⟨_, rfl⟩

theorem keys_spacePos (p : Pos) (scan : List Node) (st : Step) :
    keys (spacePos p scan st) = keys p := by
  obtain ⟨f, hf⟩ := spacePos_mapX p scan st
  rw [hf, keys_mapX]

/-- The nodes inserted for boxes `depth, depth+1, …`. -/
def nodesFrom : Nat → List Step → List Node
  | _, [] => []
  | depth, st :: r => stepNodes st depth ++ nodesFrom (depth + 1) r

/-- The edges inserted for boxes `depth, depth+1, …`, starting from the open wires `scan`. -/
def edgesFrom : List Node → Nat → List Step → List (Node × Node)
  | _, _, [] => []
  | scan, depth, st :: r => boxEdges scan st depth ++ edgesFrom (nextScan scan st depth) (depth + 1) r

theorem run_keys (n : Nat) (steps : List Step) (s : St) (d : Nat) :
    keys (run n s d steps).pos = keys s.pos ++ nodesFrom d steps := by
  induction steps generalizing s d with
  | nil => simp [run, nodesFrom]
  | cons st r ih =>
    simp only [run, nodesFrom]
    rw [ih]
    simp [step, keys_spacePos, keys_boxPlaced]

theorem run_edges (n : Nat) (steps : List Step) (s : St) (d : Nat) :
    (run n s d steps).edges = s.edges ++ edgesFrom s.scan d steps := by
  induction steps generalizing s d with
  | nil => simp [run, edgesFrom]
  | cons st r ih =>
    simp only [run, edgesFrom]
    rw [ih]
    simp [step]

/-- All nodes of the graph, in insertion order. -/
def allNodes (sh : Shape) : List Node :=
  (List.range sh.nIn).map inputNode ++ nodesFrom 0 sh.steps ++ (List.range sh.nOut).map outputNode

theorem layout_keys (sh : Shape) : keys (layout sh).nodes = allNodes sh := by
  rw [layout_nodes, keys_append, keys_outPlaced, finalSt, run_keys, keys_init, allNodes]

theorem stepNodes_length (st : Step) (d : Nat) : (stepNodes st d).length = 1 + st.m + st.c := by
  simp only [stepNodes, List.length_append, List.length_cons, List.length_nil, List.length_map,
    List.length_range, Nat.zero_add]

theorem nodesFrom_length (d : Nat) (steps : List Step) :
    (nodesFrom d steps).length = (steps.map (fun st => 1 + st.m + st.c)).sum := by
  induction steps generalizing d with
  | nil => rfl
  | cons st r ih =>
    rw [nodesFrom, List.length_append, ih, stepNodes_length, List.map_cons, List.sum_cons]

theorem layout_edges (sh : Shape) :
    (layout sh).edges = edgesFrom ((List.range sh.nIn).map inputNode) 0 sh.steps
      ++ outEdges (finalSt sh).scan sh.nOut := by
  show (finalSt sh).edges ++ _ = _
  rw [finalSt, run_edges]; rfl

theorem boxEdges_length (scan : List Node) (st : Step) (d : Nat) :
    (boxEdges scan st d).length = 2 * st.m + st.c := by
  simp [boxEdges, List.length_flatten, Function.comp_def, List.map_const', List.sum_replicate_nat,
    Nat.mul_comm]

theorem edgesFrom_length (scan : List Node) (d : Nat) (steps : List Step) :
    (edgesFrom scan d steps).length = (steps.map (fun st => 2 * st.m + st.c)).sum := by
  induction steps generalizing scan d with
  | nil => rfl
  | cons st r ih =>
    rw [edgesFrom, List.length_append, ih, boxEdges_length, List.map_cons, List.sum_cons]

/-- Two edges per domain port, one per codomain port, one per output. -/
theorem layout_edges_length (sh : Shape) :
    (layout sh).edges.length = (sh.steps.map (fun st => 2 * st.m + st.c)).sum + sh.nOut := by
  rw [layout_edges]; simp [edgesFrom_length, outEdges]

theorem mem_nodesFrom {d : Nat} {steps : List Step} {k : Nat} {st : Step} {v : Node}
    (hk : steps[k]? = some st) (hv : v ∈ stepNodes st (d + k)) : v ∈ nodesFrom d steps := by
  induction steps generalizing d k with
  | nil => simp at hk
  | cons st0 r ih =>
    cases k with
    | zero => cases hk; exact List.mem_append_left _ hv
    | succ k =>
      exact List.mem_append_right _ (ih (d := d + 1) hk (by rwa [Nat.add_right_comm d 1 k]))

theorem mem_boxEdges {sc : List Node} {st : Step} {d : Nat} {e : Node × Node} :
    e ∈ boxEdges sc st d ↔
      (∃ i, i < st.m ∧ e = (sc.getD (st.off + i) default, domNode d i))
      ∨ (∃ i, i < st.m ∧ e = (domNode d i, boxNode d))
      ∨ (∃ i, i < st.c ∧ e = (boxNode d, codNode d i)) := by
  simp only [boxEdges, List.mem_append, List.mem_flatten, List.mem_map, List.mem_range]
  constructor
  · rintro (⟨l, ⟨i, hi, rfl⟩, hel⟩ | ⟨i, hi, rfl⟩)
    · simp only [List.mem_cons, List.not_mem_nil, or_false] at hel
      rcases hel with rfl | rfl
      · exact Or.inl ⟨i, hi, rfl⟩
      · exact Or.inr (Or.inl ⟨i, hi, rfl⟩)
    · exact Or.inr (Or.inr ⟨i, hi, rfl⟩)
  · rintro (⟨i, hi, rfl⟩ | ⟨i, hi, rfl⟩ | ⟨i, hi, rfl⟩)
    · exact Or.inl ⟨_, ⟨i, hi, rfl⟩, by simp⟩
    · exact Or.inl ⟨_, ⟨i, hi, rfl⟩, by simp⟩
    · exact Or.inr ⟨i, hi, rfl⟩

theorem mem_edgesFrom {scan : List Node} {d : Nat} {steps : List Step} {e : Node × Node} :
    e ∈ edgesFrom scan d steps ↔
      ∃ k st sc, steps[k]? = some st ∧ (scansFrom scan d steps)[k]? = some sc
        ∧ e ∈ boxEdges sc st (d + k) := by
  induction steps generalizing scan d with
  | nil => simp [edgesFrom]
  | cons st0 r ih =>
    simp only [edgesFrom, List.mem_append, ih]
    constructor
    · rintro (h | ⟨k, st, sc, h1, h2, h3⟩)
      · exact ⟨0, st0, scan, rfl, rfl, h⟩
      · exact ⟨k + 1, st, sc, h1, h2, by rwa [Nat.add_right_comm d 1 k] at h3⟩
    · rintro ⟨k, st, sc, h1, h2, h3⟩
      cases k with
      | zero => cases h1; cases h2; exact Or.inl h3
      | succ k => exact Or.inr ⟨k, st, sc, h1, h2, by rwa [Nat.add_right_comm d 1 k]⟩

/-! ### 13. Heights -/

/-- The height (in quarter-units) `diagram2nx` gives a node of a diagram with `n` boxes. -/
def yOf (n : Nat) (v : Node) : Int :=
  match v.kind with
  | .input => topY n
  | .output => 0
  | .box => boxY n v.depth
  | .dom => domY n v.depth
  | .cod => codY n v.depth

def YOk (n : Nat) (p : Pos) : Prop := ∀ q ∈ p, q.y = yOf n q.node

theorem YOk.mapX {n : Nat} {p : Pos} (f : Rat → Rat) (h : YOk n p) : YOk n (p.mapX f) := by
  intro q hq
  simp only [Pos.mapX, List.mem_map] at hq
  obtain ⟨q0, hq0, rfl⟩ := hq
  exact h q0 hq0

theorem YOk.append {n : Nat} {p q : Pos} (hp : YOk n p) (hq : YOk n q) : YOk n (p ++ q) := by
  intro r hr
  rcases List.mem_append.mp hr with h | h
  · exact hp r h
  · exact hq r h

theorem yOk_boxPlaced (n : Nat) (p : Pos) (scan : List Node) (st : Step) (d : Nat) (x : Rat) :
    YOk n (boxPlaced p scan st n d x) := by
  intro q hq
  rcases mem_boxPlaced.mp hq with rfl | ⟨i, -, rfl⟩ | ⟨i, -, rfl⟩ <;> rfl

theorem run_yOk (n : Nat) (steps : List Step) (s : St) (d : Nat) (h : YOk n s.pos) :
    YOk n (run n s d steps).pos := by
  induction steps generalizing s d with
  | nil => exact h
  | cons st r ih =>
    apply ih
    obtain ⟨f, hf⟩ := spacePos_mapX s.pos s.scan st
    show YOk n (spacePos s.pos s.scan st ++ _)
    exact YOk.append (by rw [hf]; exact h.mapX f) (yOk_boxPlaced _ _ _ _ _ _)

theorem layout_yOk (sh : Shape) : YOk sh.steps.length (layout sh).nodes := by
  rw [layout_nodes]
  refine YOk.append (run_yOk _ _ _ _ ?_) ?_
  · intro q hq
    simp only [initSt, List.mem_map, List.mem_range] at hq
    obtain ⟨i, -, rfl⟩ := hq; rfl
  · intro q hq
    simp only [outPlaced, List.mem_map, List.mem_range] at hq
    obtain ⟨i, -, rfl⟩ := hq; rfl

theorem y?_of_mem_keys {n : Nat} {p : Pos} (h : YOk n p) (hn : (keys p).Nodup) {v : Node}
    (hv : v ∈ keys p) : p.y? v = some (yOf n v) := by
  obtain ⟨q, hq, rfl⟩ := List.mem_map.mp hv
  rw [y?_of_mem hn hq, h q hq]

/-! ### 14. The edges reproduce the diagram's wiring

  `follow` is an independent description of the wiring: it keeps no list of open wires but walks
  UP from a type position through the boxes above it (most recent first) until it meets the
  codomain of a box or the top of the diagram. -/

def follow : List Step → Nat → Node
  | [], p => inputNode p
  | st :: earlier, p =>
    if p < st.off then follow earlier p
    else if p < st.off + st.c then codNode earlier.length (p - st.off)
    else follow earlier (p - st.c + st.m)

theorem scansFrom_succ {scan : List Node} {d : Nat} {steps : List Step} {k : Nat}
    {sc : List Node} {st : Step} (h1 : (scansFrom scan d steps)[k]? = some sc)
    (h2 : steps[k]? = some st) :
    (scansFrom scan d steps)[k + 1]? = some (nextScan sc st (d + k)) := by
  induction steps generalizing scan d k with
  | nil => simp at h2
  | cons st0 r ih =>
    cases k with
    | zero => cases h2; cases h1; exact scansFrom_zero _ _ _
    | succ k =>
      have := ih (scan := nextScan scan st0 d) (d := d + 1) h1 h2
      rwa [Nat.add_right_comm d 1 k] at this

theorem nextScan_getElem? {sc : List Node} {st : Step} (d : Nat) (hin : st.off ≤ sc.length)
    (p : Nat) :
    (nextScan sc st d)[p]? =
      if p < st.off then sc[p]?
      else if p < st.off + st.c then some (codNode d (p - st.off))
      else sc[p - st.c + st.m]? := by
  rw [nextScan, List.append_assoc, List.getElem?_append, List.length_take_of_le hin]
  by_cases h1 : p < st.off
  · rw [if_pos h1, if_pos h1, List.getElem?_take_of_lt h1]
  · rw [if_neg h1, if_neg h1, List.getElem?_append, List.length_map, List.length_range]
    by_cases h2 : p < st.off + st.c
    · have h3 : p - st.off < st.c := by omega
      rw [if_pos h3, if_pos h2, List.getElem?_map, List.getElem?_range h3]; rfl
    · rw [if_neg (by omega), if_neg h2, List.getElem?_drop]
      congr 1; omega

theorem take_succ_reverse {steps : List Step} {k : Nat} {st : Step} (h : steps[k]? = some st) :
    (steps.take (k + 1)).reverse = st :: (steps.take k).reverse := by
  rw [List.take_add_one, h]; simp

/-- Every open wire at every height is the node `follow` finds. -/
theorem scans_follow (sh : Shape) (h : sh.WF) :
    ∀ k sc, (layout sh).scans[k]? = some sc → ∀ p, p < sc.length →
      sc[p]? = some (follow ((sh.steps.take k).reverse) p) := by
  intro k
  induction k with
  | zero =>
    intro sc hsc p hp
    rw [layout_scans, scansFrom_zero] at hsc
    cases hsc
    simp only [List.length_map, List.length_range] at hp
    simp [follow, hp]
  | succ k ih =>
    intro sc' hsc' p hp
    have hk : k < sh.steps.length := by
      have := getElem?_lt hsc'; rw [layout_scans_length] at this; omega
    obtain ⟨st, hst⟩ : ∃ st, sh.steps[k]? = some st := ⟨_, List.getElem?_eq_getElem hk⟩
    obtain ⟨sc, hsc⟩ := layout_scans_get hst
    have hin := (layout_box_between sh h k st sc hst hsc).1
    have hnext := scansFrom_succ (by rw [← layout_scans]; exact hsc) hst
    rw [← layout_scans, hsc', Nat.zero_add] at hnext
    cases hnext
    rw [nextScan_length k hin] at hp
    rw [nextScan_getElem? k (by omega), take_succ_reverse hst, follow, List.length_reverse,
      List.length_take_of_le (Nat.le_of_lt hk)]
    by_cases h1 : p < st.off
    · rw [if_pos h1, if_pos h1]; exact ih sc hsc p (by omega)
    · rw [if_neg h1, if_neg h1]
      by_cases h2 : p < st.off + st.c
      · rw [if_pos h2, if_pos h2]
      · rw [if_neg h2, if_neg h2]; exact ih sc hsc _ (by omega)

theorem follow_wire (sh : Shape) (h : sh.WF) {k : Nat} {st : Step} {sc : List Node} {i : Nat}
    (h1 : sh.steps[k]? = some st) (h2 : (layout sh).scans[k]? = some sc) (hi : i < st.m) :
    sc.getD (st.off + i) default = follow ((sh.steps.take k).reverse) (st.off + i) := by
  have hin := (layout_box_between sh h k st sc h1 h2).1
  exact getD_of_getElem? (scans_follow sh h k sc h2 _ (by omega))

theorem follow_out (sh : Shape) (h : sh.WF) {i : Nat} (hi : i < sh.nOut) :
    (finalSt sh).scan.getD i default = follow sh.steps.reverse i := by
  have := scans_follow sh h _ _ (final_scan_eq sh) i (by rw [(final_spec sh h).2.1]; exact hi)
  rw [List.take_length] at this
  exact getD_of_getElem? this

/-- The edges of the graph, stated with `follow` instead of the scan lists. -/
inductive Wiring (sh : Shape) : Node × Node → Prop
  | wire (k : Nat) (st : Step) (i : Nat) : sh.steps[k]? = some st → i < st.m →
      Wiring sh (follow ((sh.steps.take k).reverse) (st.off + i), domNode k i)
  | domBox (k : Nat) (st : Step) (i : Nat) : sh.steps[k]? = some st → i < st.m →
      Wiring sh (domNode k i, boxNode k)
  | boxCod (k : Nat) (st : Step) (i : Nat) : sh.steps[k]? = some st → i < st.c →
      Wiring sh (boxNode k, codNode k i)
  | out (i : Nat) : i < sh.nOut → Wiring sh (follow sh.steps.reverse i, outputNode i)

theorem layout_edges_wiring (sh : Shape) (h : sh.WF) (e : Node × Node) :
    e ∈ (layout sh).edges ↔ Wiring sh e := by
  constructor
  · intro he
    rw [layout_edges, List.mem_append, mem_edgesFrom] at he
    rcases he with ⟨k, st, sc, h1, h2, h3⟩ | he
    · rw [Nat.zero_add] at h3
      rw [← layout_scans] at h2
      rcases mem_boxEdges.mp h3 with ⟨i, hi, rfl⟩ | ⟨i, hi, rfl⟩ | ⟨i, hi, rfl⟩
      · rw [follow_wire sh h h1 h2 hi]; exact .wire k st i h1 hi
      · exact .domBox k st i h1 hi
      · exact .boxCod k st i h1 hi
    · obtain ⟨i, hi, rfl⟩ := List.mem_map.mp he
      rw [follow_out sh h (List.mem_range.mp hi)]; exact .out i (List.mem_range.mp hi)
  · have hbox : ∀ {k st e}, sh.steps[k]? = some st →
        (∀ sc, (layout sh).scans[k]? = some sc → e ∈ boxEdges sc st k) → e ∈ (layout sh).edges := by
      intro k st e h1 he
      obtain ⟨sc, h2⟩ := layout_scans_get h1
      rw [layout_edges]
      exact List.mem_append_left _ (mem_edgesFrom.mpr ⟨k, st, sc, h1, by rw [← layout_scans]; exact h2,
        by rw [Nat.zero_add]; exact he sc h2⟩)
    rintro (⟨k, st, i, h1, hi⟩ | ⟨k, st, i, h1, hi⟩ | ⟨k, st, i, h1, hi⟩ | ⟨i, hi⟩)
    · exact hbox h1 fun sc h2 =>
        mem_boxEdges.mpr (Or.inl ⟨i, hi, by rw [follow_wire sh h h1 h2 hi]⟩)
    · exact hbox h1 fun _ _ => mem_boxEdges.mpr (Or.inr (Or.inl ⟨i, hi, rfl⟩))
    · exact hbox h1 fun _ _ => mem_boxEdges.mpr (Or.inr (Or.inr ⟨i, hi, rfl⟩))
    · rw [layout_edges]
      exact List.mem_append_right _
        (List.mem_map.mpr ⟨i, List.mem_range.mpr hi, by rw [follow_out sh h hi]⟩)

/-! ### 15. Wires are vertical, both ends of an edge are placed -/

theorem layout_wires_vertical (sh : Shape) (h : sh.WF) :
    ∀ e ∈ (layout sh).edges, (e.2.kind = .dom ∨ e.2.kind = .output) →
      (layout sh).nodes.eqx e.1 e.2 := by
  intro e he hk
  rcases (layout_edges_wiring sh h e).mp he with ⟨k, st, i, h1, hi⟩ | ⟨k, st, i, h1, hi⟩
      | ⟨k, st, i, h1, hi⟩ | ⟨i, hi⟩
  · obtain ⟨sc, h2⟩ := layout_scans_get h1
    rw [← follow_wire sh h h1 h2 hi]
    exact (layout_box_between sh h k st sc h1 h2).2.vertical i hi
  · simp [boxNode] at hk
  · simp [codNode] at hk
  · rw [← follow_out sh h hi]; exact layout_output_vertical sh h hi

theorem layout_edges_placed (sh : Shape) (h : sh.WF) :
    ∀ e ∈ (layout sh).edges, e.1 ∈ keys (layout sh).nodes ∧ e.2 ∈ keys (layout sh).nodes := by
  intro e he
  have hbox : ∀ {k st v}, sh.steps[k]? = some st → v ∈ stepNodes st k →
      v ∈ keys (layout sh).nodes := by
    intro k st v h1 hv
    rw [layout_keys, allNodes]
    exact List.mem_append_left _ (List.mem_append_right _
      (mem_nodesFrom h1 (by rw [Nat.zero_add]; exact hv)))
  have hwire : (e.2.kind = .dom ∨ e.2.kind = .output) →
      e.1 ∈ keys (layout sh).nodes ∧ e.2 ∈ keys (layout sh).nodes := fun hk =>
    let ⟨_, hxa, hxb⟩ := layout_wires_vertical sh h e he hk
    ⟨mem_keys_of_x? hxa, mem_keys_of_x? hxb⟩
  rcases (layout_edges_wiring sh h e).mp he with ⟨k, st, i, h1, hi⟩ | ⟨k, st, i, h1, hi⟩
      | ⟨k, st, i, h1, hi⟩ | ⟨i, hi⟩
  · exact hwire (Or.inl rfl)
  · exact ⟨hbox h1 (mem_stepNodes.mpr (Or.inr (Or.inl ⟨i, hi, rfl⟩))),
      hbox h1 (mem_stepNodes.mpr (Or.inl rfl))⟩
  · exact ⟨hbox h1 (mem_stepNodes.mpr (Or.inl rfl)),
      hbox h1 (mem_stepNodes.mpr (Or.inr (Or.inr ⟨i, hi, rfl⟩)))⟩
  · exact hwire (Or.inr rfl)

/-! ### 16. Every edge points down

  What `follow` finds is an input or a codomain port of one of the boxes it walked through. -/

def Open (depth : Nat) (v : Node) : Prop :=
  v.kind = .input ∨ (v.kind = .cod ∧ v.depth < depth)

theorem Open.mono {d d' : Nat} {v : Node} (h : Open d v) (hd : d ≤ d') : Open d' v :=
  h.imp id fun h => ⟨h.1, Nat.lt_of_lt_of_le h.2 hd⟩

theorem follow_open : ∀ (steps : List Step) (p : Nat), Open steps.length (follow steps p)
  | [], _ => Or.inl rfl
  | st :: earlier, p => by
    rw [follow]
    split
    · exact (follow_open earlier p).mono (Nat.le_succ _)
    · split
      · exact Or.inr ⟨rfl, Nat.lt_succ_self _⟩
      · exact (follow_open earlier _).mono (Nat.le_succ _)

theorem yOf_wire {n k : Nat} {a : Node} (ha : Open k a) (hk : k < n) (i : Nat) :
    yOf n (domNode k i) < yOf n a := by
  rcases ha with h1 | ⟨h1, h2⟩
  · simp only [yOf, h1, domNode, topY, domY]; split <;> omega
  · simp only [yOf, h1, domNode, codY, domY]; omega

theorem yOf_out {n : Nat} {a : Node} (ha : Open n a) (i : Nat) :
    yOf n (outputNode i) < yOf n a := by
  rcases ha with h1 | ⟨h1, h2⟩
  · simp only [yOf, h1, outputNode, topY]; split <;> omega
  · simp only [yOf, h1, outputNode, codY]; omega

theorem layout_edges_down (sh : Shape) (h : sh.WF) :
    ∀ e ∈ (layout sh).edges, ∃ ya yb, (layout sh).nodes.y? e.1 = some ya
      ∧ (layout sh).nodes.y? e.2 = some yb ∧ yb < ya := by
  intro e he
  obtain ⟨ha, hb⟩ := layout_edges_placed sh h e he
  refine ⟨_, _, y?_of_mem_keys (layout_yOk sh) (layout_nodup sh h) ha,
    y?_of_mem_keys (layout_yOk sh) (layout_nodup sh h) hb, ?_⟩
  rcases (layout_edges_wiring sh h e).mp he with ⟨k, st, i, h1, hi⟩ | ⟨k, st, i, h1, hi⟩
      | ⟨k, st, i, h1, hi⟩ | ⟨i, hi⟩
  · have hk := getElem?_lt h1
    have := follow_open ((sh.steps.take k).reverse) (st.off + i)
    rw [List.length_reverse, List.length_take_of_le (Nat.le_of_lt hk)] at this
    exact yOf_wire this hk i
  · simp only [yOf, domNode, boxNode, domY, boxY]; omega
  · simp only [yOf, codNode, boxNode, codY, boxY]; omega
  · have := follow_open sh.steps.reverse i
    rw [List.length_reverse] at this
    exact yOf_out this i

end DV.Layout
