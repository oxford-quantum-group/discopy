/-
  Proofs/Spiders.lean — lemmas about Model/Spiders.lean (`MatBackend.draw_spiders`).
  Core Lean only.
-/
import Model.Spiders

namespace DV.Spiders
open DV

/-! ### `pySet` is a set -/

theorem mem_pySet (a : Shape) (l : List Shape) : a ∈ pySet l ↔ a ∈ l := by
  induction l with
  | nil => simp [pySet]
  | cons x xs ih =>
    unfold pySet
    by_cases h : x ∈ pySet xs
    · simp only [h, if_true, List.mem_cons, ih]
      constructor
      · intro h'; exact Or.inr h'
      · intro h'; cases h' with
        | inl e => subst e; exact (ih.mp h)
        | inr h' => exact h'
    · simp only [h, if_false, List.mem_cons, ih]

theorem nodup_pySet (l : List Shape) : (pySet l).Nodup := by
  induction l with
  | nil => simp [pySet]
  | cons x xs ih =>
    unfold pySet
    by_cases h : x ∈ pySet xs
    · simp only [h, if_true]; exact ih
    · simp only [h, if_false]; exact List.nodup_cons.mpr ⟨h, ih⟩

/-! ### the loop never raises -/

theorem mem_shapesOf {ns : List BoxNode} {s : Shape} :
    s ∈ shapesOf ns ↔ ∃ n ∈ ns, n.shape = s := by
  unfold shapesOf
  rw [mem_pySet, List.mem_map]

theorem colorsOf_ne_nil {ns : List BoxNode} {s : Shape} (h : s ∈ shapesOf ns) :
    colorsOf ns s ≠ [] := by
  obtain ⟨n, hn, hs⟩ := mem_shapesOf.mp h
  intro hnil
  have : n ∈ colorsOf ns s := by
    unfold colorsOf
    exact List.mem_filter.mpr ⟨hn, by simp [hs]⟩
  rw [hnil] at this
  exact absurd this (List.not_mem_nil)

theorem drawCall_ok {ns : List BoxNode} {s : Shape} (h : s ∈ shapesOf ns) :
    drawCall ns s = .ok ⟨s, colorsOf ns s⟩ := by
  unfold drawCall
  have := colorsOf_ne_nil h
  cases hc : colorsOf ns s with
  | nil => exact absurd hc this
  | cons a as => simp

theorem drawCalls_ok (ns : List BoxNode) (ss : List Shape) (h : ∀ s ∈ ss, s ∈ shapesOf ns) :
    drawCalls ns ss = .ok (ss.map (fun s => ⟨s, colorsOf ns s⟩)) := by
  induction ss with
  | nil => rfl
  | cons s ss ih =>
    have h1 := drawCall_ok (h s (List.mem_cons_self ..))
    have h2 := ih (fun t ht => h t (List.mem_cons_of_mem _ ht))
    simp only [drawCalls, h1, h2, List.map_cons]

/-- `MatBackend.draw_spiders` never raises, and makes exactly the calls `calls g`. -/
theorem matSpiders_eq (g : List BoxNode) : matSpiders g = .ok (calls g) := by
  unfold matSpiders calls
  exact drawCalls_ok _ _ (fun s hs => hs)

/-! ### every spider is drawn exactly once -/

/-- Splitting a list by a key that is not among `ks`: first split off the nodes of shape `k`;
    the rest of those with a shape in `k :: ks` are those with a shape in `ks`. -/
theorem filter_key_cons_perm (l : List BoxNode) (k : Shape) (ks : List Shape) (hk : k ∉ ks) :
    (l.filter (fun n => n.shape ∈ k :: ks)).Perm
      (l.filter (fun n => n.shape == k) ++ l.filter (fun n => n.shape ∈ ks)) := by
  have h := (List.filter_append_perm (fun n : BoxNode => n.shape == k)
    (l.filter (fun n => n.shape ∈ k :: ks))).symm
  rw [List.filter_filter, List.filter_filter] at h
  have e1 : ∀ n : BoxNode, ((n.shape == k) && decide (n.shape ∈ k :: ks)) = (n.shape == k) := by
    intro n; by_cases hn : n.shape = k <;> simp [hn]
  have e2 : ∀ n : BoxNode,
      ((!(n.shape == k)) && decide (n.shape ∈ k :: ks)) = decide (n.shape ∈ ks) := by
    intro n; by_cases hn : n.shape = k <;> simp [hn, hk]
  simpa only [e1, e2] using h

theorem flatMap_groups_perm (l : List BoxNode) (ks : List Shape) (hks : ks.Nodup) :
    (ks.flatMap (fun k => colorsOf l k)).Perm (l.filter (fun n => n.shape ∈ ks)) := by
  induction ks with
  | nil => simp
  | cons k ks ih =>
    have hk : k ∉ ks := (List.nodup_cons.mp hks).1
    have ih' := ih (List.nodup_cons.mp hks).2
    rw [List.flatMap_cons]
    refine (List.Perm.append_left _ ih').trans ?_
    exact (filter_key_cons_perm l k ks hk).symm

end DV.Spiders
